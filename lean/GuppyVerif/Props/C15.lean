import GuppyVerif.Lemmas.C15
/-! # C15 — Overloaded calls pick the first applicable variant

Model: `Model/Overload.lean` (the repaired resolution loop, each attempt on a fresh copy of
the arguments, over a model of how a variant accepts a call: arity, left-to-right argument
checking with numeric widening nat→int→float, tuple literals element-wise, quantified
parameters, result-type match in checking position).  `exp = none` is synthesis position,
`exp = some ty` checking position.

All theorems but `accepts_scalar_iff` are about the resolution loop only: they use the model's `attempt`
as an opaque acceptance test (`accepts`/`direct` are defined from it) and do NOT establish that it is the
right one; for that there is `accepts_scalar_iff` (scalar fragment, against an independent widening
relation) and, beyond that fragment, only the tie (direct calls of each variant through the real checker). -/
namespace GuppyVerif.Overload

/-- **C15 (first match)**: the call resolves to variant `i` with outcome `o` (result type and
    checked argument types) **iff** `i` is the position of the first listed variant that
    accepts the arguments (and the expected result type), and `o` is what that variant's own
    check of the original arguments produces.  For all variant lists, argument lists and both
    positions. -/
theorem first_match (vs : List Variant) (args : List Arg) (exp : Option Ty)
    (i : Nat) (o : Outcome) :
    resolve vs args exp = some (i, o) ↔
      FirstAccepting (accepts · args exp) vs i ∧
        ∃ v, vs[i]? = some v ∧ direct v args exp = some o := by
  unfold resolve FirstAccepting direct
  rw [resolve_go_eq, firstSome_eq_some]
  simp only [Nat.zero_add, Option.map_eq_some_iff, Prod.mk.injEq, Option.map_eq_none_iff, accepts_eq_false_iff]
  constructor
  · rintro ⟨j, v, hv, ⟨_, hat, rfl, rfl⟩, hprev⟩
    exact ⟨⟨⟨v, hv, by unfold accepts; rw [hat]; rfl⟩, hprev⟩, v, hv, hat⟩
  · rintro ⟨⟨_, hprev⟩, v, hv, hat⟩
    exact ⟨i, v, hv, ⟨o, hat, rfl, rfl⟩, hprev⟩

/-- **C15 (rejected only when no variant accepts)**. -/
theorem reject_iff_none (vs : List Variant) (args : List Arg) (exp : Option Ty) :
    resolve vs args exp = none ↔ ∀ v, v ∈ vs → accepts v args exp = false := by
  simp only [resolve, resolve_go_eq_none_iff, accepts_eq_false_iff]

/-- **C15 (same as a direct call)**: whatever the overloaded call resolves to is literally
    the outcome of calling the chosen variant directly on the original arguments. -/
theorem same_as_direct (vs : List Variant) (args : List Arg) (exp : Option Ty)
    (i : Nat) (o : Outcome) (h : resolve vs args exp = some (i, o)) :
    ∃ v, vs[i]? = some v ∧ direct v args exp = some o :=
  ((first_match vs args exp i o).mp h).2

/-- **C15 (why the copy is needed, and that it suffices)**: the loop that reuses the argument
    objects agrees with the repaired loop whenever failed attempts leave the arguments as
    they were; mutation by failed attempts is the only way the two can differ. -/
theorem shared_eq_fresh_of_no_mutation (vs : List Variant) (args : List Arg) (exp : Option Ty)
    (h : ∀ v, v ∈ vs → (attempt v args exp).1 = none → (attempt v args exp).2 = args) :
    resolveShared vs args exp = resolve vs args exp := by
  unfold resolveShared resolve
  suffices ∀ k, resolveShared.go exp vs args k = resolve.go args exp vs k from this 0
  induction vs with
  | nil => intro k; rfl
  | cons v rest ih =>
    intro k
    unfold resolveShared.go resolve.go
    rcases hv : attempt v args exp with ⟨r, a⟩
    cases r with
    | some t => rfl
    | none =>
      have ha : a = args := by
        have := h v (List.mem_cons_self) (by rw [hv])
        rw [hv] at this; exact this
      subst ha
      exact ih (fun w hw => h w (List.mem_cons_of_mem _ hw)) (k + 1)

/-- the D8 witness: variants `(tuple[float, bool]) -> int` and `(tuple[int, int]) -> int`,
    call `ov((a, 2))` with `a : int` -/
def d8Variants : List Variant :=
  [.plain { params := [.tup [.float, .bool]], ret := .int }, .plain { params := [.tup [.int, .int]], ret := .int }]
def d8Args : List Arg := [.tup [.typed .int, .intLit false]]

/-- **D8 (the defect, on the pre-fix loop)**: reusing the argument objects violates the
    property — the second variant accepts the call directly, yet the shared loop rejects it
    (the failed first attempt has replaced the first tuple element by its `float` form).
    The repaired loop resolves it to variant 1. -/
theorem d8_shared_violates_first_match :
    resolveShared d8Variants d8Args none = none ∧
      accepts (.plain { params := [.tup [.int, .int]], ret := .int }) d8Args none = true ∧
        (resolve d8Variants d8Args none).map (·.1) = some 1 := by
  refine ⟨?_, ?_, ?_⟩ <;> decide

/-- **C15 ("whose signature accepts the arguments", scalar fragment)**: for variants and arguments
    of scalar type the model's acceptance test is the language's rule, stated independently in
    `Spec/C15.lean`: same number of arguments, every argument type widens to its parameter type
    along nat → int → float (never narrowing, bool and qubit only to themselves), and in checking
    position the result type is exactly the expected one.  For all lists, no size bound.
    (Tuples, literals, quantified and `@comptime` parameters are covered by the tie only.) -/
theorem accepts_scalar_iff (ps as : List Scalar) (ret : Scalar) (exp : Option Scalar) :
    accepts (.plain { params := ps.map Scalar.toTy, ret := ret.toTy })
        (as.map (fun a => Arg.typed a.toTy)) (exp.map Scalar.toTy) = true ↔
      AcceptsScalar ps ret as exp := by
  unfold accepts attempt attemptSig AcceptsScalar
  simp only [List.length_map]
  by_cases hlen : ps.length = as.length
  · have hca := checkArgs_scalar ps as hlen
    simp only [hlen, bne_self_eq_false, Bool.false_eq_true, ↓reduceIte]
    rcases hres : checkArgs [] (ps.map Scalar.toTy) [] (as.map (fun a => Arg.typed a.toTy)) with ⟨r, a'⟩
    rw [hres] at hca
    rw [hres]
    simp only at hca
    subst hca
    by_cases hall : AllWiden as ps
    · simp only [hall, ↓reduceIte, subst_scalar, closed_scalar, Bool.not_true, Bool.false_eq_true, true_and]
      cases exp with
      | none => simp
      | some e =>
        simp only [Option.map_some, beq_scalar, Option.some.injEq, forall_eq']
        by_cases he : e = ret <;> simp [he]
    · simp [hall]
  · have hne : (ps.length != as.length) = true := by simpa using hlen
    simp only [hne, ↓reduceIte, Option.isSome_none, Bool.false_eq_true, false_iff]
    rintro ⟨hw, _⟩
    exact hlen hw.length_eq

/-- **C15 (an overloaded function as a variant)**: it accepts exactly when one of its own
    variants accepts. -/
theorem nested_accepts_iff (ss : List Sig) (args : List Arg) (exp : Option Ty) :
    accepts (.nested ss) args exp = ss.any (fun s => accepts (.plain s) args exp) := by
  -- the loop over the signatures is the outer loop on them as plain variants (unfolded here, not in Lemmas/C15:
  -- `lean/theorems.lock.json` lists `resolveSigs.go.eq_def` under this module)
  have go : ∀ (ss : List Sig) (k : Nat),
      resolveSigs.go args exp ss k = resolve.go args exp (ss.map .plain) k := by
    intro ss
    induction ss with
    | nil => intro k; rfl
    | cons s rest ih => intro k; unfold resolveSigs.go; simp only [List.map_cons, resolve.go, attempt, ih]
  have : accepts (.nested ss) args exp = (resolveSigs ss args exp).isSome := by
    simp only [accepts, attempt]; cases resolveSigs ss args exp <;> rfl
  rw [this, resolveSigs, go, isSome_resolve_go, List.any_map]; rfl

/-- **C15 (ill-formed variants are never skipped)**: the call fails with the signature
    diagnostic of variant `i` iff `i` is ill-formed and every variant listed before it is
    well-formed and does not accept — i.e. exactly when the first-match search reaches it, as
    a direct call of that variant would fail. -/
theorem invalid_iff (vs : List Variant) (args : List Arg) (exp : Option Ty) (i : Nat) :
    resolveR vs args exp = .invalid i ↔
      (∃ v, vs[i]? = some v ∧ v.isInvalid = true) ∧
        ∀ j, j < i → ∀ w, vs[j]? = some w → w.isInvalid = false ∧ accepts w args exp = false := by
  -- the loop answers `invalid i` iff the first variant to answer at all is ill-formed and stands at `i`
  have key : ∀ r, (r : Option Resolution).getD .noMatch = .invalid i ↔ r = some (.invalid i) := by
    rintro (_ | r) <;> simp
  unfold resolveR
  rw [resolveR_go_eq, key, firstSome_eq_some]
  simp only [Nat.zero_add, accepts_eq_false_iff]
  constructor
  · rintro ⟨j, v, hv, hf, hprev⟩
    cases hi : v.isInvalid
    · rw [if_neg (by simp [hi])] at hf
      obtain ⟨_, _, h⟩ := Option.map_eq_some_iff.mp hf; cases h
    · rw [if_pos hi] at hf; cases hf
      refine ⟨⟨v, hv, hi⟩, fun j' hj' w hw => ?_⟩
      have := hprev j' hj' w hw
      cases hw' : w.isInvalid
      · rw [if_neg (by simp [hw'])] at this; exact ⟨rfl, Option.map_eq_none_iff.mp this⟩
      · rw [if_pos hw'] at this; cases this
  · rintro ⟨⟨v, hv, hi⟩, hprev⟩
    refine ⟨i, v, hv, by rw [if_pos hi], fun j' hj' w hw => ?_⟩
    obtain ⟨h1, h2⟩ := hprev j' hj' w hw
    rw [if_neg (by simp [h1]), h2]; rfl

/-- **C15 (well-formed sets)**: without ill-formed variants the full loop is the loop of
    `first_match` / `reject_iff_none`. -/
theorem resolveR_of_valid (vs : List Variant) (args : List Arg) (exp : Option Ty)
    (h : ∀ v, v ∈ vs → v.isInvalid = false) :
    resolveR vs args exp =
      match resolve vs args exp with
      | some (i, o) => .chosen i o
      | none => .noMatch :=
  resolveR_go_of_valid args exp vs 0 h


/-- `(float, int) -> int` accepts `(nat, int)`; `(nat) -> int` does not accept an `int`; a wrong
    expected type rejects -/
example : AcceptsScalar [.float, .int] .int [.nat, .int] none := ⟨.cons .natFloat (.cons (.refl _) .nil), by simp⟩
example : ¬ AcceptsScalar [.nat] .int [.int] none := by
  rintro ⟨h, _⟩; cases h with | cons h _ => cases h
example : ¬ AcceptsScalar [.int] .int [.int] (some .float) := by
  rintro ⟨_, h⟩; have := h .float rfl; cases this

/-- an ill-formed variant listed first is not skipped; listed after the accepting one it is never looked up -/
example : (match resolveR [.invalid, .plain { params := [.int], ret := .int }] [.typed .int] none with
    | .invalid 0 => true | _ => false) = true ∧
  (match resolveR [.plain { params := [.int], ret := .int }, .invalid] [.typed .int] none with
    | .chosen 0 _ => true | _ => false) = true := by decide

/-- checking position, first variant wants a compile-time `nat` and gets a runtime value
    (`ComptimeUnknownError`, not a type error): the second variant is chosen -/
example : (resolve [.plain { params := [.nat], comptime := [true], ret := .int },
                    .plain { params := [.nat], ret := .int }] [.typed .nat] (some .int)).map (·.1) = some 1 := by decide

/-- the same set with a literal: the comptime variant accepts -/
example : (resolve [.plain { params := [.nat], comptime := [true], ret := .int },
                    .plain { params := [.nat], ret := .int }] [.intLit false] (some .int)).map (·.1) = some 0 := by decide

/-- an inner overloaded function without a match, then a plain variant -/
example : (resolve [.nested [{ params := [.int], ret := .int }, { params := [.int, .int], ret := .int }],
                    .plain { params := [.int, .int, .int], ret := .int }]
            [.intLit false, .intLit false, .intLit false] (some .int)).map (·.1) = some 1 := by decide

/-- a variadic custom function listed first takes two `int`s -/
example : (resolve [.allInts, .plain { params := [.float, .float], ret := .int }]
            [.intLit false, .typed .int] none).map (·.1) = some 0 := by decide

/-- first variant fails on the second argument only (after a successful coercion of the
    first), second variant is chosen; synthesis position -/
example : (resolve [.plain { params := [.float, .bool], ret := .int }, .plain { params := [.int, .int], ret := .float }] [.typed .nat, .intLit false] none).map
    (fun r => (r.1, r.2.ret.beq .float)) = some (1, true) := by decide

/-- checking position: the first variant accepts the arguments but returns the wrong type -/
example : (resolve [.plain { params := [.int], ret := .int }, .plain { params := [.float], ret := .float }] [.intLit false] (some .float)).map (·.1) = some 1 := by
  decide

/-- generic variant `(T, T) -> T`: `(float, int)` is accepted (second argument widened), `(int, float)` is not -/
example : accepts (.plain { params := [.var 0, .var 0], ret := .var 0 }) [.typed .float, .typed .int] none = true ∧
    accepts (.plain { params := [.var 0, .var 0], ret := .var 0 }) [.typed .int, .typed .float] none = false := by decide

/-- no variant accepts -/
example : resolve [.plain { params := [.bool], ret := .int }, .plain { params := [.int, .int], ret := .int }] [.floatLit] none = none := by decide

end GuppyVerif.Overload
