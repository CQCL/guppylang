import GuppyVerif.Lemmas.C26
/-! # C26 — Loaded pytket circuits act like the circuit (wiring part)

`loadPytket c useArrays md outs` models
`guppy.load_pytket(name, circ, use_arrays=…)` followed by lowering: `c` holds the attributes read
from the pytket circuit, `md` the `TKET1.input_parameters` metadata of the converted circuit
function and `outs` its output port types.  The converted function's interface (qubits, bits,
parameters in metadata order → qubits, bits) is an assumption about `Tk2Circuit`
(`InnerOutsOk`, and the reading of call port `i` as circuit qubit `c.qubits[i]`); pytket's
listing order is the assumption `PytketView` (decided by `Circ.viewOk` on the real object at run
time).  All statements are for arbitrary circuits: any number/size of registers, bits, symbols. -/
namespace GuppyVerif.Pytket

/-- the run-time check `Circ.viewOk` establishes the assumption `PytketView` -/
theorem viewOk_sound (c : Circ) (h : c.viewOk = true) : PytketView c := by
  simp only [Circ.viewOk, Bool.and_eq_true] at h
  exact ⟨strictlyIncreasing_pairwise _ h.1.1.1, strictlyIncreasing_pairwise _ h.1.1.2,
    isSubseq_sublist _ _ h.1.2, isSubseq_sublist _ _ h.2⟩

/-- **C26 (qubits, individual arguments)**: the `i`-th passed qubit is a borrowed `qubit`
    argument, feeds input port `i` of the circuit function, comes back from output port `i` as the
    `i`-th qubit output (after the `n_bits` bools), and port `i` is the circuit qubit of
    lexicographic rank `i`. -/
theorem qubit_i_to_i (c : Circ) (md : Option (List String)) (outs : List PortTy) (sig : Sig)
    (w : Wiring) (hv : PytketView c) (ho : InnerOutsOk c outs)
    (h : loadPytket c false md outs = .ok (sig, w)) (i : Nat) (hi : i < c.nQubits) :
    sig.inputs[i]? = some ⟨.scalar .qubit, .inout⟩ ∧
    w.callArgs[i]? = some (.port (.input i)) ∧
    w.outputs[c.nBits + i]? = some (.wire (.call i)) ∧
    unitRank c.qubits (c.qubits[i]'hi) = i := by
  have l := loadPytket_flat h
  obtain ⟨ps, _, hargs⟩ := l.callArgs
  refine ⟨l.sig_eq ▸ (stubMatches_signatureFlat c).qubits i hi, ?_, ?_,
    unitRank_getElem c.qubits hv.qubits_sorted i hi⟩
  · rw [hargs, List.append_assoc]
    exact List.getElem?_map_range_append _ hi _
  · rw [l.outputs, List.getElem?_map, outWires_qubit ho hi]
    rfl

/-- **C26 (qubits, register arrays)**: element `e` of the `r`-th array argument is circuit qubit
    `name_r[e]`; it has lexicographic rank `i = size_0 + … + size_{r-1} + e` among the circuit's
    qubits, feeds input port `i` of the circuit function, and output port `i` is put back at
    element `e` of the `r`-th qubit array returned (after one array per bit register). -/
theorem qubit_i_to_i_arrays (c : Circ) (md : Option (List String)) (outs : List PortTy)
    (sig : Sig) (w : Wiring) (hv : PytketView c) (ho : InnerOutsOk c outs)
    (h : loadPytket c true md outs = .ok (sig, w))
    (r : Nat) (hr : r < c.qregs.length) (e : Nat) (he : e < c.qregs[r].size) :
    ∃ hi : flatPos (sizes c.qregs) r e < c.nQubits,
      sig.inputs[r]? = some ⟨.array .qubit c.qregs[r].size, .inout⟩ ∧
      w.callArgs[flatPos (sizes c.qregs) r e]? =
        some (.port (.unpack .qubit c.qregs[r].size r e)) ∧
      c.qubits[flatPos (sizes c.qregs) r e] = ⟨c.qregs[r].name, [e]⟩ ∧
      unitRank c.qubits ⟨c.qregs[r].name, [e]⟩ = flatPos (sizes c.qregs) r e ∧
      ∃ ls, w.outputs[c.cregs.length + r]? = some (.newArray .qubit c.qregs[r].size ls) ∧
        ls[e]? = some (.call (flatPos (sizes c.qregs) r e)) := by
  have l := loadPytket_arrays h
  obtain ⟨ps, _, hargs⟩ := l.callArgs
  obtain ⟨hi, hu, hrank⟩ :=
    unit_at_flatPos hv.qregs_sub hv.qubits_sorted l.qubits_total r hr e he
  refine ⟨hi, ?_, ?_, hu, hrank, ?_⟩
  · rw [l.inputs, List.getElem?_append_left (by simpa using hr), List.getElem?_map,
      List.getElem?_eq_getElem hr]
    rfl
  · rw [hargs, List.append_assoc,
      List.getElem?_append_left (by rw [unpackAll_length, l.qubits_total]; exact hi),
      unpackAll_getElem? c.qregs 0 r hr e he, Nat.zero_add]
  · obtain ⟨ls, hls, hel⟩ := packFrom_elem .qubit (outWires c outs) c.qregs (total c.cregs) r hr
    refine ⟨ls, ?_, ?_⟩
    · rw [l.outputs,
        List.getElem?_append_right (by rw [packFrom_length]; exact Nat.le_add_right ..),
        packFrom_length, Nat.add_sub_cancel_left]
      exact hls
    · rw [hel e he, l.bits_total]
      exact outWires_qubit ho hi

/-- **C26 (no qubit is left out)**: with arrays, every circuit qubit is an element of exactly the
    array the previous theorem speaks about. -/
theorem every_qubit_in_some_array (c : Circ) (md : Option (List String)) (outs : List PortTy)
    (sig : Sig) (w : Wiring) (h : loadPytket c true md outs = .ok (sig, w))
    (i : Nat) (hi : i < c.nQubits) :
    ∃ (r : Nat) (hr : r < c.qregs.length) (e : Nat),
      e < c.qregs[r].size ∧ flatPos (sizes c.qregs) r e = i :=
  exists_flatPos c.qregs i ((loadPytket_arrays h).qubits_total ▸ hi)

/-- **C26 (parameters)**: the circuit function's `j`-th parameter port (symbol `po[j]` of the
    metadata order) is fed, through `UnpackTuple`, by the parameter the caller passes in
    position `k` where `k` is the lexicographic rank of `po[j]` among all symbol names — i.e. the
    parameter passed in position `k` is bound to the symbol of rank `k`. -/
theorem param_by_lex_rank (c : Circ) (ua : Bool) (po : List String) (outs : List PortTy)
    (sig : Sig) (w : Wiring) (hn : po.Nodup) (hs : c.nSyms ≠ 0)
    (h : loadPytket c ua (some po) outs = .ok (sig, w)) :
    po.length = c.nSyms ∧
    ∀ (j : Nat) (hj : j < po.length),
      lexRank po po[j] < c.nSyms ∧
      w.callArgs[c.nQubits + c.nBits + j]? =
        some (.untuple (passedParam c ua (lexRank po po[j]))) := by
  obtain ⟨qs, ps, hq, hargs, hps⟩ := loadPytket_params hs h
  obtain ⟨hpo, rfl⟩ := wireParams_ok po hn _ c.nSyms ps hps
  refine ⟨hpo, fun j hj => ⟨hpo ▸ lexRank_lt_length (List.getElem_mem hj), ?_⟩⟩
  rw [hargs, ← hq, List.getElem?_append_right (Nat.le_add_right ..), Nat.add_sub_cancel_left,
    List.getElem?_map, List.getElem?_eq_getElem hj]
  rfl

/-- **C26 (outputs)**: in both modes the returned wires, arrays flattened, are one opaque bool
    per classical bit (made from the circuit function's bit outputs, in bit order) followed by
    the qubits (in qubit order); without arrays these are exactly the function's outputs and the
    declared return type is one `bool` per bit. -/
theorem outputs_bits_then_qubits (c : Circ) (ua : Bool) (md : Option (List String))
    (outs : List PortTy) (sig : Sig) (w : Wiring) (ho : InnerOutsOk c outs)
    (h : loadPytket c ua md outs = .ok (sig, w)) :
    (outLeaves w.outputs).length = c.nBits + c.nQubits ∧
    (∀ b, b < c.nBits → (outLeaves w.outputs)[b]? = some (.opaque (c.nQubits + b))) ∧
    (∀ i, i < c.nQubits → (outLeaves w.outputs)[c.nBits + i]? = some (.call i)) ∧
    (ua = false → w.outputs.length = c.nBits + c.nQubits ∧ OutputMatches c.nBits sig.output) := by
  rw [loadPytket_outLeaves ho h]
  refine ⟨outWires_length ho, fun b hb => outWires_bit ho hb, fun i hi => outWires_qubit ho hi, ?_⟩
  rintro rfl
  have l := loadPytket_flat h
  exact ⟨by rw [l.outputs, List.length_map, outWires_length ho],
    l.sig_eq ▸ (stubMatches_signatureFlat c).output⟩

/-- **C26 (bit registers, arrays)**: the `r`-th returned array has one opaque bool per bit of the
    `r`-th bit register, element `e` being made from the circuit function's output for bit
    `name_r[e]`, which has lexicographic rank `size_0 + … + size_{r-1} + e` among the bits. -/
theorem bit_arrays_by_register (c : Circ) (md : Option (List String)) (outs : List PortTy)
    (sig : Sig) (w : Wiring) (hv : PytketView c) (ho : InnerOutsOk c outs)
    (h : loadPytket c true md outs = .ok (sig, w))
    (r : Nat) (hr : r < c.cregs.length) (e : Nat) (he : e < c.cregs[r].size) :
    ∃ hb : flatPos (sizes c.cregs) r e < c.nBits,
      c.bits[flatPos (sizes c.cregs) r e] = ⟨c.cregs[r].name, [e]⟩ ∧
      unitRank c.bits ⟨c.cregs[r].name, [e]⟩ = flatPos (sizes c.cregs) r e ∧
      ∃ ls, w.outputs[r]? = some (.newArray .bool c.cregs[r].size ls) ∧
        ls[e]? = some (.opaque (c.nQubits + flatPos (sizes c.cregs) r e)) := by
  have l := loadPytket_arrays h
  obtain ⟨hb, hu, hrank⟩ := unit_at_flatPos hv.cregs_sub hv.bits_sorted l.bits_total r hr e he
  obtain ⟨ls, hls, hel⟩ := packFrom_elem .bool (outWires c outs) c.cregs 0 r hr
  refine ⟨hb, hu, hrank, ls, ?_, ?_⟩
  · rw [l.outputs, List.getElem?_append_left (by rw [packFrom_length]; exact hr)]
    exact hls
  · rw [hel e he, Nat.zero_add]
    exact outWires_bit ho hb

/-- **C26 (stubs)**: `@guppy.pytket(circ)` accepts a stub, with the stub's own signature, iff the
    body is empty, the signature checks, and it matches the circuit's shape: one borrowed qubit
    per circuit qubit, then one angle per free symbol, returning one bool per bit. -/
theorem stub_accept_iff_signature (c : Circ) (s : Stub) (ty : Sig) :
    parseStub c s = .accepted ty ↔
      hasEmptyBody s.body = true ∧ s.sig = some ty ∧ StubMatches c ty := by
  refine ⟨fun h => ?_, fun ⟨hb, hs, hm⟩ => (parseStub_some hb hs).1 hm⟩
  cases hb : hasEmptyBody s.body
  · simp [parseStub, hb] at h
  · cases hs : s.sig with
    | none => simp [parseStub, hb, hs] at h
    | some stub =>
      by_cases hm : StubMatches c stub
      · rw [(parseStub_some hb hs).1 hm] at h
        cases h
        exact ⟨rfl, rfl, hm⟩
      · rw [(parseStub_some hb hs).2 hm] at h
        cases h

/-- **C26 (stub rejections, in the order of the checks)**: a non-empty body is reported first,
    then a signature that does not check, then a mismatch (with the circuit's signature as the
    hint). -/
theorem stub_rejections (c : Circ) (s : Stub) :
    (hasEmptyBody s.body = false → parseStub c s = .bodyNotEmpty) ∧
    (hasEmptyBody s.body = true → s.sig = none → parseStub c s = .signatureError) ∧
    (∀ ty, hasEmptyBody s.body = true → s.sig = some ty → ¬ StubMatches c ty →
      parseStub c s = .mismatch (signatureFlat c)) :=
  ⟨fun hb => by simp [parseStub, hb], fun hb hs => by simp [parseStub, hb, hs],
    fun _ hb hs => (parseStub_some hb hs).2⟩

/-- **C26 (arrays need complete registers)**: with `use_arrays=True` the circuit is refused with
    `PytketUnitsOutsideRegisters` exactly when some qubit or bit is not a unit of a listed
    (complete) register; nothing else makes the signature fail. -/
theorem arrays_rejected_iff_units_outside_registers (c : Circ) (md : Option (List String))
    (outs : List PortTy) (hv : PytketView c) :
    loadPytket c true md outs = .error (.sig .unitsOutsideRegisters) ↔
      ¬ (regUnits c.qregs = c.qubits ∧ regUnits c.cregs = c.bits) := by
  rw [regUnits_eq_iff hv.qregs_sub, regUnits_eq_iff hv.cregs_sub, loadPytket_sig_error,
    signatureFromCircuit_arrays]
  exact ⟨fun h ht => (nomatch (if_pos ht).symm.trans h), fun ht => if_neg ht⟩

/-! ## Non-vacuity

A circuit with two qubit registers `a` (1) and `z` (2), bit registers `b` (1) and `m` (2) and
two symbols that tket reports in the order `t, a` (not sorted).  The hypotheses of all theorems
hold for it, the parameter permutation is not the identity, and the rank statements are
non-trivial. -/

def exampleCirc : Circ :=
  { qubits := [⟨"a", [0]⟩, ⟨"z", [0]⟩, ⟨"z", [1]⟩], bits := [⟨"b", [0]⟩, ⟨"m", [0]⟩, ⟨"m", [1]⟩],
    qregs := [⟨"a", 1⟩, ⟨"z", 2⟩], cregs := [⟨"b", 1⟩, ⟨"m", 2⟩], nSyms := 2 }

def exampleOuts : List PortTy := [.qubit, .qubit, .qubit, .bool, .bool, .bool]

example : PytketView exampleCirc := viewOk_sound _ (by decide)
example : InnerOutsOk exampleCirc exampleOuts := rfl
example : ["t", "a"].Nodup ∧ lexRank ["t", "a"] "t" = 1 ∧ lexRank ["t", "a"] "a" = 0 := by decide

example : loadPytket exampleCirc false (some ["t", "a"]) exampleOuts =
    .ok (⟨[⟨.scalar .qubit, .inout⟩, ⟨.scalar .qubit, .inout⟩, ⟨.scalar .qubit, .inout⟩,
            ⟨.scalar .angle, .noFlags⟩, ⟨.scalar .angle, .noFlags⟩],
          .tuple [.scalar .bool, .scalar .bool, .scalar .bool]⟩,
         ⟨[.port (.input 0), .port (.input 1), .port (.input 2), .falseConst, .falseConst, .falseConst,
           .untuple (.input 4), .untuple (.input 3)],
          [.wire (.opaque 3), .wire (.opaque 4), .wire (.opaque 5),
           .wire (.call 0), .wire (.call 1), .wire (.call 2)]⟩) := rfl

example : loadPytket exampleCirc true (some ["t", "a"]) exampleOuts =
    .ok (⟨[⟨.array .qubit 1, .inout⟩, ⟨.array .qubit 2, .inout⟩, ⟨.array .angle 2, .noFlags⟩],
          .tuple [.array .bool 1, .array .bool 2]⟩,
         ⟨[.port (.unpack .qubit 1 0 0), .port (.unpack .qubit 2 1 0), .port (.unpack .qubit 2 1 1),
           .falseConst, .falseConst, .falseConst,
           .untuple (.unpack .angle 2 2 1), .untuple (.unpack .angle 2 2 0)],
          [.newArray .bool 1 [.opaque 3], .newArray .bool 2 [.opaque 4, .opaque 5],
           .newArray .qubit 1 [.call 0], .newArray .qubit 2 [.call 1, .call 2]]⟩) := rfl

/-- a matching stub is accepted; the same stub with the angle before the qubits is a mismatch -/
example : parseStub exampleCirc ⟨[.ellipsis], some (signatureFlat exampleCirc)⟩ =
    .accepted (signatureFlat exampleCirc) := rfl
example : parseStub exampleCirc ⟨[.ellipsis],
    some ⟨[⟨.scalar .angle, .noFlags⟩, ⟨.scalar .qubit, .inout⟩, ⟨.scalar .qubit, .inout⟩,
      ⟨.scalar .qubit, .inout⟩, ⟨.scalar .angle, .noFlags⟩], (signatureFlat exampleCirc).output⟩⟩ =
    .mismatch (signatureFlat exampleCirc) := rfl

/-- the defect witness: qubits `r[0], r[1], r[5], x[3]` (no complete register).  The repaired
    `_signature_from_circuit` refuses it; `compile_outer` alone (what ran before the fix) feeds
    `False` constants into the circuit's qubit ports and leaves four ports unconnected. -/
def strayCirc : Circ :=
  { qubits := [⟨"r", [0]⟩, ⟨"r", [1]⟩, ⟨"r", [5]⟩, ⟨"x", [3]⟩], bits := [⟨"c", [0]⟩, ⟨"c", [1]⟩, ⟨"k", [2]⟩],
    qregs := [], cregs := [⟨"c", 2⟩], nSyms := 0 }

example : PytketView strayCirc := viewOk_sound _ (by decide)
example : loadPytket strayCirc true none [.qubit, .qubit, .qubit, .qubit, .bool, .bool, .bool] =
    .error (.sig .unitsOutsideRegisters) := rfl
example : (compileOuter strayCirc true 0 none
      [.qubit, .qubit, .qubit, .qubit, .bool, .bool, .bool]).toOption.map (·.callArgs) =
    some [.falseConst, .falseConst, .falseConst] := rfl

/-- degenerate shape: a purely classical circuit (no qubits, bit registers `hi` (2) and `lo` (1)).
    The hypotheses of the theorems hold (so `outputs_bits_then_qubits` and `bit_arrays_by_register`
    speak about it: every returned bool array is built from the call's bit outputs `0, 1 | 2`), in
    both modes; likewise the circuit with nothing at all. -/
def classicalCirc : Circ :=
  { qubits := [], bits := [⟨"hi", [0]⟩, ⟨"hi", [1]⟩, ⟨"lo", [0]⟩],
    qregs := [], cregs := [⟨"hi", 2⟩, ⟨"lo", 1⟩], nSyms := 0 }

example : PytketView classicalCirc := viewOk_sound _ (by decide)
example : InnerOutsOk classicalCirc [.bool, .bool, .bool] := rfl
example : loadPytket classicalCirc true none [.bool, .bool, .bool] =
    .ok (⟨[], .tuple [.array .bool 2, .array .bool 1]⟩,
         ⟨[.falseConst, .falseConst, .falseConst],
          [.newArray .bool 2 [.opaque 0, .opaque 1], .newArray .bool 1 [.opaque 2]]⟩) := rfl
example : loadPytket classicalCirc false none [.bool, .bool, .bool] =
    .ok (⟨[], .tuple [.scalar .bool, .scalar .bool, .scalar .bool]⟩,
         ⟨[.falseConst, .falseConst, .falseConst],
          [.wire (.opaque 0), .wire (.opaque 1), .wire (.opaque 2)]⟩) := rfl
example : loadPytket ⟨[], [], [], [], 0⟩ true none [] = .ok (⟨[], .none⟩, ⟨[], []⟩) := rfl
example : parseStub classicalCirc ⟨[], some ⟨[], .tuple [.scalar .bool, .scalar .bool, .scalar .bool]⟩⟩ =
    .accepted ⟨[], .tuple [.scalar .bool, .scalar .bool, .scalar .bool]⟩ := rfl

/-! ## Histories

A session is any list of events: loads (each with the identity of the circuit object and the
state of that object *at that moment*) interleaved with anything else (creating, extending,
deleting circuit objects, identity reuse).  Full statement: the `k`-th load of *every* session
yields exactly what compiling its own snapshot yields — whatever was loaded before, under
whatever object identities, and whatever happens afterwards.  A conversion cache keyed by object
identity (`runSession true`) falsifies this; the counterexample is below. -/

/-- **C26 (history)**: the result of a load depends only on the circuit as it is at that load. -/
theorem load_depends_only_on_current_circuit (before after : List Event) (obj : Nat)
    (s : Snapshot) :
    (session (before ++ .load obj s :: after))[loadsIn before]? = some (compileSnapshot s) := by
  rw [session, runSession_false, List.filterMap_append,
    List.getElem?_append_right (length_filterMap_loadResult before).le,
    length_filterMap_loadResult, Nat.sub_self]
  rfl

/-- **C26 (history independence)**: two sessions with arbitrary different pasts (and different
    object identities) that end with a load of circuits in the same state end with the same result. -/
theorem history_independent (h₁ h₂ : List Event) (o₁ o₂ : Nat) (s : Snapshot) :
    (session (h₁ ++ [.load o₁ s])).getLast? = (session (h₂ ++ [.load o₂ s])).getLast? := by
  simp only [session, runSession_false, List.filterMap_append]
  exact List.getLast?_concat.trans List.getLast?_concat.symm

/-- and a session produces exactly one result per load -/
theorem one_result_per_load (evs : List Event) : (session evs).length = loadsIn evs := by
  rw [session, runSession_false, length_filterMap_loadResult]

/-! Non-vacuity and the counterexample: one circuit object (identity 7) is loaded with a single
    `H`, extended by a measurement into a new bit, and loaded again.  The code's session gives the
    second load its own shape and content; a cache keyed by identity gives it the stale content
    `H:1` and stale port types (so the declared bool result is not even wired). -/
def stage1 : Snapshot :=
  ⟨⟨[⟨"q", [0]⟩], [], [⟨"q", 1⟩], [], 0⟩, false, ⟨none, [.qubit], ["H:1"]⟩⟩
def stage2 : Snapshot :=
  ⟨⟨[⟨"q", [0]⟩], [⟨"c", [0]⟩], [⟨"q", 1⟩], [⟨"c", 1⟩], 0⟩, false,
    ⟨none, [.qubit, .bool], ["H:1", "Measure:1"]⟩⟩

example : session [.load 7 stage1, .other, .load 7 stage2] =
    [.ok (⟨[⟨.scalar .qubit, .inout⟩], .none⟩, ⟨[.port (.input 0)], [.wire (.call 0)]⟩, ["H:1"]),
     .ok (⟨[⟨.scalar .qubit, .inout⟩], .leaf (.scalar .bool)⟩,
          ⟨[.port (.input 0), .falseConst], [.wire (.opaque 1), .wire (.call 0)]⟩,
          ["H:1", "Measure:1"])] := rfl

example : (runSession true [] [.load 7 stage1, .other, .load 7 stage2])[1]? ≠
    some (compileSnapshot stage2) := by decide
example : (runSession true [] [.load 7 stage1, .other, .load 7 stage2])[1]? =
    some (.ok (⟨[⟨.scalar .qubit, .inout⟩], .leaf (.scalar .bool)⟩,
          ⟨[.port (.input 0), .falseConst], [.wire (.call 0)]⟩, ["H:1"])) := rfl

end GuppyVerif.Pytket
