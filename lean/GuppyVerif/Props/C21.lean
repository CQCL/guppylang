import GuppyVerif.Lemmas.Basic
import GuppyVerif.Lemmas.C21
import GuppyVerif.Model.C21Return
/-! # C21 — Comptime functions agree with regular Guppy functions (partial: operator dispatch)

The domains are finite tables regenerated from /repo on every run (19 operators × 40 operand shapes, 41 mixin methods,
the acceptance table); the theorems about them rest on **table `decide`s**: complete enumerations, no unbounded
quantifier approximated.
What is proved is agreement of the *selection* (implementing type, operator, source operand order) of the two
dispatch procedures — not agreement of results: that `T.__rop__(r, l)` computes what `T.__op__(l, r)` computes is
the contract of reflected dunders (C04), assumed here and observed by the probes on the lowered wiring.  Builtins,
containers, constructors and calls are covered by the harness only. -/
namespace GuppyVerif.C21

/-- Every operator method of `DunderMixin` delegates to the dunder *of its own name* (in particular each
    reflected method to its own reflected name: D6 was `__rrshift__ ↦ __pow__`). -/
theorem mixin_delegates_self : ∀ r ∈ tables.mixin, r.2.1 = some r.1 := by
  decide +kernel

/-- Every dunder the checker's `binary_table` / `unary_table` can select exists in the mixin with the right
    decorator, except `@` (`__matmul__` / `__rmatmul__`), which no numeric type defines either. -/
theorem mixin_covers_checker_tables :
    (∀ r ∈ tables.ops, r.1 ≠ .MatMult →
      (tables.mixin.lookup r.2.1).map (·.2) = some .binary ∧ (tables.mixin.lookup r.2.2).map (·.2) = some .binary) ∧
    (∀ r ∈ tables.uops, (tables.mixin.lookup r.2).map (·.2) = some .unary) := by
  decide +kernel

/-- `tracing.object.binary_table` is the checker's table (method ↦ reflected method) and
    `reverse_binary_table` is its converse. -/
theorem tables_inverse :
    (∀ r ∈ tables.ops, tables.fwd.lookup r.2.1 = some r.2.2 ∧ tables.rev.lookup r.2.2 = some r.2.1) ∧
    tables.fwd.length = tables.ops.length ∧ tables.rev.length = tables.ops.length := by
  decide +kernel

/-- When the left operand is traced the two procedures select literally the same
    (type, dunder, argument order). -/
theorem dispatch_same_when_traced_left :
    ∀ op ∈ allOps, ∀ a ∈ allTys, ∀ b ∈ allTys,
      comptime tables op (.traced a) (.traced b) = some (regular tables op a b) ∧
      comptime tables op (.traced a) (.const b) = some (regular tables op a b) := by
  intro op _
  by_cases hm : op = .MatMult
  · subst hm; decide +kernel
  · intro a _ b _
    have h (r : Operand) := comptime_traced_left tables op a r fun lop rop hl => by
      have hr := List.mem_of_lookup_eq_some hl
      obtain ⟨x, hx, hbin⟩ := Option.map_eq_some_iff.1 (mixin_covers_checker_tables.1 _ hr hm).1
      have hself := mixin_delegates_self _ (List.mem_of_lookup_eq_some hx)
      exact ⟨by rw [hx, ← hself, ← hbin], (tables_inverse.1 _ hr).1⟩
    exact ⟨h (.traced b), h (.const b)⟩

/-- **C21 (operators)**: for every binary operator, every operand shape (`x op y`, `x op c`, `c op x`)
    and every numeric type pair, comptime and regular dispatch fail together, and when they succeed
    they select the same implementing type and the same operator with the operands in source order. -/
theorem dispatch_agree :
    ∀ op ∈ allOps, ∀ p ∈ shapes,
      Agree tables op (comptime tables op p.1 p.2) (regularO tables op p.1 p.2) = true := by
  intro op hop p hp
  have hp' := List.all_eq_true.1 shapes_const_left p hp
  obtain ⟨l, r⟩ := p
  cases l with
  | traced a =>
    -- a traced left operand selects what the regular dispatch selects, and that means `op`
    have h := dispatch_same_when_traced_left op hop a (mem_allTys a) r.ty (mem_allTys _)
    cases r with
    | traced b => exact h.1 ▸ agree_regular tables op a b
    | const b => exact h.2 ▸ agree_regular tables op a b
  | const a =>
    cases r with
    | traced b => exact (const_left_agree op hop a (by simpa using hp') b (mem_allTys b)).2
    | const b => simp at hp'

/-- the literal lists above are the tables' operators and every operand shape -/
theorem enumerations_complete :
    allOps = tables.ops.map (·.1) ∧ allUOps = tables.uops.map (·.1) ∧
    (∀ a ∈ allTys, ∀ b ∈ allTys, (Operand.traced a, Operand.traced b) ∈ shapes) ∧
    (∀ a ∈ allTys, ∀ b ∈ constTys, (Operand.traced a, Operand.const b) ∈ shapes ∧ (Operand.const b, Operand.traced a) ∈ shapes) ∧
    (∀ t : NTy, t ∈ allTys) := by
  refine ⟨by decide +kernel, by decide +kernel, by decide +kernel, by decide +kernel, mem_allTys⟩

/-- With a constant on the left the order of the two attempts is reversed; the selections then differ
    only as direct vs reflected dunder *of one and the same type* (never in the implementing type). -/
theorem const_left_differs_only_by_reflection :
    ∀ op ∈ allOps, ∀ a ∈ constTys, ∀ b ∈ allTys,
      AgreeRefl a b (comptime tables op (.const a) (.traced b)) (regular tables op a b) = true :=
  fun op hop a ha b hb => (const_left_agree op hop a ha b hb).1

/-- unary operators: same dunder of the operand's type, or both fail. -/
theorem unary_agree : ∀ op ∈ allUOps, ∀ t ∈ allTys, comptimeU tables op t = regularU tables op t := by
  decide +kernel

/-- **C21 (return row)** — structural, for every result type (any nesting): the wires a traced comptime function
    hands to its Output are exactly the row of its signature — which is also what the regular twin returns.  The
    thresholds are regenerated from the AST of `trace_function`; with `len(out_tys) > 1` for the unpack branch the
    statement is false for every one-element tuple (`example` below). -/
theorem trace_outputs_match_signature (t : RTy) :
    traceWires unpackNeedsTuple unpackIfLenGt singleIfLenGt t = sigRow t := by
  have h1 : unpackNeedsTuple = true := rfl
  have h2 : unpackIfLenGt = 0 := rfl
  have h3 : singleIfLenGt = 0 := rfl
  rw [h1, h2, h3]
  cases t with
  | atom n => simp [traceWires, sigRow, RTy.isTuple]
  | none => simp [traceWires, sigRow, RTy.isTuple]
  | tuple es =>
    cases es with
    | nil => simp [traceWires, sigRow, RTy.isTuple]
    | cons e r => simp [traceWires, sigRow, RTy.isTuple]

example : traceWires true 1 0 (.tuple [.atom 0]) = [.tuple [.atom 0]] ∧ sigRow (.tuple [.atom 0]) = [.atom 0] :=
  ⟨rfl, rfl⟩

-- the tables are populated, some dispatches succeed directly, some through the reflected fallback, some fail
example : regular tables .Add .int .int = some ⟨.int, .d_add, false⟩ ∧
    regular tables .Sub .nat .int = some ⟨.int, .d_rsub, true⟩ ∧ regular tables .Add .int .bool = none ∧
    comptime tables .Sub (.const .int) (.traced .int) = some (some ⟨.int, .d_rsub, true⟩) ∧
    comptime tables .Sub (.const .float) (.traced .int) = some (some ⟨.float, .d_sub, false⟩) := by decide +kernel
-- D6: with `__rrshift__ ↦ __pow__` in the mixin table, `2 >> x` selects `int.__pow__` and both
-- `mixin_delegates_self` and `dispatch_agree` fail
example :
    let T' := { tables with mixin := tables.mixin.map fun r => if r.1 = .d_rrshift then (r.1, some .d_pow, r.2.2) else r }
    comptime T' .RShift (.const .int) (.traced .int) = some (some ⟨.int, .d_pow, true⟩) ∧
      (Sel.meaning T' .RShift ⟨.int, .d_pow, true⟩) = none := by decide +kernel

end GuppyVerif.C21
