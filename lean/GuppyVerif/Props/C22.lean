import GuppyVerif.Lemmas.C22
/-! # C22 — Comptime tracing enforces ownership

The theorems over arbitrary traces and shapes rest on the invariant `Inv` of `Lemmas/C22.lean`;
`frozen_rejects_all` and `only_borrowed_is_mutable` evaluate tables regenerated from the sources on every
run.  `frozen_mutation_rejected` and `copyable_reuse_accepted` prove nothing beyond the model's definition
(the operation carries its verdict); they stand here because the tie compares exactly this verdict with
the real tracer.

The ghost counter `uses` is never read by `step`; `Leaky` is stated on the tracer's own `used` flag, and
`leaky_iff_never_used_partial` connects it to the ghost counter for non-copyable objects. `Op.reset` may be issued
anywhere in a trace (a superset of what the tracer does), which only strengthens the ∀-trace theorems. -/
namespace GuppyVerif.TraceOwn

/-- **C22 (at most once)**: after any successful trace, every non-copyable object has been used at most
    once since it was created or last handed back by a borrowing call. -/
theorem noncopyable_used_at_most_once (ops : List Op) (s : State) (h : run State.empty ops = .ok s) :
    ∀ id o, s.objs id = some o → o.copyable = false → o.uses ≤ 1 :=
  fun id o ho hc => ((inv_run inv_empty ops h).once id o ho hc).1

/-- …because a second use is rejected on the spot with "already used". -/
theorem reuse_rejected (ops : List Op) (s : State) (h : run State.empty ops = .ok s) (id : Nat) (o : Obj)
    (ho : s.objs id = some o) (hc : o.copyable = false) (hu : o.uses = 1) :
    useObj s id = .error .alreadyUsed ∧ borrow s id = .error .alreadyUsed := by
  have hused : o.used = true := ((inv_run inv_empty ops h).once id o ho hc).2.mpr hu
  have h1 : useObj s id = .error .alreadyUsed := by simp [useObj, ho, hused, hc]
  exact ⟨h1, by simp [borrow, ho, h1, bind, Except.bind]⟩

/-- **C22 (no leak)**: a trace that ends while some non-droppable object is unused is rejected with
    "leaked"; and the dict `unused_undroppable_objs` is exactly the set of such objects. -/
theorem undroppable_leak_rejected (ops : List Op) (s : State) (h : run State.empty ops = .ok s)
    (hl : ∃ id, Leaky s id) : trace ops = .error .leaked := by
  have := (inv_run inv_empty ops h).any_unused_iff.mpr hl
  simp [trace, h, finish, this]

/-- `Leaky` (the tracer's flag) coincides with the independent ghost count for the objects that matter:
    a non-copyable object is flagged unused iff it has not been used since creation / last hand-back.
    (partial: for copyable objects the flag is sticky while the count keeps growing.) -/
theorem leaky_iff_never_used_partial (ops : List Op) (s : State) (h : run State.empty ops = .ok s) (id : Nat) (o : Obj)
    (ho : s.objs id = some o) (hc : o.copyable = false) : o.used = false ↔ o.uses = 0 := by
  obtain ⟨hle, hiff⟩ := (inv_run inv_empty ops h).once id o ho hc
  cases hu : o.used <;> simp [hu] at hiff ⊢ <;> omega

/-- conversely a successful trace without such an object passes the final check -/
theorem no_leak_accepted (ops : List Op) (s : State) (h : run State.empty ops = .ok s)
    (hl : ¬ ∃ id, Leaky s id) : trace ops = .ok () := by
  have := Bool.eq_false_iff.mpr (mt (inv_run inv_empty ops h).any_unused_iff.mp hl)
  simp [trace, h, finish, this]

/-- **C22 (frozen)**: a trace containing an in-place mutation of a value derived from an owned argument
    never succeeds. -/
theorem frozen_mutation_rejected (ops : List Op) (hm : Op.mutate true ∈ ops) : ∀ s, ∀ s', run s ops ≠ .ok s' := by
  induction ops with
  | nil => cases hm
  | cons op ops ih =>
    intro s s' hr
    simp only [run] at hr
    split at hr
    · rename_i s1 h1
      rcases List.mem_cons.mp hm with e | e
      · subst e; simp [step] at h1
      · exact ih e s1 s' hr
    · cases hr

/-- **C22 (frozen, any depth)**: frozen-ness is inherited by every object derived from an argument, at
    every nesting depth and through tuples, structs and arrays: whatever mutable container a path reaches
    inside the unpacked argument carries exactly the argument's flag. -/
theorem frozen_inherited_at_any_depth (f : Bool) (s : Shape) (path : List Step) (b : Bool)
    (h : ((unpack f s).at path).bind Val.containerFlag = some b) : b = f := by
  -- a step leads to a part unpacked with the same flag, or nowhere
  induction path generalizing s with
  | nil => cases s <;> simp [unpack, Val.at, Val.containerFlag] at h <;> exact h.symm
  | cons st p ih =>
    cases s <;> cases st <;> simp only [unpack, Val.at, Val.get] at h <;> first | exact ih _ h | simp at h

/-- …so every in-place mutation of anything derived from an owned (non-borrowed) argument is rejected, and
    none derived from a borrowed argument is. -/
theorem nested_mutation_of_owned_rejected (s : Shape) (path : List Step) (b : Bool)
    (h : ((unpack true s).at path).bind Val.containerFlag = some b) :
    mutateAt (unpack true s) path = .error .frozen := by
  have := frozen_inherited_at_any_depth true s path b h
  subst this
  simp [mutateAt, h]

theorem nested_mutation_of_borrowed_accepted (s : Shape) (path : List Step) (b : Bool)
    (h : ((unpack false s).at path).bind Val.containerFlag = some b) :
    mutateAt (unpack false s) path = .ok () := by
  have := frozen_inherited_at_any_depth false s path b h
  subst this
  simp [mutateAt, h]

/-- **C22 (which arguments are frozen)** — table `decide` over the rule regenerated from `trace_function`'s source:
    an argument is handed to the traced body mutable iff it is borrowed; owned arguments *and arguments passed by
    value* (copyable types: neither flag) are frozen. -/
theorem only_borrowed_is_mutable :
    frozenRule .owned = some true ∧ frozenRule .byValue = some true ∧ frozenRule .borrowed = some false := by
  decide

/-- …so, with `frozen_inherited_at_any_depth`: every in-place mutation, at any depth, of anything derived from an
    argument that is not borrowed is rejected (structural; the rule enters through `only_borrowed_is_mutable`). -/
theorem mutation_of_non_borrowed_rejected (m : ArgMode) (hm : m ≠ .borrowed) (s : Shape) (path : List Step) (b : Bool)
    (h : ((unpack ((frozenRule m).getD false) s).at path).bind Val.containerFlag = some b) :
    mutateAt (unpack ((frozenRule m).getD false) s) path = .error .frozen := by
  have hr : (frozenRule m).getD false = true := by
    cases m with
    | owned => simp [only_borrowed_is_mutable.1]
    | byValue => simp [only_borrowed_is_mutable.2.1]
    | borrowed => exact absurd rfl hm
  rw [hr] at h ⊢
  exact nested_mutation_of_owned_rejected s path b h

/-- **C22 (frozenlist)**: `frozenlist` derives from `list` and overrides every mutating method of
    CPython 3.12's `list`, and each override, called on a real instance, raises `GuppyComptimeError` and leaves the list unchanged (`decide` over the table
    regenerated from tracing/frozenlist.py — names from the AST, the flag from behaviour; the domain is this finite table). -/
theorem frozen_rejects_all :
    frozenBases = ["list"] ∧ ∀ m ∈ mutatingListMethods, (m, true) ∈ frozenOverrides := by
  decide

/-- A copyable object may be used any number of times (after fix 76eef44 also when it is not droppable:
    the corpus keeps the witness `create copyable non-droppable; use; use`, which raised `KeyError`). -/
theorem copyable_reuse_accepted (s : State) (id : Nat) (o : Obj) (ho : s.objs id = some o)
    (hc : o.copyable = true) : ∃ s', useObj s id = .ok s' := by
  unfold useObj
  simp only [ho, hc, Bool.not_true, Bool.false_eq_true, and_false, ↓reduceIte]
  split <;> exact ⟨_, rfl⟩

example : trace [.create false false, .borrow 0, .borrow 0, .use 0] = .ok () := rfl
example : trace [.create false false, .use 0, .use 0] = .error .alreadyUsed := rfl
example : trace [.create false false, .use 0, .borrow 0] = .error .alreadyUsed := rfl
example : trace [.create false false, .create true true, .use 1, .use 1] = .error .leaked := rfl
example : trace [.create false false, .mutate true, .use 0] = .error .frozen := rfl
example : trace [.create true false, .use 0, .use 0] = .ok () := rfl
-- array of structs of arrays, mutation three levels down (`xs[0].b[1] = …`)
example : mutateAt (unpack true (.arr (.struct .leaf (.arr .leaf)))) [.elem, .snd] = .error .frozen := rfl
example : mutateAt (unpack false (.arr (.tuple (.arr .leaf) .leaf))) [.elem, .fst] = .ok () := rfl
example : ∃ s, run State.empty [.create false false, .borrow 0] = .ok s ∧ ∃ id, Leaky s id :=
  ⟨_, rfl, 0, _, rfl, rfl, rfl⟩

end GuppyVerif.TraceOwn
