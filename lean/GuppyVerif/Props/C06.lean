import GuppyVerif.Lemmas.C06Complete
import GuppyVerif.Lemmas.C06Crash
/-! # C06 — Linearity: qubits are used exactly once on every path

The property theorems, the executable forms of their hypotheses (`kindsOK_of_b`), and example
programs with the two counterexamples to unrestricted completeness.  `checkCfg`
(Model/Linearity.lean) is the model of
`check_cfg_linearity` with its two passes; `Good` (Spec/C06.lean) is the ownership semantics
over CFG paths.  All statements are for **every** program of the core fragment: any CFG
(`Prog.WF`), statements given as the visitor's sequence of place-level actions (so nested call
expressions with their order of consumption are covered), any decomposition of places into
leaves (struct fields, tuple elements, nested), and **kinds that belong to bindings, not to
names**: a variable may be re-bound at a type of the other kind (`Prog.KindsOK` = the CFG is
well-kinded, what the type checker establishes).  No size bound.  The place-level liveness
inside `checkCfg` is the C09 worklist, characterised by `liveRun_correct` for any scheduler. -/
namespace GuppyVerif.Linearity

theorem blockEvs_nil_of_not_mem {P : Prog} {l : Leaf} (hl : l ∉ P.leafIds) {b : Blk} (hb : b ∈ P.blocks) :
    P.blockEvs l b = [] := by
  unfold Prog.leafIds at hl
  simp only [List.mem_append, List.mem_flatMap, not_or, not_exists, not_and] at hl
  obtain ⟨hbl, hrest⟩ := hl
  unfold Prog.blockEvs
  have h1 : (P.stmts b).flatMap (Stmt.evs l) = [] := by
    rw [List.flatMap_eq_nil_iff]
    intro st hst
    have hst' := (hrest b hb).2 st hst
    unfold Stmt.evs
    rw [List.append_eq_nil_iff, List.flatMap_eq_nil_iff, List.flatMap_eq_nil_iff]
    constructor
    · intro a ha
      have := hst'.1 a ha
      cases a with
      | use p borrow =>
        simp only [Act.evs, leafEvs_eq_nil]
        intro xk hxk e
        exact this (List.mem_map.mpr ⟨xk, hxk, e⟩)
      | give p =>
        simp only [Act.evs, leafEvs_eq_nil]
        intro xk hxk e
        exact this (List.mem_map.mpr ⟨xk, hxk, e⟩)
      | dropAfter => rfl
      | moveOut => rfl
    · intro t ht
      rw [leafEvs_eq_nil]
      intro xk hxk e
      exact hst'.2 t ht (List.mem_map.mpr ⟨xk, hxk, e⟩)
  rw [h1]
  simp [hbl]

theorem kindsOK_of_b {P : Prog} (hw : P.WF) (h : P.kindsOKb = true) : P.KindsOK := by
  unfold Prog.kindsOKb at h
  simp only [Bool.and_eq_true, List.all_eq_true, List.contains_iff_mem] at h
  obtain ⟨h1, h2⟩ := h
  refine ⟨fun b hb l hl => h1 b hb l hl, ?_⟩
  intro l b hb
  by_cases hl : l ∈ P.leafIds
  · have := h2 l hl b hb
    cases hk : krun (P.rowKind b l) (P.blockEvs l b) with
    | none => simp [hk] at this
    | some k =>
      simp only [hk, List.all_eq_true] at this
      refine ⟨k, rfl, ?_⟩
      intro c hc hrow
      have := this c hc
      simpa [hrow] using this
  · refine ⟨P.rowKind b l, by rw [blockEvs_nil_of_not_mem hl hb]; rfl, ?_⟩
    intro c hc hrow
    exfalso
    apply hl
    unfold Prog.leafIds
    simp only [List.mem_append, List.mem_flatMap]
    exact Or.inr ⟨c, hw.closed b hb c hc, Or.inl hrow⟩

/-- **Soundness.**  If the checker accepts a well-kinded CFG, then on every path from the entry
    (finite or not), for every leaf: a linear binding is used only while its value is held, no
    binding — of whatever kind — is assigned while a linear value is held under the leaf, the
    borrowed leaves and nothing else are held when the exit is reached, a held value always has
    a continuation that reads it (no leak, also in loops that never terminate; a borrowed leaf
    may idle on a path that never returns); and no whole borrowed variable is moved, consumed,
    returned or reassigned, no linear result discarded, no unnamed linear value lent, in
    reachable code. -/
theorem lin_sound (P : Prog) (hw : P.WF) (hk : P.KindsOK) (h : checkCfg P = .ok ()) : Good P :=
  sound_with hw hk (liveDefault_sub P) h

/-- The same in terms of what the line-protocol driver evaluates on every extracted CFG. -/
theorem lin_sound_exec (P : Prog) (hw : P.wfb = true) (hk : P.kindsOKb = true) (h : accepts P = true) :
    Good P :=
  lin_sound P (wf_of_wfb hw) (kindsOK_of_b (wf_of_wfb hw) hk) (accepts_iff.mp h)

/-- every place of the program is a variable that is its own single leaf (no tuple / struct
    typed variables, no field access) -/
def Place.IsVar (p : Place) : Prop := p.isLeaf = true ∧ ∃ x k, p.leaves = [(x, k)] ∧ p.var = some x

def Act.VarsOnly : Act → Prop
  | .use p _ => p.IsVar
  | .give p => p.IsVar
  | .dropAfter => True
  | .moveOut => True

def Stmt.VarsOnly (st : Stmt) : Prop := (∀ a ∈ st.acts, a.VarsOnly) ∧ ∀ p ∈ st.tgts, p.IsVar

/-- Soundness for the variable-only fragment (a special case of `lin_sound`). -/
theorem lin_sound_vars (P : Prog) (hw : P.WF) (hk : P.KindsOK) (_hv : ∀ b, ∀ st ∈ P.stmts b, st.VarsOnly)
    (h : checkCfg P = .ok ()) : Good P :=
  lin_sound P hw hk h

/-- **The place-level liveness inside the checker terminates**, for every program, every scope
    table and every visiting order, within the fuel the model grants (an instance of the C09
    theorem `liveRun_terminates`). -/
theorem live_terminates (P : Prog) (hw : P.WF) (sc : Blk → Scope) (init : List Leaf) (sched : List Blk → Blk) :
    (Dataflow.liveRun (flowCfg P sc) sched (liveFuel (flowCfg P sc) init)
      (Dataflow.liveInit (flowCfg P sc) init)).isSome = true :=
  liveRun_flow_isSome P hw.closed sc init sched

/-! ## Completeness

The full statement is **false of the code** (see `lin_complete_false_G1/G2`):
`P.WF → P.KindsOK → (every block but the exit is reachable) → Good P → checkCfg P = .ok ()`. -/

/-- **Completeness (partial: `NoGap`).**  Every path good, ownership rules respected, CFG
    well-kinded, outside the two known gaps of the code ⇒ the checker accepts: no
    `AlreadyUsedError`, `PlaceNotUsedError`, `NotOwnedError`, `BorrowShadowedError`,
    `BorrowSubPlaceUsedError`, `UnnamedExprNotUsedError`, `DropAfterCallError`, no internal
    error, no fuel exhaustion. -/
theorem lin_complete_partial (P : Prog) (hw : P.WF) (hk : P.KindsOK)
    (hr : ∀ b ∈ P.blocks, b ≠ P.exit → Reachable P b) (hgap : NoGap P) (hg : Good P) :
    checkCfg P = .ok () := by
  cases h : checkCfg P with
  | ok u => cases u; rfl
  | error e =>
    have := checkCfg_no_user_err hw hk hr hgap hg h
    subst this
    exact absurd h (checkCfg_no_crash hw hk hgap)

/-- Completeness for the variable-only fragment (a special case of `lin_complete_partial`). -/
theorem lin_complete_vars_partial (P : Prog) (hw : P.WF) (hk : P.KindsOK)
    (_hv : ∀ b, ∀ st ∈ P.stmts b, st.VarsOnly)
    (hr : ∀ b ∈ P.blocks, b ≠ P.exit → Reachable P b) (hgap : NoGap P) (hg : Good P) :
    checkCfg P = .ok () :=
  lin_complete_partial P hw hk hr hgap hg

/-- On a well-kinded CFG the block signatures cover what is read. -/
theorem kinds_cover_rows (P : Prog) (hw : P.WF) (hk : P.KindsOK) :
    ∀ b ∈ P.blocks, ∀ l, WillUse P l b → l ∈ P.row b :=
  fun _ hb _ h => willUse_row hw hk hb h

/-! ## Non-vacuity: a borrowed struct `s` (leaves 0, 1), an owned qubit `q` (2), a bool `c` (3).
    ```
    def f(s: S, q: qubit @owned, c: bool) -> qubit:
        x = s.a            # block 0     (x = leaf 4)
        if c: use(x); s.a = mk()   # block 2
        else: s.a = x              # block 3
        while c: bor(q)    # blocks 4 (head), 5 (body)
        return q           # block 6; exit = block 1
    ``` -/

def pl (x : Leaf) (k : Bool := true) : Place := ⟨[(x, k)], none, true⟩
def vr (v : Var) (x : Leaf) (k : Bool := true) : Place := ⟨[(x, k)], some v, true⟩
def stUse (ps : List Place) : Stmt := ⟨ps.map fun p => Act.use p false, [], false⟩
def stMove (tgts srcs : List Place) : Stmt := ⟨srcs.map fun p => Act.use p false, tgts, false⟩

def exProg : Prog where
  borrowedVars := [0]
  borrowedLeaves := [0, 1]
  blocks := [0, 1, 2, 3, 4, 5, 6]
  entry := 0
  exit := 1
  exitReachable := true
  row := fun b => match b with | 0 => [0, 1, 2, 3] | 1 => [0, 1] | _ => [0, 1, 2, 3, 4]
  rowLin := fun b => match b with | 0 => [0, 1, 2] | 1 => [0, 1] | _ => [0, 1, 2, 4]
  stmts := fun b => match b with
    | 0 => [stMove [vr 3 4] [pl 0], stUse [vr 2 3 false]]
    | 2 => [stUse [vr 3 4], stMove [pl 0] []]
    | 3 => [stMove [pl 0] [vr 3 4]]
    | 4 => [stUse [vr 2 3 false]]
    | 5 => [⟨[.use (vr 1 2) true, .give (vr 1 2)], [], false⟩]
    | 6 => [stUse [vr 1 2]]
    | _ => []
  succ := fun b => match b with | 0 => [3, 2] | 2 => [4] | 3 => [4] | 4 => [6, 5] | 5 => [4] | 6 => [1] | _ => []

theorem exProg_wfb : exProg.wfb = true := by decide +kernel
theorem exProg_wf : exProg.WF := wf_of_wfb exProg_wfb
theorem exProg_kinds : exProg.KindsOK := kindsOK_of_b exProg_wf (by decide +kernel)

example : accepts exProg = true := by decide +kernel
example : Good exProg := lin_sound_exec exProg exProg_wfb (by decide +kernel) (by decide +kernel)

/-- forgetting to put the field back is rejected -/
def exBad : Prog := { exProg with stmts := fun b => if b = 3 then [] else exProg.stmts b }
example : (match checkCfg exBad with | .error e => some e | .ok _ => none) = some (.usedThenLive true) := by
  decide +kernel

/-- and the specification has teeth: `exBad` is not good — on the path 0 → 3 → 4 → 6 → exit the
    borrowed field `s.a` (leaf 0) has been moved out when it should be handed back -/
example : ¬ Good exBad := by
  intro hg
  have w0 : Walk exBad [] 0 := Walk.entry
  have w3 : Walk exBad [0] 3 := Walk.step w0 (by decide)
  have w4 : Walk exBad [0, 3] 4 := Walk.step w3 (by decide)
  have w6 : Walk exBad [0, 3, 4] 6 := Walk.step w4 (by decide)
  have w1 : Walk exBad [0, 3, 4, 6] 1 := Walk.step w6 (by decide)
  exact (hg.leaves 0).noBadUse _ _ w1 (by decide)

theorem exProg_reach : ∀ b ∈ exProg.blocks, b ≠ exProg.exit → Reachable exProg b := by
  have r0 := Reachable.entry exProg
  have r3 : Reachable exProg 3 := r0.step (by decide)
  have r2 : Reachable exProg 2 := r0.step (by decide)
  have r4 : Reachable exProg 4 := r2.step (by decide)
  have r5 : Reachable exProg 5 := r4.step (by decide)
  have r6 : Reachable exProg 6 := r4.step (by decide)
  intro b hb hne
  simp only [exProg, List.mem_cons, List.not_mem_nil, or_false] at hb
  rcases hb with rfl | rfl | rfl | rfl | rfl | rfl | rfl
  · exact r0
  · exact absurd rfl hne
  all_goals assumption

theorem exProg_noGap : NoGap exProg := by
  right
  refine ⟨rfl, ?_⟩
  have r1 : ReachExit exProg 1 := ReachExit.exit
  have r6 : ReachExit exProg 6 := ReachExit.step (c := 1) (by decide) r1
  have r4 : ReachExit exProg 4 := ReachExit.step (c := 6) (by decide) r6
  have r5 : ReachExit exProg 5 := ReachExit.step (c := 4) (by decide) r4
  have r2 : ReachExit exProg 2 := ReachExit.step (c := 4) (by decide) r4
  have r3 : ReachExit exProg 3 := ReachExit.step (c := 4) (by decide) r4
  have r0 : ReachExit exProg 0 := ReachExit.step (c := 2) (by decide) r2
  intro b hb
  simp only [exProg, List.mem_cons, List.not_mem_nil, or_false] at hb
  rcases hb with rfl | rfl | rfl | rfl | rfl | rfl | rfl <;> assumption

example : checkCfg exProg = .ok () :=
  lin_complete_partial exProg exProg_wf exProg_kinds exProg_reach exProg_noGap
    (lin_sound exProg exProg_wf exProg_kinds (accepts_iff.mp (by decide +kernel)))

/-! ## Non-vacuity for re-binding (the shape of fix 0c7baf7) and nested calls

    ```
    def f(q: qubit @owned, c: bool, r: qubit @owned) -> bool:   # q = leaf 0, c = 1, r = 3
        if c: pass                   # block 0 -> 2 | 3 -> 4
        b = measure(idq(q))          # block 4: nested call; b = leaf 2
        q = 1                        #          `q` re-bound at type int
        use2(r, mk())                #          nested call as second argument
        return b                     # exit = block 1
    ``` -/

def rebindProg : Prog where
  borrowedVars := []
  borrowedLeaves := []
  blocks := [0, 1, 2, 3, 4]
  entry := 0
  exit := 1
  exitReachable := true
  row := fun b => match b with | 0 => [0, 1, 3] | 1 => [] | _ => [0, 3]
  rowLin := fun b => match b with | 0 => [0, 3] | 1 => [] | _ => [0, 3]
  stmts := fun b => match b with
    | 0 => [stUse [vr 1 1 false]]
    | 4 => [stMove [vr 2 2 false] [vr 0 0], stMove [vr 0 0 false] [], stUse [vr 3 3], stUse [vr 2 2 false]]
    | _ => []
  succ := fun b => match b with | 0 => [3, 2] | 2 => [4] | 3 => [4] | 4 => [1] | _ => []

theorem rebindProg_wfb : rebindProg.wfb = true := by decide +kernel
example : Good rebindProg :=
  lin_sound_exec rebindProg rebindProg_wfb (by decide +kernel) (by decide +kernel)

/-! ## Non-vacuity for subscript borrows of a linear array

    ```
    def f(qs: array[qubit, 2], i: int) -> None:     # qs borrowed: one linear leaf 0; i = leaf 1
        h(qs[i])        # visit i; bind %tmp0 (leaf 2); __getitem__(qs, %tmp0): lend qs, hand back;
                        # after the call: bind %tmp1 (leaf 3); __setitem__(qs, %tmp0, %tmp1); hand qs back
    ``` -/

def arr : Place := vr 0 0
def tmp (x : Leaf) : Place := ⟨[(x, false)], some x, true⟩

def subscriptProg : Prog where
  borrowedVars := [0]
  borrowedLeaves := [0]
  blocks := [0, 1]
  entry := 0
  exit := 1
  exitReachable := true
  row := fun b => match b with | 0 => [0, 1] | _ => [0]
  rowLin := fun _ => [0]
  stmts := fun b => match b with
    | 0 => [⟨[.use (vr 1 1 false) false, .give (tmp 2), .use arr true, .use (tmp 2) false, .give arr,
              .give (tmp 3), .use arr true, .use (tmp 2) false, .use (tmp 3) false, .give arr, .give arr], [], false⟩]
    | _ => []
  succ := fun b => match b with | 0 => [1] | _ => []

theorem subscriptProg_wfb : subscriptProg.wfb = true := by decide +kernel
example : Good subscriptProg :=
  lin_sound_exec subscriptProg subscriptProg_wfb (by decide +kernel) (by decide +kernel)

/-- moving the element out instead is rejected -/
def subscriptBad : Prog := { subscriptProg with stmts := fun b => if b = 0 then [⟨[.moveOut], [], false⟩] else [] }
example : (match checkCfg subscriptBad with | .error e => some e | .ok _ => none) = some .moveOutOfSubscript := by
  decide +kernel

/-! ## The full completeness statement is false of the code (gaps G1, G2)

    G1:
    ```
    def f(q: qubit, c: bool) -> None:      # q borrowed (leaf 0), c = leaf 1
        if c:                               # block 0 -> 2 | 3
            while True: pass                # block 2 -> 2
        # block 3 -> exit (block 1)
    ```
    Every path is good — on the path that never returns the caller's qubit is simply never
    touched — but the checker reports `PlaceNotUsedError`, because the borrowed leaves are made
    live by default only when the exit is unreachable altogether.

    G2:
    ```
    def f(s: S) -> None:        # s borrowed: leaves 0 (s.a), 1 (s.b)
        use(s.a)                # block 0 -> 2
        while True: pass        # block 2 -> 2;  exit = block 1, unreachable
    ```
    No path ever hands `s` back, so moving `s.a` out for good breaks nothing; the checker reports
    `BorrowSubPlaceUsedError` (it wants to thread the borrowed leaves through the loop). -/

/-- a leaf under which nothing is ever held and whose events never change that is good -/
theorem leafGood_of_inert {P : Prog} {l : Leaf} (h0 : P.initOwned l = false)
    (h : ∀ b, runEvs false (P.blockEvs l b) = some false) : LeafGood P l := by
  have htr : ∀ bs, runEvs false (P.trace l bs) = some false := by
    intro bs
    induction bs with
    | nil => rfl
    | cons b bs ih =>
      unfold Prog.trace at ih ⊢
      rw [List.flatMap_cons, runEvs_append, h b]
      exact ih
  refine ⟨?_, ?_, ?_⟩
  · intro bs b _; rw [h0, htr]; simp
  · intro bs _; rw [h0, htr]
  · intro bs b _ hrun; rw [h0, htr] at hrun; cases hrun

def gapG1 : Prog where
  borrowedVars := [0]
  borrowedLeaves := [0]
  blocks := [0, 1, 2, 3]
  entry := 0
  exit := 1
  exitReachable := true
  row := fun b => match b with | 0 => [0, 1] | _ => [0]
  rowLin := fun _ => [0]
  stmts := fun b => match b with | 0 => [stUse [vr 1 1 false]] | _ => []
  succ := fun b => match b with | 0 => [3, 2] | 2 => [2] | 3 => [1] | _ => []

theorem gapG1_wf : gapG1.WF := wf_of_wfb (by decide +kernel)
theorem gapG1_kinds : gapG1.KindsOK := kindsOK_of_b gapG1_wf (by decide +kernel)

theorem gapG1_walk {bs : List Blk} {b : Blk} (h : Walk gapG1 bs b) :
    (b = 0 ∨ b = 1 ∨ b = 2 ∨ b = 3) ∧ gapG1.trace 0 bs = [] := by
  induction h with
  | entry => exact ⟨Or.inl rfl, rfl⟩
  | @step bs b c _ hcb ih =>
    obtain ⟨hb, ht⟩ := ih
    rw [trace_snoc, ht]
    rcases hb with rfl | rfl | rfl | rfl
    · refine ⟨?_, by decide⟩
      have : c = 3 ∨ c = 2 := by simpa [gapG1] using hcb
      rcases this with rfl | rfl <;> simp
    · simp [gapG1] at hcb
    · refine ⟨?_, by decide⟩
      have : c = 2 := by simpa [gapG1] using hcb
      simp [this]
    · refine ⟨?_, by decide⟩
      have : c = 1 := by simpa [gapG1] using hcb
      simp [this]

-- the gap is the choice of `liveDefault`: run with the borrowed qubit live from the start
-- (`init = [0]`) the checker accepts, and that run is sound too
theorem gapG1_good : Good gapG1 :=
  sound_with gapG1_wf gapG1_kinds (init := [0]) (by decide) (ok_of_eval (by decide +kernel))

/-- **The unrestricted completeness statement fails** (known gap G1; the witness is replayed on
    the real checker by the harness: corpus `gap-G1-borrowed-qubit-dead-end-loop`). -/
theorem lin_complete_false_G1 :
    ∃ P : Prog, P.WF ∧ P.KindsOK ∧ (∀ b ∈ P.blocks, b ≠ P.exit → Reachable P b) ∧ Good P ∧
      checkCfg P = .error .placeNotUsed := by
  refine ⟨gapG1, gapG1_wf, gapG1_kinds, ?_, gapG1_good, ?_⟩
  · have r0 := Reachable.entry gapG1
    have r3 : Reachable gapG1 3 := r0.step (by decide)
    have r2 : Reachable gapG1 2 := r0.step (by decide)
    intro b hb hne
    simp only [gapG1, List.mem_cons, List.not_mem_nil, or_false] at hb
    rcases hb with rfl | rfl | rfl | rfl
    · exact r0
    · exact absurd rfl hne
    all_goals assumption
  · exact err_of_eval (by decide +kernel)

def gapG2 : Prog where
  borrowedVars := [0]
  borrowedLeaves := [0, 1]
  blocks := [0, 1, 2]
  entry := 0
  exit := 1
  exitReachable := false
  row := fun _ => [0, 1]
  rowLin := fun _ => [0, 1]
  stmts := fun b => match b with | 0 => [stUse [pl 0]] | _ => []
  succ := fun b => match b with | 0 => [2] | 2 => [2] | _ => []

theorem gapG2_wf : gapG2.WF := wf_of_wfb (by decide +kernel)
theorem gapG2_kinds : gapG2.KindsOK := kindsOK_of_b gapG2_wf (by decide +kernel)

theorem gapG2_walk {bs : List Blk} {b : Blk} (h : Walk gapG2 bs b) :
    (bs = [] ∧ b = 0) ∨ (b = 2 ∧ gapG2.trace 0 bs = [⟨Op.use, true⟩] ∧ gapG2.trace 1 bs = []) := by
  induction h with
  | entry => exact Or.inl ⟨rfl, rfl⟩
  | @step bs b c _ hcb ih =>
    right
    rcases ih with ⟨rfl, rfl⟩ | ⟨rfl, h0, h1⟩
    · have : c = 2 := by simpa [gapG2] using hcb
      subst this
      exact ⟨rfl, by decide, by decide⟩
    · have : c = 2 := by simpa [gapG2] using hcb
      subst this
      refine ⟨rfl, ?_, ?_⟩
      · rw [trace_snoc, h0]; decide
      · rw [trace_snoc, h1]; decide

-- again the choice of `liveDefault`: with only `s.b` live from the start (`init = [1]`), not
-- every borrowed leaf, the checker accepts
theorem gapG2_good : Good gapG2 :=
  sound_with gapG2_wf gapG2_kinds (init := [1]) (by decide) (ok_of_eval (by decide +kernel))

/-- **The unrestricted completeness statement fails also for functions that never return**
    (known gap G2; corpus `gap-G2-borrowed-field-moved-out-never-returns`). -/
theorem lin_complete_false_G2 :
    ∃ P : Prog, P.WF ∧ P.KindsOK ∧ (∀ b ∈ P.blocks, b ≠ P.exit → Reachable P b) ∧ Good P ∧
      checkCfg P = .error (.usedThenLive true) := by
  refine ⟨gapG2, gapG2_wf, gapG2_kinds, ?_, gapG2_good, ?_⟩
  · have r0 := Reachable.entry gapG2
    have r2 : Reachable gapG2 2 := r0.step (by decide)
    intro b hb hne
    simp only [gapG2, List.mem_cons, List.not_mem_nil, or_false] at hb
    rcases hb with rfl | rfl | rfl
    · exact r0
    · exact absurd rfl hne
    · exact r2
  · exact err_of_eval (by decide +kernel)

end GuppyVerif.Linearity
