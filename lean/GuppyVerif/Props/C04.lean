import GuppyVerif.Lemmas.IntSem
import GuppyVerif.Lemmas.NumEval
import GuppyVerif.Lemmas.C04Rows
/-! # C04 — Numeric operators compute Python's results  (partial: HUGR op semantics assumed)

`C04Gen.table` is regenerated from /repo's `std/num.py`, `std/bool.py` and the
operator tables of `expr_checker.py` on every run; `NumEval` gives it a meaning (`evalBin`, `evalUn`,
`evalBuiltin`, …: dispatch exactly as `_synthesize_binary` / `ReversingChecker` / `DunderChecker`, HUGR ops
with the semantics of `Model/IntSem.lean`).  Each theorem has two halves:

* which value the operator computes *according to the regenerated table*: the row it reaches is an entry of
  `leftRow` / `reflectedRow` / `unaryRow` / `builtinRow` (`Lemmas/C04Rows.lean`, where `table_rows` checks all of them
  against the table in one evaluation) and `Lemmas/NumEval.lean` gives the value for symbolic operands; a `@guppy` body
  is evaluated with symbolic operands.  A changed row breaks `table_rows`, or the evaluation of that body;
* that this value is Python's result on unbounded `Int`, wrapped as the statement says
  (`wrapS` for `int`, `wrapU` for `nat`), for **all** 64-bit operands, under the statement's guard.

Where the full statement is false of the code (D11) the theorem is named `…_partial`, carries the forced
hypothesis, and a `decide`d counterexample follows (`int_floordiv_counterexample` serves `//`, `%`, `divmod`).
Float operations are symbolic terms: only their structure is proved (what needs no rounding reasoning). -/
namespace GuppyVerif.C04
open GuppyVerif.IntSem GuppyVerif.NumEval
open GuppyVerif.C04Gen (table)

local notation "I" => Val.int
local notation "N" => Val.nat

/-! ## int: ring operations -/

theorem int_add_correct (a b : W) :
    ∃ r, evalBin table "+" (I a) (I b) = .ok (I r) ∧ r.toInt = wrapS (a.toInt + b.toInt) :=
  evalBin_arith .int (left_row .add .int rfl) rfl rfl (iadd_toInt a b)

theorem int_sub_correct (a b : W) :
    ∃ r, evalBin table "-" (I a) (I b) = .ok (I r) ∧ r.toInt = wrapS (a.toInt - b.toInt) :=
  evalBin_arith .int (left_row .sub .int rfl) rfl rfl (isub_toInt a b)

theorem int_mul_correct (a b : W) :
    ∃ r, evalBin table "*" (I a) (I b) = .ok (I r) ∧ r.toInt = wrapS (a.toInt * b.toInt) :=
  evalBin_arith .int (left_row .mul .int rfl) rfl rfl (imul_toInt a b)

theorem int_neg_correct (a : W) :
    ∃ r, evalUn table "-" (I a) = .ok (I r) ∧ r.toInt = wrapS (-a.toInt) :=
  evalUn_arith .int "ineg" (unary_row .neg .int rfl) rfl (ineg_toInt a)

theorem int_pos_correct (a : W) : evalUn table "+" (I a) = .ok (I a) :=
  evalUn_prim (unary_row .pos .int rfl) rfl

/-- reflected forms: `a.__rsub__(b)` is `b - a`.  Only `__rsub__` and `__radd__` are theorems; the other 32 reflected
    rows are the same `ReversingChecker` row kind and are covered by the tie only (op name + swapped operand wiring of
    every reflected row, and values of the mixed forms that dispatch through them), not by a theorem. -/
theorem int_rsub_correct (a b : W) :
    ∃ r, evalMeth table "__rsub__" [I a, I b] = .ok (I r) ∧ r.toInt = wrapS (b.toInt - a.toInt) :=
  ⟨isub b a, evalMeth_reversed rsub_row rfl, isub_toInt b a⟩

theorem int_radd_correct (a b : W) :
    ∃ r, evalMeth table "__radd__" [I a, I b] = .ok (I r) ∧ r.toInt = wrapS (b.toInt + a.toInt) :=
  ⟨iadd b a, evalMeth_reversed radd_row rfl, iadd_toInt b a⟩

/-- coerced form `nat ∘ int`: the left dunder `nat.__add__` does not accept an `int`, the reflected
    `int.__radd__` does (the `nat` is widened by a no-op); the wrapped result is Python's for *every* nat. -/
theorem nat_int_add_correct (a b : W) :
    ∃ r, evalBin table "+" (N a) (I b) = .ok (I r) ∧ r.toInt = wrapS ((a.toNat : Int) + b.toInt) := by
  refine ⟨iadd a b, evalBin_reflected (left_row .add .nat rfl) rfl (reflected_row .add .int rfl) rfl, ?_⟩
  rw [iadd_toInt]; apply wrapS_congr
  rw [Int.add_emod, ← toNat_emod_eq_toInt_emod a, ← Int.add_emod]

theorem int_nat_sub_correct (a b : W) :
    ∃ r, evalBin table "-" (I a) (N b) = .ok (I r) ∧ r.toInt = wrapS (a.toInt - (b.toNat : Int)) := by
  refine ⟨isub a b, evalBin_left (left_row .sub .int rfl) rfl, ?_⟩
  rw [isub_toInt]; apply wrapS_congr
  rw [Int.sub_emod, ← toNat_emod_eq_toInt_emod b, ← Int.sub_emod]

/-! ## int: bitwise -/

theorem int_and_correct (a b : W) :
    ∃ r, evalBin table "&" (I a) (I b) = .ok (I r) ∧ IsPyAnd r.toInt a.toInt b.toInt :=
  evalBin_arith .int (left_row .and .int rfl) rfl rfl (iand_isPyAnd a b)

theorem int_or_correct (a b : W) :
    ∃ r, evalBin table "|" (I a) (I b) = .ok (I r) ∧ IsPyOr r.toInt a.toInt b.toInt :=
  evalBin_arith .int (left_row .or .int rfl) rfl rfl (ior_isPyOr a b)

theorem int_xor_correct (a b : W) :
    ∃ r, evalBin table "^" (I a) (I b) = .ok (I r) ∧ IsPyXor r.toInt a.toInt b.toInt :=
  evalBin_arith .int (left_row .xor .int rfl) rfl rfl (ixor_isPyXor a b)

theorem int_invert_correct (a : W) :
    ∃ r, evalUn table "~" (I a) = .ok (I r) ∧ r.toInt = pyInvert a.toInt :=
  evalUn_arith .int "inot" (unary_row .invert .int rfl) rfl (inot_toInt a)

/-- `a << b` for a shift count `b ≥ 0` (the statement asks for `b ∈ [0, 64)`) -/
theorem int_lshift_correct (a b : W) (h0 : 0 ≤ b.toInt) :
    ∃ r, evalBin table "<<" (I a) (I b) = .ok (I r) ∧ r.toInt = wrapS (pyShl a.toInt b.toInt.toNat) :=
  evalBin_arith .int (left_row .shl .int rfl) rfl rfl (ishl_toInt a b h0)

/- Full statement: ∀ a b, 0 ≤ b.toInt → b.toInt < 64 → … r.toInt = pyShr a.toInt b.toInt.toNat.
   FALSE of the code: `int.__rshift__` is the *logical* `ishr`. -/
theorem int_rshift_partial (a b : W) (ha : 0 ≤ a.toInt) (h0 : 0 ≤ b.toInt) :
    ∃ r, evalBin table ">>" (I a) (I b) = .ok (I r) ∧ r.toInt = pyShr a.toInt b.toInt.toNat := by
  refine evalBin_arith .int (left_row .shr .int rfl) rfl rfl ?_
  rw [ishr_toInt_nonneg a b ha, shift_count b h0]

/-- counterexample to the full statement: `-9 >> 1` is `-5` in Python, the code computes `2^63 - 5` -/
theorem int_rshift_counterexample :
    evalBin table ">>" (I (BitVec.ofInt 64 (-9))) (I (BitVec.ofInt 64 1)) = .ok (I (BitVec.ofInt 64 9223372036854775803)) ∧
    pyShr (-9) 1 = -5 := by decide +kernel

/-! ## int: division (D11) -/

/- Full statement: ∀ a b, b.toInt ≠ 0 → … r.toInt = wrapS (pyFloorDiv a.toInt b.toInt).
   FALSE of the code: `idiv_s` reads its divisor unsigned. -/
theorem int_floordiv_partial (a b : W) (hb : 0 < b.toInt) :
    ∃ r, evalBin table "//" (I a) (I b) = .ok (I r) ∧ r.toInt = wrapS (pyFloorDiv a.toInt b.toInt) := by
  obtain ⟨q, r, h, hq, _⟩ := idivmod_s_pos a b hb
  refine evalBin_arith .int (left_row .floordiv .int rfl) rfl (w := q) (by rw [idiv_s, h]; rfl) ?_
  rw [← hq, wrapS_of_range (toInt_range q).1 (toInt_range q).2]

theorem int_mod_partial (a b : W) (hb : 0 < b.toInt) :
    ∃ r, evalBin table "%" (I a) (I b) = .ok (I r) ∧ r.toInt = wrapS (pyMod a.toInt b.toInt) := by
  obtain ⟨q, r, h, _, hr⟩ := idivmod_s_pos a b hb
  refine evalBin_arith .int (left_row .mod .int rfl) rfl (w := r) (by rw [imod_s, h]; rfl) ?_
  rw [← hr, wrapS_of_range (toInt_range r).1 (toInt_range r).2]

theorem int_divmod_partial (a b : W) (hb : 0 < b.toInt) :
    ∃ q r, evalBuiltin table "divmod" [I a, I b] = .ok (.tup (I q) (I r)) ∧
      q.toInt = wrapS (pyFloorDiv a.toInt b.toInt) ∧ r.toInt = wrapS (pyMod a.toInt b.toInt) := by
  obtain ⟨q, r, h, hq, hr⟩ := idivmod_s_pos a b hb
  refine ⟨q, r, evalBuiltin_prim (builtin_row .divmod .int rfl) ?_, ?_, ?_⟩
  · show tagPair "tuple[int, int]" (idivmod_s a b) = _
    rw [h]; rfl
  · rw [← hq, wrapS_of_range (toInt_range q).1 (toInt_range q).2]
  · rw [← hr, wrapS_of_range (toInt_range r).1 (toInt_range r).2]

/-- a zero divisor panics (Python raises `ZeroDivisionError`: outside the statement's guard) -/
theorem int_div_zero (a : W) :
    evalBin table "//" (I a) (I 0) = .panic ∧ evalBin table "%" (I a) (I 0) = .panic ∧
    evalBuiltin table "divmod" [I a, I 0] = .panic :=
  ⟨evalBin_left (left_row .floordiv .int rfl) rfl, evalBin_left (left_row .mod .int rfl) rfl,
    evalBuiltin_prim (builtin_row .divmod .int rfl) rfl⟩

/-- counterexamples to the full statements: `7 // -2` is `-4` and `7 % -2` is `-1` in Python; the code divides
    by `2^64 - 2` and returns `0` and `7` -/
theorem int_floordiv_counterexample :
    evalBin table "//" (I (BitVec.ofInt 64 7)) (I (BitVec.ofInt 64 (-2))) = .ok (I (BitVec.ofInt 64 0)) ∧
    evalBin table "%" (I (BitVec.ofInt 64 7)) (I (BitVec.ofInt 64 (-2))) = .ok (I (BitVec.ofInt 64 7)) ∧
    evalBuiltin table "divmod" [I (BitVec.ofInt 64 7), I (BitVec.ofInt 64 (-2))]
      = .ok (.tup (I (BitVec.ofInt 64 0)) (I (BitVec.ofInt 64 7))) ∧
    pyFloorDiv 7 (-2) = -4 ∧ pyMod 7 (-2) = -1 := by decide +kernel

/-! ## int: power, abs -/

theorem int_pow_correct (a b : W) (h0 : 0 ≤ b.toInt) :
    ∃ r, evalBin table "**" (I a) (I b) = .ok (I r) ∧ r.toInt = wrapS (pyPow a.toInt b.toInt.toNat) := by
  refine ⟨ipow a b, ?_, ipow_toInt a b h0⟩
  have hlt : ilt_s b (BitVec.ofInt 64 0) = false := by
    rw [ilt_s_iff]; simp; exact h0
  rw [int_pow_eval, hlt]; rfl

/-- a negative exponent panics (the guard written in `int.__pow__`) -/
theorem int_pow_negative (a b : W) (h : b.toInt < 0) : evalBin table "**" (I a) (I b) = .panic := by
  have hlt : ilt_s b (BitVec.ofInt 64 0) = true := by
    rw [ilt_s_iff]; simp; exact h
  rw [int_pow_eval, hlt]; rfl

theorem int_abs_correct (a : W) :
    ∃ r, evalBuiltin table "abs" [I a] = .ok (I r) ∧ r.toInt = wrapS (pyAbs a.toInt) :=
  ⟨iabs a, evalBuiltin_prim (builtin_row .abs .int rfl) rfl, iabs_toInt a⟩

/-! ## int: comparisons, truth value, conversions -/

theorem int_cmp_correct (a b : W) :
    evalBin table "<" (I a) (I b) = .ok (.bool (decide (a.toInt < b.toInt))) ∧
    evalBin table "<=" (I a) (I b) = .ok (.bool (decide (a.toInt ≤ b.toInt))) ∧
    evalBin table ">" (I a) (I b) = .ok (.bool (decide (a.toInt > b.toInt))) ∧
    evalBin table ">=" (I a) (I b) = .ok (.bool (decide (a.toInt ≥ b.toInt))) ∧
    evalBin table "==" (I a) (I b) = .ok (.bool (decide (a.toInt = b.toInt))) ∧
    evalBin table "!=" (I a) (I b) = .ok (.bool (decide (a.toInt ≠ b.toInt))) := by
  -- the four order comparisons are *defined* as `decide` of the order on `toInt`; `==` and `!=` compare the bits
  refine ⟨evalBin_cmp .int a b (left_row .lt .int rfl) rfl, evalBin_cmp .int a b (left_row .le .int rfl) rfl,
    evalBin_cmp .int a b (left_row .gt .int rfl) rfl, evalBin_cmp .int a b (left_row .ge .int rfl) rfl, ?_, ?_⟩
  · rw [← ieq_iff_toInt]; exact evalBin_cmp .int a b (left_row .eq .int rfl) rfl
  · rw [← ine_iff_toInt]; exact evalBin_cmp .int a b (left_row .ne .int rfl) rfl

theorem int_truth_correct (a : W) :
    evalBuiltin table "bool" [I a] = .ok (.bool (decide (a.toInt ≠ 0))) ∧
    evalNot table (I a) = .ok (.bool (decide (a.toInt = 0))) := by
  have h : ine a (BitVec.ofInt 64 0) = decide (a.toInt ≠ 0) := by rw [ine_iff_toInt]; rfl
  refine ⟨?_, ?_⟩
  · show Res.ok (.bool (ine a (BitVec.ofInt 64 0))) = _; rw [h]
  · show Res.ok (.bool (!ine a (BitVec.ofInt 64 0))) = _; rw [h, decide_not, Bool.not_not]

theorem int_conversions (a : W) :
    evalBuiltin table "int" [I a] = .ok (I a) ∧
    evalBuiltin table "float" [I a] = .ok (.flt (.ofS a)) ∧
    (0 ≤ a.toInt → ∃ r, evalBuiltin table "nat" [I a] = .ok (N r) ∧ (r.toNat : Int) = a.toInt) := by
  refine ⟨evalBuiltin_prim (builtin_row .int .int rfl) rfl, evalBuiltin_prim (builtin_row .float .int rfl) rfl,
    fun h => ⟨a, evalBuiltin_prim (builtin_row .nat .int rfl) ?_, (is_to_u_nonneg a h).2⟩⟩
  show Res.ofOpt "nat" (is_to_u a) = _
  rw [(is_to_u_nonneg a h).1]; rfl

/-- `int / int` is `float(a) / float(b)` (both operands rounded first; differs from Python's correctly rounded
    quotient beyond 2^53: D11, float level) -/
theorem int_truediv_structural (a b : W) :
    evalBin table "/" (I a) (I b) = .ok (.flt (.op2 "fdiv" (.ofS a) (.ofS b))) := by rfl

/-! ## nat -/

theorem nat_add_correct (a b : W) :
    ∃ r, evalBin table "+" (N a) (N b) = .ok (N r) ∧ (r.toNat : Int) = wrapU ((a.toNat : Int) + b.toNat) :=
  evalBin_arith .nat (left_row .add .nat rfl) rfl rfl (iadd_toNat a b)

theorem nat_sub_correct (a b : W) :
    ∃ r, evalBin table "-" (N a) (N b) = .ok (N r) ∧ (r.toNat : Int) = wrapU ((a.toNat : Int) - b.toNat) :=
  evalBin_arith .nat (left_row .sub .nat rfl) rfl rfl (isub_toNat a b)

theorem nat_mul_correct (a b : W) :
    ∃ r, evalBin table "*" (N a) (N b) = .ok (N r) ∧ (r.toNat : Int) = wrapU ((a.toNat : Int) * b.toNat) :=
  evalBin_arith .nat (left_row .mul .nat rfl) rfl rfl (imul_toNat a b)

theorem nat_and_correct (a b : W) :
    ∃ r, evalBin table "&" (N a) (N b) = .ok (N r) ∧ IsPyAnd r.toNat a.toNat b.toNat :=
  evalBin_arith .nat (left_row .and .nat rfl) rfl rfl (iand_isPyAnd_nat a b)

theorem nat_or_correct (a b : W) :
    ∃ r, evalBin table "|" (N a) (N b) = .ok (N r) ∧ IsPyOr r.toNat a.toNat b.toNat :=
  evalBin_arith .nat (left_row .or .nat rfl) rfl rfl (ior_isPyOr_nat a b)

theorem nat_xor_correct (a b : W) :
    ∃ r, evalBin table "^" (N a) (N b) = .ok (N r) ∧ IsPyXor r.toNat a.toNat b.toNat :=
  evalBin_arith .nat (left_row .xor .nat rfl) rfl rfl (ixor_isPyXor_nat a b)

theorem nat_invert_correct (a : W) :
    ∃ r, evalUn table "~" (N a) = .ok (N r) ∧ (r.toNat : Int) = wrapU (pyInvert a.toNat) :=
  evalUn_arith .nat "inot" (unary_row .invert .nat rfl) rfl (inot_toNat a)

theorem nat_lshift_correct (a b : W) :
    ∃ r, evalBin table "<<" (N a) (N b) = .ok (N r) ∧ (r.toNat : Int) = wrapU (pyShl a.toNat b.toNat) :=
  evalBin_arith .nat (left_row .shl .nat rfl) rfl rfl (ishl_toNat a b)

/-- the logical shift *is* Python's `>>` on a nat -/
theorem nat_rshift_correct (a b : W) :
    ∃ r, evalBin table ">>" (N a) (N b) = .ok (N r) ∧ (r.toNat : Int) = pyShr a.toNat b.toNat :=
  evalBin_arith .nat (left_row .shr .nat rfl) rfl rfl (ishr_toNat a b)

theorem nat_floordiv_correct (a b : W) (hb : b.toNat ≠ 0) :
    ∃ r, evalBin table "//" (N a) (N b) = .ok (N r) ∧ (r.toNat : Int) = pyFloorDiv a.toNat b.toNat := by
  obtain ⟨q, r, h, hq, _⟩ := idivmod_u_ne a b hb
  exact evalBin_arith .nat (left_row .floordiv .nat rfl) rfl (by rw [idiv_u, h]; rfl) hq

theorem nat_mod_correct (a b : W) (hb : b.toNat ≠ 0) :
    ∃ r, evalBin table "%" (N a) (N b) = .ok (N r) ∧ (r.toNat : Int) = pyMod a.toNat b.toNat := by
  obtain ⟨q, r, h, _, hr⟩ := idivmod_u_ne a b hb
  exact evalBin_arith .nat (left_row .mod .nat rfl) rfl (by rw [imod_u, h]; rfl) hr

theorem nat_divmod_correct (a b : W) (hb : b.toNat ≠ 0) :
    ∃ q r, evalBuiltin table "divmod" [N a, N b] = .ok (.tup (N q) (N r)) ∧
      (q.toNat : Int) = pyFloorDiv a.toNat b.toNat ∧ (r.toNat : Int) = pyMod a.toNat b.toNat := by
  obtain ⟨q, r, h, hq, hr⟩ := idivmod_u_ne a b hb
  refine ⟨q, r, evalBuiltin_prim (builtin_row .divmod .nat rfl) ?_, hq, hr⟩
  show tagPair "tuple[nat, nat]" (idivmod_u a b) = _
  rw [h]; rfl

theorem nat_pow_correct (a b : W) :
    ∃ r, evalBin table "**" (N a) (N b) = .ok (N r) ∧ (r.toNat : Int) = wrapU (pyPow a.toNat b.toNat) :=
  evalBin_arith .nat (left_row .pow .nat rfl) rfl rfl (ipow_toNat a b)

theorem nat_abs_pos_correct (a : W) :
    evalBuiltin table "abs" [N a] = .ok (N a) ∧ evalUn table "+" (N a) = .ok (N a) :=
  ⟨evalBuiltin_prim (builtin_row .abs .nat rfl) rfl, evalUn_prim (unary_row .pos .nat rfl) rfl⟩

theorem nat_cmp_correct (a b : W) :
    evalBin table "<" (N a) (N b) = .ok (.bool (decide (a.toNat < b.toNat))) ∧
    evalBin table "<=" (N a) (N b) = .ok (.bool (decide (a.toNat ≤ b.toNat))) ∧
    evalBin table ">" (N a) (N b) = .ok (.bool (decide (a.toNat > b.toNat))) ∧
    evalBin table ">=" (N a) (N b) = .ok (.bool (decide (a.toNat ≥ b.toNat))) ∧
    evalBin table "==" (N a) (N b) = .ok (.bool (decide (a.toNat = b.toNat))) ∧
    evalBin table "!=" (N a) (N b) = .ok (.bool (decide (a.toNat ≠ b.toNat))) := by
  refine ⟨evalBin_cmp .nat a b (left_row .lt .nat rfl) rfl, evalBin_cmp .nat a b (left_row .le .nat rfl) rfl,
    evalBin_cmp .nat a b (left_row .gt .nat rfl) rfl, evalBin_cmp .nat a b (left_row .ge .nat rfl) rfl, ?_, ?_⟩
  · rw [← ieq_iff_toNat]; exact evalBin_cmp .nat a b (left_row .eq .nat rfl) rfl
  · rw [← ine_iff_toNat]; exact evalBin_cmp .nat a b (left_row .ne .nat rfl) rfl

theorem nat_truth_correct (a : W) :
    evalBuiltin table "bool" [N a] = .ok (.bool (decide (a.toNat ≠ 0))) := by
  show Res.ok (.bool (ine (BitVec.ofInt 64 0) a)) = _
  rw [ine_iff_toNat]
  exact congrArg (fun c => Res.ok (.bool c)) (decide_eq_decide.mpr ne_comm)

/-- `int(a)` on a nat is a no-op on the bits: the *value* is preserved only for `a < 2^63` (C16 `nat_to_int_value`,
    `nat_to_int_above`); this theorem states the bits, not the value. -/
theorem nat_conversions (a : W) :
    evalBuiltin table "nat" [N a] = .ok (N a) ∧
    evalBuiltin table "int" [N a] = .ok (I a) ∧
    evalBuiltin table "float" [N a] = .ok (.flt (.ofU a)) :=
  ⟨evalBuiltin_prim (builtin_row .nat .nat rfl) rfl, evalBuiltin_prim (builtin_row .int .nat rfl) rfl,
    evalBuiltin_prim (builtin_row .float .nat rfl) rfl⟩

theorem nat_truediv_structural (a b : W) :
    evalBin table "/" (N a) (N b) = .ok (.flt (.op2 "fdiv" (.ofU a) (.ofU b))) := by rfl

/-! ## bool -/

theorem bool_ops_correct (x y : Bool) :
    evalBin table "&" (.bool x) (.bool y) = .ok (.bool (x && y)) ∧
    evalBin table "|" (.bool x) (.bool y) = .ok (.bool (x || y)) ∧
    evalBin table "^" (.bool x) (.bool y) = .ok (.bool (x != y)) ∧
    evalBin table "==" (.bool x) (.bool y) = .ok (.bool (x == y)) ∧
    evalBin table "!=" (.bool x) (.bool y) = .ok (.bool (x != y)) ∧
    evalNot table (.bool x) = .ok (.bool (!x)) ∧
    evalBuiltin table "bool" [.bool x] = .ok (.bool x) := by
  revert x y; decide +kernel

theorem bool_conversions (x : Bool) :
    evalBuiltin table "int" [.bool x] = .ok (I (if x then 1 else 0)) ∧
    evalBuiltin table "nat" [.bool x] = .ok (N (if x then 1 else 0)) := by
  revert x; decide +kernel

/-! ## float: structure only (symbolic operands `x`, `y`; every HUGR float op is assumed to be the IEEE op of
     the same name, which is also what CPython uses) -/

theorem float_ops_structural (x y : FTerm) :
    evalBin table "+" (.flt x) (.flt y) = .ok (.flt (.op2 "fadd" x y)) ∧
    evalBin table "-" (.flt x) (.flt y) = .ok (.flt (.op2 "fsub" x y)) ∧
    evalBin table "*" (.flt x) (.flt y) = .ok (.flt (.op2 "fmul" x y)) ∧
    evalBin table "/" (.flt x) (.flt y) = .ok (.flt (.op2 "fdiv" x y)) ∧
    evalBin table "**" (.flt x) (.flt y) = .ok (.flt (.op2 "fpow" x y)) ∧
    evalUn table "-" (.flt x) = .ok (.flt (.op1 "fneg" x)) ∧
    evalUn table "+" (.flt x) = .ok (.flt x) ∧
    evalBuiltin table "abs" [.flt x] = .ok (.flt (.op1 "fabs" x)) ∧
    evalBuiltin table "float" [.flt x] = .ok (.flt x) :=
  ⟨evalBin_left (left_row .add .float rfl) rfl, evalBin_left (left_row .sub .float rfl) rfl,
    evalBin_left (left_row .mul .float rfl) rfl, evalBin_left (left_row .truediv .float rfl) rfl,
    evalBin_left (left_row .pow .float rfl) rfl, evalUn_prim (unary_row .neg .float rfl) rfl,
    evalUn_prim (unary_row .pos .float rfl) rfl, evalBuiltin_prim (builtin_row .abs .float rfl) rfl,
    evalBuiltin_prim (builtin_row .float .float rfl) rfl⟩

theorem float_cmp_structural (x y : FTerm) :
    evalBin table "<" (.flt x) (.flt y) = .ok (.fbool (.op2 "flt" x y)) ∧
    evalBin table "<=" (.flt x) (.flt y) = .ok (.fbool (.op2 "fle" x y)) ∧
    evalBin table ">" (.flt x) (.flt y) = .ok (.fbool (.op2 "fgt" x y)) ∧
    evalBin table ">=" (.flt x) (.flt y) = .ok (.fbool (.op2 "fge" x y)) ∧
    evalBin table "==" (.flt x) (.flt y) = .ok (.fbool (.op2 "feq" x y)) ∧
    evalBin table "!=" (.flt x) (.flt y) = .ok (.fbool (.op2 "fne" x y)) ∧
    evalBuiltin table "bool" [.flt x] = .ok (.fbool (.op2 "fne" x (.lit "0.0"))) :=
  ⟨evalBin_left (left_row .lt .float rfl) rfl, evalBin_left (left_row .le .float rfl) rfl,
    evalBin_left (left_row .gt .float rfl) rfl, evalBin_left (left_row .ge .float rfl) rfl,
    evalBin_left (left_row .eq .float rfl) rfl, evalBin_left (left_row .ne .float rfl) rfl, by rfl⟩

/-- float `//` is `floor(x / y)` of the *rounded* quotient and `%` is built on it — not Python's exact
    floor division (`1.0 // 0.1` is `9.0` in Python, `floor(1.0 / 0.1) = 10.0` here): D11, float level -/
theorem float_floordiv_mod_structural (x y : FTerm) :
    evalBin table "//" (.flt x) (.flt y) = .ok (.flt (.op1 "ffloor" (.op2 "fdiv" x y))) ∧
    evalBin table "%" (.flt x) (.flt y)
      = .ok (.flt (.op2 "fsub" x (.op2 "fmul" (.op1 "ffloor" (.op2 "fdiv" x y)) y))) ∧
    evalBuiltin table "divmod" [.flt x, .flt y]
      = .ok (.tup (.flt (.op1 "ffloor" (.op2 "fdiv" x y)))
                  (.flt (.op2 "fsub" x (.op2 "fmul" (.op1 "ffloor" (.op2 "fdiv" x y)) y)))) :=
  ⟨by rfl, by rfl, by rfl⟩

/-- coerced forms with a float: the integer operand is converted first (signed / unsigned reading), as Python
    does for `int ∘ float` -/
theorem mixed_float_structural (a : W) (y : FTerm) :
    evalBin table "+" (I a) (.flt y) = .ok (.flt (.op2 "fadd" (.ofS a) y)) ∧
    evalBin table "+" (.flt y) (I a) = .ok (.flt (.op2 "fadd" y (.ofS a))) ∧
    evalBin table "-" (N a) (.flt y) = .ok (.flt (.op2 "fsub" (.ofU a) y)) ∧
    evalBin table "/" (.flt y) (N a) = .ok (.flt (.op2 "fdiv" y (.ofU a))) :=
  ⟨evalBin_reflected (left_row .add .int rfl) rfl (reflected_row .add .float rfl) rfl,
    evalBin_left (left_row .add .float rfl) rfl,
    evalBin_reflected (left_row .sub .nat rfl) rfl (reflected_row .sub .float rfl) rfl,
    evalBin_left (left_row .truediv .float rfl) rfl⟩

/-! ## non-vacuity: concrete instances of the guarded theorems' hypotheses and a few ground evaluations -/
example : (0 : Int) < (BitVec.ofInt 64 3 : W).toInt := by decide
example : (0 : Int) ≤ (BitVec.ofInt 64 0 : W).toInt := by decide
example : (BitVec.ofInt 64 (-1) : W).toInt < 0 := by decide
example : (BitVec.ofInt 64 5 : W).toNat ≠ 0 := by decide
example : evalBin table "//" (I (BitVec.ofInt 64 (-7))) (I (BitVec.ofInt 64 2)) = .ok (I (BitVec.ofInt 64 (-4))) := by decide +kernel
example : pyFloorDiv (-7) 2 = -4 ∧ pyMod (-7) 2 = 1 ∧ pyShr (-9) 1 = -5 := by decide
example : evalBin table "+" (I (BitVec.ofInt 64 9223372036854775807)) (I 1) = .ok (I (BitVec.ofInt 64 (-9223372036854775808))) := by decide +kernel
example : wrapS (9223372036854775807 + 1) = -9223372036854775808 := by decide
example : evalBin table "-" (N 0) (N 1) = .ok (N (BitVec.ofNat 64 18446744073709551615)) := by decide +kernel
example : evalBuiltin table "abs" [I (BitVec.ofInt 64 (-9223372036854775808))] = .ok (I (BitVec.ofInt 64 (-9223372036854775808))) := by decide +kernel

end GuppyVerif.C04
