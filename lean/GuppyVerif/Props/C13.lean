import GuppyVerif.Lemmas.C13Kept
import GuppyVerif.Lemmas.C13Loop
import GuppyVerif.Lemmas.C13Mono
/-! # C13 — Generic instantiation and monomorphization preserve meaning (partial)

All theorems quantify over every signature / instantiation / parameter list
(structural induction over the nested type family, no size bound).

Statement of the design: `(f.instantiatePartial a).instantiate b = f.instantiate (fill a b)` for closed
`a`-entries, and the same for two partial steps.  What "closed" has to mean for this to be true of the code:
`argClosed` = no bound variable **and no parametrized (rank-2) function type** anywhere in the argument; and the
signature itself must be closed (`sigScoped`: body below the number of parameters, type of parameter `i` below
`i`).  Under these hypotheses the equality is *exact* (`Option Ty`: parameter lists, `preserve` flags, comptime
args and the error outcome of the second step), for an arbitrary second step.  Each hypothesis is necessary:
see the machine-checked counterexamples in namespace `Ex` below (replayed on the real code from
`corpus/c13/witnesses.json`).  The theorems are about the code after fix a3b7e76 (before it both composition
laws were false: witnesses `fixed-*` in the corpus).  Unmodelled: runtime equality, HUGR validity. -/
namespace GuppyVerif.Instantiate
open GuppyVerif

/-- **C13 (two partial steps compose)**: for a closed signature `f`, closed rank-1 arguments in the
    first step `a` and *any* second step `b` that has one entry per parameter kept by `a`: instantiating
    with `a` and then with `b` gives exactly (parameters, preserve flags, comptime args and error outcome
    included) what the single step with the merged arguments `fillP a b` gives. -/
theorem partial_partial (f g : Ty) (a b c : PInst)
    (hf : sigScoped f = true) (ha : pinstClosed a) (hc : fillP a b = some c)
    (hg : instantiatePartial f a = some g) :
    instantiatePartial g b = instantiatePartial f c := by
  cases f with
  | func ins o ps cs =>
    simp only [sigScoped, Bool.and_eq_true] at hf
    obtain ⟨⟨⟨hs1, hs2⟩, hs3⟩, hs4⟩ := hf
    rw [instantiatePartial_func] at hg
    obtain ⟨⟨σ', remA'⟩, h0, hg⟩ := Option.bind_eq_some_iff.mp hg
    obtain ⟨ins', h1, hg⟩ := Option.bind_eq_some_iff.mp hg
    obtain ⟨o', h2, hg⟩ := Option.bind_eq_some_iff.mp hg
    obtain ⟨cs', h3, ⟨⟩⟩ := Option.bind_eq_some_iff.mp hg
    have hlen : σ'.length = ps.length := by simpa using (instLoop_shape ps a [] [] _ h0).2.1
    obtain ⟨G, hG, hA⟩ := loop_comp ps a b c [] [] [] [] [] σ' remA' (by simpa using hs4) ha hc
      Rel.nil rfl h0
    cases (List.nil_append G ▸ hG : remA' = G)
    rw [instantiatePartial_func, instantiatePartial_func]
    refine hA _ _ fun τ' ρ' r R => ?_
    simp only [comp_inL R ins ins' (hlen ▸ hs1) h1, comp_ty R o o' (hlen ▸ hs2) h2,
      comp_constL R cs cs' (hlen ▸ hs3) h3]
  | _ => simp [sigScoped] at hf

/-- **C13 (partial then full = full)**: `(f.instantiate_partial a).instantiate b = f.instantiate (fill a b)`
    — exact equality of results and of error outcomes — for a closed signature and closed rank-1 `a`. -/
theorem partial_then_full (f g : Ty) (a : PInst) (b c : List Arg)
    (hf : sigScoped f = true) (ha : pinstClosed a) (hc : fill a b = some c)
    (hg : instantiatePartial f a = some g) :
    instantiate g b = instantiate f c := by
  unfold instantiate
  exact partial_partial f g a (full b) (full c) hf ha (by rw [fillP_full, hc]; rfl) hg

/-- **C13 (`compile_variable_idx` is the order-preserving bijection)**: `keptIdx m` lists exactly the
    un-monomorphized positions of `m` (those holding `None`) in strictly increasing order, and
    `compile_variable_idx(i, m) = j` iff `i` is the `j`-th of them; so it maps the un-monomorphized indices
    one-to-one and monotonically onto `[0, k)`, `k = len(keptIdx m)`, and fails (assertion / IndexError)
    on every other index. -/
theorem varidx_bijection (m : PInst) :
    (∀ i j, compileVariableIdx i m = some j ↔ (keptIdx m)[j]? = some i) ∧
    (keptIdx m).Pairwise (· < ·) ∧
    (∀ i, i ∈ keptIdx m ↔ m[i]? = some none) :=
  ⟨compileVariableIdx_iff m, keptIdx_sorted m, mem_keptIdx m⟩

/-- **C13 (`rem_args`)**: when `partially_monomorphize_args` succeeds, `mono_args` has one entry per
    (normalised) argument and `rem_args` are exactly the normalised arguments at the `None` positions of
    `mono_args`, in order; consequently the Hugr index `compile_variable_idx(i)` of a kept variable `i`
    points at its own argument in `rem_args`. -/
theorem rem_args_spec (ps : List Param) (args : List Arg) (cur : Option PInst) (mono : PInst) (rem : List Arg)
    (h : partiallyMonomorphizeArgs ps args cur = some (mono, rem)) :
    ∃ args', normaliseArgs args cur = some args' ∧ mono.length = args'.length ∧
      rem.length = (keptIdx mono).length ∧
      (∀ (j i : Nat), (keptIdx mono)[j]? = some i → rem[j]? = args'[i]? ∧ (args'[i]?).isSome) ∧
      (∀ (i j : Nat), compileVariableIdx i mono = some j → rem[j]? = args'[i]?) := by
  obtain ⟨args', h0, _, hl, _, rfl⟩ := partiallyMonomorphizeArgs_some h
  exact ⟨args', h0, hl, remArgs_length args' mono hl.symm, fun j i => remArgs_get args' mono j i hl.symm,
    fun i j hij => (remArgs_get args' mono j i hl.symm ((compileVariableIdx_iff mono i j).mp hij)).1⟩

/-- **C13 (monomorphization covers exactly what Hugr cannot express)**: for parameters numbered by
    position, when `partially_monomorphize_args` succeeds (`args'` = the arguments normalised w.r.t. the
    outer monomorphization):
    (a) for every const parameter `i` whose type is not `nat`, every parameter `j` occurring in that type
        is monomorphized (`mono_args[j] = args'[j]`), and if the type is still not `nat` after instantiation
        the const parameter itself is monomorphized;
    (b) nothing else is: a monomorphized position holds its own argument and is required by (a);
    (c) monomorphized arguments contain no bound variables. -/
theorem mono_covers (ps : List Param) (args : List Arg) (cur : Option PInst) (mono : PInst) (rem : List Arg)
    (hok : paramIdxOk 0 ps = true)
    (h : partiallyMonomorphizeArgs ps args cur = some (mono, rem)) :
    ∃ args', normaliseArgs args cur = some args' ∧
      (∀ i nm ty fc, Param.const i nm ty fc ∈ ps →
        (ty ≠ natTy → ∀ (j : Nat), OccTy j ty → ∃ x, args'[j]? = some x ∧ mono[j]? = some (some x)) ∧
        (∀ ty', instTy (full args') false ty = some ty' → ty' ≠ natTy →
          ∃ x, args'[i]? = some x ∧ mono[i]? = some (some x))) ∧
      (∀ (j : Nat) (x : Arg), mono[j]? = some (some x) → args'[j]? = some x ∧
        ∃ i nm ty fc, Param.const i nm ty fc ∈ ps ∧
          ((ty ≠ natTy ∧ OccTy j ty) ∨
           (j = i ∧ ∃ ty', instTy (full args') false ty = some ty' ∧ ty' ≠ natTy))) ∧
      (∀ (j : Nat) (x : Arg), mono[j]? = some (some x) → argBV x = []) := by
  obtain ⟨args', h0, h1, _, hbv, _⟩ := partiallyMonomorphizeArgs_some h
  have S := monoLoop_spec args' ps 0 args' _ mono hok rfl h1
  refine ⟨args', h0, fun i nm ty fc hp => ⟨fun hne j hocc => ?_, fun ty' hty hne => ?_⟩,
    fun j x hm => ?_, fun j x hm => hbv x (List.mem_of_getElem? hm)⟩
  · exact S.covers j ⟨_, hp, Or.inl ⟨hne, hocc⟩⟩
  · exact S.covers i ⟨_, hp, Or.inr ⟨rfl, ty', hty, hne⟩⟩
  · rcases S.only j x hm with h | ⟨hx, p, hp, hn⟩
    · simp only [List.getElem?_map] at h
      cases hh : args'[j]? <;> simp [hh] at h
    · cases p with
      | ty i n c d => exact hn.elim
      | const i nm ty fc => exact ⟨hx, i, nm, ty, fc, hp, hn⟩

/-- **C13 (`require_monomorphization`)**: the returned set consists exactly of the const parameters whose
    type is not `nat` and of the parameters occurring (as bound variables) in such a type. -/
theorem require_spec (ps r : List Param) (h : requireMonomorphization ps = some r) :
    ∀ p, p ∈ r ↔ ∃ i nm ty fc, Param.const i nm ty fc ∈ ps ∧ ty ≠ natTy ∧
      (p = .const i nm ty fc ∨ ∃ j, OccTy j ty ∧ ps[j]? = some p) := by
  intro p
  rw [requireLoop_spec ps ps r h p]
  constructor
  · rintro ⟨q, hq, hs⟩
    cases q with
    | ty i n c d => exact hs.elim
    | const i nm ty fc => exact ⟨i, nm, ty, fc, hq, hs.1, hs.2⟩
  · rintro ⟨i, nm, ty, fc, hq, hne, hs⟩
    exact ⟨_, hq, hne, hs⟩

/-- **C13 (HUGR index of a kept type / const variable)**: inside a partially monomorphized function (mono
    args `m`) a variable `i` that stays generic (`m[i] = None`) is emitted — by `type_var_to_hugr` and, for a
    `nat`-typed const variable, by `const_var_to_hugr` alike — as the HUGR variable `j = compile_variable_idx(i, m)`:
    `i` is the `j`-th un-monomorphized parameter, so `j` is below the number `len(keptIdx m)` of type parameters
    the lowered `FuncDefn` binds (= `len(rem_args)` by `rem_args_spec`), and distinct kept variables get distinct
    indices.  (A const variable whose declared type is not `nat` is never emitted: `none`.) -/
theorem hugr_var_idx (m : PInst) (ty : Ty) (i : Nat) (hi : m[i]? = some none) :
    ∃ j, compileVariableIdx i m = some j ∧ j < (keptIdx m).length ∧ (keptIdx m)[j]? = some i ∧
      typeVarToHugr (some m) i = some (.var j) ∧
      (isNat ty = true → constVarToHugr (some m) ty i = some (.var j)) ∧
      (isNat ty = false → constVarToHugr (some m) ty i = none) ∧
      (∀ i', compileVariableIdx i' m = some j → i' = i) := by
  obtain ⟨j, hj⟩ : ∃ j, (keptIdx m)[j]? = some i := List.mem_iff_getElem?.mp ((mem_keptIdx m i).mpr hi)
  have hc : compileVariableIdx i m = some j := (compileVariableIdx_iff m i j).mpr hj
  refine ⟨j, hc, (List.getElem?_eq_some_iff.mp hj).1, hj, ?_, ?_, ?_, ?_⟩
  · simp [typeVarToHugr, hi, hc]
  · intro hn; simp [constVarToHugr, hn, hi, hc]
  · intro hn; simp [constVarToHugr, hn]
  · intro i' h'
    have := (compileVariableIdx_iff m i' j).mp h'
    rw [hj] at this
    exact (Option.some.inj this).symm

/-! ## Non-vacuity, and necessity of each hypothesis (machine-checked witnesses; the same inputs are
    replayed on the real code from `corpus/c13/`) -/
namespace Ex

def nf : Flags := ⟨false, false, false⟩
def tT : Ty := .bvar "T" 0 true true
def tU : Ty := .bvar "U" 2 false false
/-- `∀ T, n: nat, U, x: U. (T, array[U, n], Ph[int, x]) -> T`  (interleaved type / nat-const / dependent-const) -/
def f : Ty :=
  .func [.mk tT nf, .mk (.opaque "array" [.ty tU, .const (.bvar natTy "n" 1)]) nf,
         .mk (.opaque "Ph" [.ty (.num .int), .const (.bvar tU "x" 3)]) nf] tT
    [.ty 0 "T" true true, .const 1 "n" natTy false, .ty 2 "U" false false, .const 3 "x" tU false] []
/-- first step: `T := (int,)`, everything else kept -/
def a : PInst := [some (.ty (.tuple [.num .int] false)), none, none, none]
/-- second step (over `n, U, x`): `n := 5`, `U` kept, `x := 7` -/
def b : PInst := [some (.const (.val natTy (.int 5))), none, some (.const (.val (.num .int) (.int 7)))]
def c : PInst := [some (.ty (.tuple [.num .int] false)), some (.const (.val natTy (.int 5))), none,
  some (.const (.val (.num .int) (.int 7)))]

example : sigScoped f = true := rfl
example : pinstClosed a := by
  intro v hv
  simp only [a, List.mem_cons, Option.some.injEq, reduceCtorEq, List.not_mem_nil, or_false] at hv
  subst hv; rfl
example : fillP a b = some c := rfl
/-- the hypotheses of `partial_partial` are satisfiable with a non-trivial result: one kept parameter
    (`U`, renumbered 2 → 1 → 0), three instantiated, `preserve` set on the tuple -/
example : (instantiatePartial f a).bind (instantiatePartial · b) =
    some (.func [.mk (.tuple [.num .int] true) nf,
                 .mk (.opaque "array" [.ty (.bvar "U" 0 false false), .const (.val natTy (.int 5))]) nf,
                 .mk (.opaque "Ph" [.ty (.num .int), .const (.val (.num .int) (.int 7))]) nf]
            (.tuple [.num .int] true) [.ty 0 "U" false false] []) := rfl
example : instantiatePartial f c = (instantiatePartial f a).bind (instantiatePartial · b) := rfl

def poly : Ty := .func [.mk (.bvar "X" 0 true true) nf] (.num .int) [.ty 0 "X" true true] []
def g2 : Ty := .func [.mk (.bvar "T" 0 false false) nf, .mk (.bvar "U" 1 false false) nf] (.none false)
  [.ty 0 "T" false false, .ty 1 "U" false false] []
-- **closedness is necessary (rank)**: with a parametrized function type as first-step argument the two
-- steps raise ("Tried to instantiate under binder") while the merged step succeeds.
example : ((instantiatePartial g2 [some (.ty poly), none]).bind
      (instantiatePartial · [some (.ty (.num .int))])) = none ∧
    (instantiatePartial g2 [some (.ty poly), some (.ty (.num .int))]).isSome = true := ⟨rfl, rfl⟩

/-- **closedness is necessary (bound variables)**: an open first-step argument is captured by the second
    step. -/
example : ((instantiatePartial g2 [some (.ty (.bvar "U" 0 false false)), none]).bind
      (instantiatePartial · [some (.ty (.num .int))])).map (fun t => match t with | .func ins _ _ _ => ins | _ => []) =
      some [.mk (.num .int) nf, .mk (.num .int) nf] ∧
    (instantiatePartial g2 [some (.ty (.bvar "U" 0 false false)), some (.ty (.num .int))]).map
      (fun t => match t with | .func ins _ _ _ => ins | _ => []) =
      some [.mk (.bvar "U" 0 false false) nf, .mk (.num .int) nf] := ⟨rfl, rfl⟩

/-- **a closed signature is necessary**: a dangling index (`V` = 2 with two parameters) is lowered by the
    first step into the range of the second. -/
def g3 : Ty := .func [.mk (.bvar "V" 2 false false) nf] (.none false)
  [.ty 0 "T" false false, .ty 1 "U" false false] []
example : sigScoped g3 = false ∧
    ((instantiatePartial g3 [some (.ty (.num .int)), none]).bind
      (instantiatePartial · [some (.ty (.num .float))])).map (fun t => match t with | .func ins _ _ _ => ins | _ => []) =
      some [.mk (.num .float) nf] ∧
    (instantiatePartial g3 [some (.ty (.num .int)), some (.ty (.num .float))]).map
      (fun t => match t with | .func ins _ _ _ => ins | _ => []) =
      some [.mk (.bvar "V" 0 false false) nf] := ⟨rfl, rfl, rfl⟩

/-- `varidx_bijection`, `rem_args_spec`, `mono_covers` on `def foo[T, x: T, n: nat]` called with
    `T := nat` (so `x` stays generic although its declared type is not `nat`), resp. `T := int`. -/
def ps : List Param := [.ty 0 "T" true true, .const 1 "x" (.bvar "T" 0 true true) false, .const 2 "n" natTy false]
def argsNat : List Arg := [.ty natTy, .const (.val natTy (.int 3)), .const (.val natTy (.int 4))]
def argsInt : List Arg := [.ty (.num .int), .const (.val (.num .int) (.int 3)), .const (.val natTy (.int 4))]
example : paramIdxOk 0 ps = true := rfl
example : partiallyMonomorphizeArgs ps argsNat none =
    some ([some (.ty natTy), none, none], [.const (.val natTy (.int 3)), .const (.val natTy (.int 4))]) := rfl
example : partiallyMonomorphizeArgs ps argsInt none =
    some ([some (.ty (.num .int)), some (.const (.val (.num .int) (.int 3))), none],
          [.const (.val natTy (.int 4))]) := rfl
example : keptIdx [some (.ty natTy), none, none] = [1, 2] ∧
    compileVariableIdx 2 [some (.ty natTy), none, none] = some 1 ∧
    compileVariableIdx 0 [some (.ty natTy), none, none] = none := ⟨rfl, rfl, rfl⟩
example : OccTy 0 (.bvar "T" 0 true true) := .bvar _ _ _ _
/-- `pick(k: int @comptime, xs: array[int, n])`: params `[k, n]`, `k` monomorphized: `n` is HUGR variable 0, not 1 -/
example : constVarToHugr (some [some (.const (.val (.num .int) (.int 3))), none]) natTy 1 = some (.var 0) := rfl
example : requireMonomorphization ps = some [.const 1 "x" (.bvar "T" 0 true true) false, .ty 0 "T" true true] := rfl

end Ex

end GuppyVerif.Instantiate
