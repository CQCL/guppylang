import GuppyVerif.Lemmas.C08Term
import GuppyVerif.Props.C09
/-! # C08 — Use-before-definition and path-dependent types are rejected exactly

The property theorems, with two example CFGs (`exU`, `exD`).  `checkCfg` is the model of `check_cfg` (entry `check_bb`, then the BFS
over control-flow edges with block signatures and `check_rows_match`); it returns all candidate
errors of the first failing step (`none` = out of fuel; `check_terminates` shows an explicit
amount of fuel always suffices).  All statements are for arbitrary CFGs with arbitrary
statement (event) lists — no size bound. -/
namespace GuppyVerif.UseDef
open GuppyVerif.Dataflow

/-- everything the checker can report -/
theorem checkCfg_spec {U : UCfg} (hU : U.WF) {A : Ana} (hA : AnaOK U A) (fuel : Nat)
    (r : Except (List Err) Compiled) (h : checkCfg U A fuel = some r) :
    match r with
    | .ok _ => ∀ x, ¬ Undef U x
    | .error es => es ≠ [] ∧
        ((∃ x, Undef U x) ∧ (∀ e ∈ es, ∃ x, e = .notDefined x ∧ Undef U x) ∨
         (∀ x, ¬ Undef U x) ∧ (∀ e ∈ es, ∃ x, e = .branchType x ∧ TypeConflict U x)) := by
  cases checkCfg_verdict hU hA fuel r h with
  | ok _ hno _ => exact hno
  | undef he => exact ⟨he.1, .inl ⟨he.exists.imp fun _ h => h.2, he.2⟩⟩
  | conflict hno he => exact ⟨he.1, .inr ⟨hno, he.2⟩⟩

/-- **C08, first sentence.**  The checker reports "not defined" iff some local (or unknown)
    variable is read on a control-flow path from the entry before any assignment; every variable
    it may name is one of those. -/
theorem undefined_iff_path {U : UCfg} (hU : U.WF) {A : Ana} (hA : AnaOK U A) (fuel : Nat)
    (r : Except (List Err) Compiled) (h : checkCfg U A fuel = some r) :
    ((∃ es x, r = .error es ∧ Err.notDefined x ∈ es) ↔ ∃ x, Undef U x) ∧
    (∀ es x, r = .error es → Err.notDefined x ∈ es → Undef U x) := by
  cases checkCfg_verdict hU hA fuel r h with
  | ok _ hno _ =>
    exact ⟨⟨fun ⟨_, _, he, _⟩ => (nomatch he), fun ⟨x, hx⟩ => absurd hx (hno x)⟩, fun _ _ he => nomatch he⟩
  | undef he =>
    obtain ⟨x, hx, hu⟩ := he.exists
    refine ⟨⟨fun _ => ⟨x, hu⟩, fun _ => ⟨_, x, rfl, hx⟩⟩, fun _ y e hy => ?_⟩
    cases e
    obtain ⟨_, ⟨⟩, hu⟩ := he.2 _ hy
    exact hu
  | @conflict es hno he =>
    have key : ∀ x, Err.notDefined x ∉ es := fun x hx => by obtain ⟨_, ⟨⟩, _⟩ := he.2 _ hx
    exact ⟨⟨fun ⟨_, x, e, hx⟩ => by cases e; exact absurd hx (key x), fun ⟨x, hx⟩ => absurd hx (hno x)⟩,
      fun _ x e hx => by cases e; exact absurd hx (key x)⟩

/-- **C08, second sentence (soundness).**  A "different types" error names a variable that
    reaches a block with two different types along two paths and is read after that join. -/
theorem branchtype_sound {U : UCfg} (hU : U.WF) {A : Ana} (hA : AnaOK U A) (fuel : Nat)
    (es : List Err) (h : checkCfg U A fuel = some (.error es)) (x : Var)
    (hx : Err.branchType x ∈ es) : TypeConflict U x ∧ ∀ y, ¬ Undef U y := by
  cases checkCfg_verdict hU hA fuel _ h with
  | undef he => obtain ⟨_, ⟨⟩, _⟩ := he.2 _ hx
  | conflict hno he =>
    obtain ⟨_, ⟨⟩, hc⟩ := he.2 _ hx
    exact ⟨hc, hno⟩

/-- **C08, second sentence (completeness).**  If the check succeeds, no variable that is read
    after a join can arrive there with two different types: the BFS has compared every edge it
    follows, and `check_rows_match` accepted all of them. -/
theorem accepted_no_conflict {U : UCfg} (hU : U.WF) {A : Ana} (hA : AnaOK U A) (fuel : Nat)
    (c : Compiled) (h : checkCfg U A fuel = some (.ok c)) (x : Var) : ¬ TypeConflict U x := by
  cases checkCfg_verdict hU hA fuel _ h with
  | ok _ _ hc => exact hc x

/-- **C08, second sentence, both directions**: provided no variable is undefined, the check
    reports a type error iff some variable has a path-dependent type where it is read. -/
theorem branchtype_iff {U : UCfg} (hU : U.WF) {A : Ana} (hA : AnaOK U A) (fuel : Nat)
    (r : Except (List Err) Compiled) (h : checkCfg U A fuel = some r) (hno : ∀ x, ¬ Undef U x) :
    (∃ es x, r = .error es ∧ Err.branchType x ∈ es) ↔ ∃ x, TypeConflict U x := by
  cases checkCfg_verdict hU hA fuel r h with
  | ok _ _ hc => exact ⟨fun ⟨_, _, he, _⟩ => (nomatch he), fun ⟨x, hx⟩ => absurd hx (hc x)⟩
  | undef he => obtain ⟨x, _, hu⟩ := he.exists; exact absurd hu (hno x)
  | conflict _ he =>
    obtain ⟨x, hx, hc⟩ := he.exists
    exact ⟨fun _ => ⟨x, hc⟩, fun _ => ⟨_, x, rfl, hx⟩⟩

/-- **C08, third sentence.**  A program free of both problems is never rejected for these
    reasons: the check succeeds. -/
theorem accepts_otherwise {U : UCfg} (hU : U.WF) {A : Ana} (hA : AnaOK U A) (fuel : Nat)
    (r : Except (List Err) Compiled) (h : checkCfg U A fuel = some r)
    (h1 : ∀ x, ¬ Undef U x) (h2 : ∀ x, ¬ TypeConflict U x) : ∃ c, r = .ok c := by
  cases checkCfg_verdict hU hA fuel r h with
  | ok c _ _ => exact ⟨c, rfl⟩
  | undef he => obtain ⟨x, _, hu⟩ := he.exists; exact absurd hu (h1 x)
  | conflict _ he => obtain ⟨x, _, hc⟩ := he.exists; exact absurd hc (h2 x)

/-- The internal failure modes of `check_cfg` are unreachable: `check_rows_match` never looks up
    a name missing from one of the rows (rows flowing into a block always have the same keys),
    and every queued edge index is valid. -/
theorem no_internal_error {U : UCfg} (hU : U.WF) {A : Ana} (hA : AnaOK U A) (fuel : Nat)
    (es : List Err) (h : checkCfg U A fuel = some (.error es)) (n : Nat) :
    Err.internal n ∉ es := by
  intro hm
  cases checkCfg_verdict hU hA fuel _ h with
  | undef he => obtain ⟨_, ⟨⟩, _⟩ := he.2 _ hm
  | conflict _ he => obtain ⟨_, ⟨⟩, _⟩ := he.2 _ hm

/-- The analysis results that `check` computes (any scheduler, by C09) satisfy `AnaOK`. -/
theorem anaOK_of_runs {U : UCfg} (hU : U.WF) (s₁ s₂ : List Blk → Blk) (f₁ f₂ : Nat) (l : LSt) (a : ASt)
    (hl : liveRun U.cfg s₁ f₁ (liveInit U.cfg []) = some l)
    (ha : assRun U.cfg ⟨U.argNames, U.argNames⟩ s₂ f₂ (assInit U.cfg ⟨U.argNames, U.argNames⟩) = some a) :
    AnaOK U ⟨l.vals, a.befD, a.befM⟩ := by
  constructor
  · intro b hb x
    exact (liveRun_correct U.cfg hU.cfg [] s₁ f₁ l hl b hb x).trans liveSpec_nil
  · intro x
    have := (assRun_correct U.cfg hU.cfg ⟨U.argNames, U.argNames⟩ s₂ f₂ a ha U.entry hU.entry_mem x).1
    show x ∈ a.befD U.entry ↔ _
    rw [this, notDef_root_iff hU.entry_root, Classical.not_not]
    exact ⟨fun h => h.2, fun hx => ⟨List.mem_append_right _ hx, hx⟩⟩

/-- **End to end**: analyses (any visiting order) followed by the check decide exactly the
    path-based reading. -/
theorem check_spec {U : UCfg} (hU : U.WF) (fuel : Nat) (r : Except (List Err) Compiled)
    (h : check U fuel = some r) :
    ((∃ es x, r = .error es ∧ Err.notDefined x ∈ es) ↔ ∃ x, Undef U x) ∧
    (∀ es x, r = .error es → Err.branchType x ∈ es → TypeConflict U x) ∧
    ((∀ x, ¬ Undef U x) → (∀ x, ¬ TypeConflict U x) → ∃ c, r = .ok c) := by
  unfold check at h
  simp only at h
  split at h
  · rename_i l a hl ha
    have hA := anaOK_of_runs hU _ _ fuel fuel l a hl ha
    refine ⟨(undefined_iff_path hU hA fuel r h).1, ?_, accepts_otherwise hU hA fuel r h⟩
    intro es x he hx
    subst he
    exact (branchtype_sound hU hA fuel es h x hx).1
  · cases h

/-- **What "read" means at statement level** (`VariableVisitor`): a block counts as reading `x`
    iff one of its statements reads `x` before any statement of the block assigns it. -/
theorem used_iff_read_before_write (U : UCfg) (b : Blk) (x : Var) :
    x ∈ U.cfg.used b ↔ ReadBeforeWrite x (U.events b) := by
  show x ∈ usedOf (U.events b) [] [] ↔ _
  rw [mem_usedOf_gen]
  simp

/-- fuel that always suffices for analyses + check -/
def checkBound (U : UCfg) : Nat :=
  max (bfsBound U) (max (liveBound U.cfg []) (assBound U.cfg ⟨U.argNames, U.argNames⟩))

/-- **The model of `check_cfg` terminates**: with `checkBound U` fuel (explicit: the maximum of the
    number of followed edges and the two analysis bounds of C09) `check` returns a verdict, never "out of
    fuel".  Together with `check_spec` this is total correctness of the model. -/
theorem check_terminates {U : UCfg} (hU : U.WF) (fuel : Nat) (hf : checkBound U ≤ fuel) :
    (check U fuel).isSome = true := by
  unfold checkBound at hf
  have h3 : assBound U.cfg ⟨U.argNames, U.argNames⟩ ≤ fuel := by omega
  obtain ⟨l, hl⟩ := Option.isSome_iff_exists.mp
    (liveRun_terminates U.cfg hU.cfg [] (fun q => q.headD 0) fuel (by omega))
  obtain ⟨a, ha⟩ := Option.isSome_iff_exists.mp (assRun_terminates U.cfg hU.cfg
    ⟨U.argNames, U.argNames⟩ (fun q => q.headD 0) fuel h3)
  have ha' : assRun U.cfg ⟨U.args.map (·.1), U.args.map (·.1)⟩ (fun q => q.headD 0) fuel
      (assInit U.cfg ⟨U.args.map (·.1), U.args.map (·.1)⟩) = some a := ha
  unfold check
  simp only
  rw [hl, ha']
  exact checkCfg_isSome U hU _ fuel (by omega)

/-- total correctness: a verdict exists and it is the path-based one -/
theorem check_total {U : UCfg} (hU : U.WF) :
    ∃ r, check U (checkBound U) = some r ∧
      ((∃ es x, r = .error es ∧ Err.notDefined x ∈ es) ↔ ∃ x, Undef U x) ∧
      ((∀ x, ¬ Undef U x) → (∀ x, ¬ TypeConflict U x) → ∃ c, r = .ok c) := by
  obtain ⟨r, hr⟩ := Option.isSome_iff_exists.mp (check_terminates hU _ (Nat.le_refl _))
  have hs := check_spec hU _ r hr
  exact ⟨r, hr, hs.1, hs.2.2⟩


/-- **Unreachable code cannot change the types seen by reachable code.**  In a pruned CFG (what
    `CFGBuilder.build` hands to the checker; the harness checks `Pruned` on every captured CFG) every typed
    path that arrives at a really reachable block runs over real edges only: the never-taken edges and the
    code behind them contribute no type to live code. -/
theorem reachable_types_from_real_paths {U : UCfg} (hP : Pruned U) {x : Var} {b : Blk} {o : Option Ty}
    (h : TyAt U x b o) (hb : RealReach U b) : TyAtReal U x b o := by
  induction h with
  | entry => exact .entry
  | @edge p s o _ he ih =>
    obtain ⟨hp, hs⟩ := hP p s he hb
    exact .edge (ih hp) hs

/-- conversely a real typed path is a typed path (no hypothesis) -/
theorem tyAtReal_tyAt {U : UCfg} {x : Var} {b : Blk} {o : Option Ty} (h : TyAtReal U x b o) :
    TyAt U x b o := by
  induction h with
  | entry => exact .entry
  | edge _ hs ih => exact .edge ih (List.mem_append_left _ hs)

/-- **A rejection at a reachable join is caused by real paths.**  If the variable named in a
    "different types" error conflicts at a really reachable block, two real paths give it two types. -/
theorem reachable_conflict_is_real {U : UCfg} (hP : Pruned U) {x : Var} {b : Blk} {t₁ t₂ : Ty}
    (h₁ : TyAt U x b (some t₁)) (h₂ : TyAt U x b (some t₂)) (hb : RealReach U b) :
    TyAtReal U x b (some t₁) ∧ TyAtReal U x b (some t₂) :=
  ⟨reachable_types_from_real_paths hP h₁ hb, reachable_types_from_real_paths hP h₂ hb⟩


theorem livePathReal_dead {U : UCfg} (hP : Pruned U) {x : Var} {b : Blk}
    (h : LivePathReal U x b) (hb : ¬ RealReach U b) : DeadRead U x := by
  induction h with
  | @use b hu => exact ⟨b, hb, hu⟩
  | @step b c _ hs _ ih =>
    exact ih fun hc => hb (hP b c (List.mem_append_left _ hs) hc).1

/-- **Where a "not defined" rejection comes from.**  In a pruned CFG a path on which `x` is read before
    being assigned either runs over real edges only (a path the program can take, branch conditions
    ignored) or ends at a read inside unreachable code. -/
theorem livePath_real_or_dead {U : UCfg} (hP : Pruned U) {x : Var} {b : Blk}
    (h : LivePath U.cfg x b) : LivePathReal U x b ∨ DeadRead U x := by
  induction h with
  | use hu => exact Or.inl (.use hu)
  | @step b c hna he _ ih =>
    rcases ih with hr | hd
    · by_cases hc : RealReach U c
      · exact Or.inl (.step hna (hP b c he hc).2 hr)
      · exact Or.inr (livePathReal_dead hP hr hc)
    · exact Or.inr hd

/-- so: a program whose unreachable code reads nothing unassigned is rejected as "not defined" only for a
    real path from the entry -/
theorem undef_real_or_dead {U : UCfg} (hP : Pruned U) {x : Var} (h : Undef U x) :
    LivePathReal U x U.entry ∨ DeadRead U x :=
  livePath_real_or_dead hP h.2.2

/-! ## Non-vacuity: `if c: x = 1` / `else: pass`, then read `x`; and a re-typed variable. -/

/-- blocks 0 (entry; reads c=1) → 2 (x=5 := int) | 3 ; both → 4 (reads x) → 1 (exit) -/
def exU (tyElse : Option Ty) : UCfg where
  blocks := [0, 1, 2, 3, 4]
  succ := fun b => match b with | 0 => [2, 3] | 2 => [4] | 3 => [4] | 4 => [1] | _ => []
  dsucc := fun _ => []
  pred := fun b => match b with | 2 => [0] | 3 => [0] | 4 => [2, 3] | 1 => [4] | _ => []
  dpred := fun _ => []
  entry := 0
  events := fun b => match b with
    | 0 => [.use 1] | 2 => [.asg 5 10]
    | 3 => (match tyElse with | some t => [.asg 5 t] | none => [])
    | 4 => [.use 5] | _ => []
  args := [(1, 11)]
  globals := []

example : (match check (exU none) 50 with | some (.error es) => es == [.notDefined 5] | _ => false) = true := by
  decide
example : (match check (exU (some 12)) 50 with | some (.error es) => es == [.branchType 5] | _ => false) = true := by
  decide
example : (match check (exU (some 10)) 50 with | some (.ok _) => true | _ => false) = true := by decide
example : Undef (exU none) 5 :=
  ⟨by decide, Or.inl (by decide),
    .step (by decide) (show 3 ∈ (exU none).cfg.succ 0 ++ (exU none).cfg.dsucc 0 by decide)
      (.step (by decide) (show 4 ∈ (exU none).cfg.succ 3 ++ (exU none).cfg.dsucc 3 by decide)
        (.use (by decide)))⟩

/-- dead code nested behind the entry's `return`: 0 (entry, returns) → 1 (exit), 0 ⇢ 2 (dead branch) →
    3 (x := int) | 4 (x := float), both → 5 (reads x); the jump 5 → 1 back into live code is pruned -/
def exD : UCfg where
  blocks := [0, 1, 2, 3, 4, 5]
  succ := fun b => match b with | 0 => [1] | 2 => [3, 4] | 3 => [5] | 4 => [5] | _ => []
  dsucc := fun b => match b with | 0 => [2] | _ => []
  pred := fun b => match b with | 1 => [0] | 3 => [2] | 4 => [2] | 5 => [3, 4] | _ => []
  dpred := fun b => match b with | 2 => [0] | _ => []
  entry := 0
  events := fun b => match b with
    | 2 => [.use 1] | 3 => [.asg 5 10] | 4 => [.asg 5 12] | 5 => [.use 5] | _ => []
  args := [(1, 11)]
  globals := []

example : (match check exD 50 with | some (.error es) => es == [.branchType 5] | _ => false) = true := by
  decide

theorem exD_reach_aux {s : Blk} (h : RealReach exD s) : s = 0 ∨ s = 1 := by
  induction h with
  | entry => exact Or.inl rfl
  | @step p s _ hs ih =>
    rcases ih with rfl | rfl
    · right; simpa [exD] using hs
    · simp [exD] at hs

example : Pruned exD := by
  intro p s he hs
  rcases exD_reach_aux hs with rfl | rfl
  · -- nothing jumps to the entry
    have : ∀ p, (0 : Blk) ∉ exD.succ p ++ exD.dsucc p := by
      intro p; unfold exD; simp only; split <;> split <;> simp
    exact absurd he (this p)
  · have hp : p = 0 := by
      unfold exD at he; simp only at he
      split at he <;> split at he <;> simp_all
    subst hp
    exact ⟨.entry, by simp [exD]⟩

end GuppyVerif.UseDef
