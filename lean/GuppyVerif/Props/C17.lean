import GuppyVerif.Lemmas.C17
/-! # C17 — Integer literals are range-checked and preserved exactly

The model (`Model/IntLit.lean`) mirrors `_int_bounds_check`,
`python_value_to_guppy_type`, the checker's constant / comptime cases, the builder's negative-literal
folding and the `IntVal` / `UnsignedIntVal` encodings; the ranges of the statement are the plain
decimal predicates `InIntRange` / `InNatRange` of `Spec/C17.lean`.  All theorems quantify over *all*
integers (no width bound on the literal). -/
namespace GuppyVerif.IntLit
open GuppyVerif.IntSem

/-- **C17 (int)**: an integer constant is accepted at type `int` iff it lies in [-2^63, 2^63-1] -/
theorem accept_int_iff (v : Int) : checkConst v .int = .ok .int ↔ InIntRange v := by
  unfold checkConst
  rw [valueType_no_hint (k := .int) rfl]
  by_cases h : InIntRange v <;> simp [h, against]

/-- … and outside that range the outcome is `IntOverflowError`, nothing else -/
theorem reject_int_overflow (v : Int) (h : ¬ InIntRange v) : checkConst v .int = .overflow := by
  unfold checkConst
  rw [valueType_no_hint (k := .int) rfl]
  simp [h]

/-- **C17 (nat)**: an integer constant is accepted at type `nat` iff it lies in [0, 2^64-1] -/
theorem accept_nat_iff (v : Int) : checkConst v .nat = .ok .nat ↔ InNatRange v := by
  unfold checkConst
  rw [valueType_nat_hint]
  by_cases h0 : 0 ≤ v
  · by_cases h : InNatRange v <;> simp [h0, h, against]
  · have hn : ¬ InNatRange v := fun h => h0 h.1
    by_cases h : InIntRange v <;> simp [h0, h, hn, against, Kind.rank]

/-- how a constant is rejected at `nat`: negative ⇒ it is typed `int` (mismatch) unless it overflows `int`;
    too large ⇒ overflow -/
theorem reject_nat_class (v : Int) (h : ¬ InNatRange v) :
    checkConst v .nat = (if 0 ≤ v then .overflow else if InIntRange v then .mismatch else .overflow) := by
  unfold checkConst
  rw [valueType_nat_hint]
  by_cases h0 : 0 ≤ v
  · simp [h0, h]
  · by_cases hi : InIntRange v <;> simp [h0, hi, against, Kind.rank]

/-- **C17 (comptime)**: `comptime(e)` evaluating to `v` is accepted at `int` / `nat` on the same ranges -/
theorem comptime_accept_iff (v : Int) (k : Kind) : checkComptime v k = .ok k ↔ AcceptAt v k := by
  unfold checkComptime AcceptAt
  cases k
  · rw [valueType_nat_hint]
    by_cases h0 : 0 ≤ v
    · by_cases h : InNatRange v <;> simp [h0, h]
    · have hn : ¬ InNatRange v := fun h => h0 h.1
      by_cases h : InIntRange v <;> simp [h0, h, hn]
  · rw [valueType_no_hint (k := .int) rfl]
    by_cases h : InIntRange v <;> simp [h]
  · rw [valueType_no_hint (k := .float) rfl]
    by_cases h : InIntRange v <;> simp [h]

/-- **C17 (literal syntax)**: a literal `n` or a negated literal `-n` is accepted at `int` iff its Python
    value is in range (the builder folds `-n` into one constant *before* the range check). -/
theorem lit_accept_int_iff (n : Nat) :
    (checkLit (.pos n) .int = .ok .int ↔ InIntRange (Lit.pos n).pyVal) ∧
    (checkLit (.neg (.pos n)) .int = .ok .int ↔ InIntRange (Lit.neg (.pos n)).pyVal) := by
  exact ⟨accept_int_iff _, accept_int_iff _⟩

/-- … and at `nat` (so `-0` is a `nat`, `-1` is not) -/
theorem lit_accept_nat_iff (n : Nat) :
    (checkLit (.pos n) .nat = .ok .nat ↔ InNatRange (Lit.pos n).pyVal) ∧
    (checkLit (.neg (.pos n)) .nat = .ok .nat ↔ InNatRange (Lit.neg (.pos n)).pyVal) := by
  exact ⟨accept_nat_iff _, accept_nat_iff _⟩

/-- **C17 (`-9223372036854775808`)**: the most negative `int` is accepted as a literal although its
    magnitude alone overflows, and the compiled constant reads back as exactly that value. -/
theorem neg_fold_min :
    checkLit (.neg (.pos 9223372036854775808)) .int = .ok .int ∧
    checkLit (.pos 9223372036854775808) .int = .overflow ∧
    (evalFolded (fold (.neg (.pos 9223372036854775808)))).map BitVec.toInt = some (-9223372036854775808) := by
  decide

/-- **C17 (value, signed)**: on the accepted range the `ConstInt` payload emitted for an `int` constant
    exists, is a 64-bit value, and reads back (two's complement) as exactly `v`. -/
theorem encode_decode_int (v : Int) (h : InIntRange v) :
    ∃ u, payload v .int = some u ∧ u < 2 ^ 64 ∧ decodeS u = v := by
  obtain ⟨h1, h2⟩ := h
  have hin : ¬ v < -9223372036854775808 := Int.not_lt.mpr h1
  simp only [payload, toUnsigned, INT_WIDTH, decodeS_eq_wrapS, wrapS_def, Nat.reduceShiftLeft, Nat.reduceSub]
  by_cases hneg : v < 0
  · exact ⟨((18446744073709551616 : Int) + v).toNat, by simp [hneg, hin, h2], by omega, by split <;> omega⟩
  · exact ⟨v.toNat, by simp [hneg, hin, h2], by omega, by split <;> omega⟩

/-- **C17 (value, unsigned)** -/
theorem encode_decode_nat (v : Int) (h : InNatRange v) :
    ∃ u, payload v .nat = some u ∧ u < 2 ^ 64 ∧ decodeU u = v := by
  obtain ⟨h1, h2⟩ := h
  refine ⟨v.toNat, ?_, ?_, ?_⟩
  · simp [payload, h1]
  · omega
  · unfold decodeU
    rw [BitVec.toNat_ofNat, Nat.mod_eq_of_lt (by omega)]; omega

/-- **C17 (accepted ⇒ preserved)**: whatever the checker accepts at `int`/`nat` is encoded and read back
    exactly (composition of the acceptance and encoding theorems). -/
theorem accepted_value_preserved (v : Int) (k : Kind) (h : checkConst v k = .ok k) (hk : k ≠ .float) :
    ∃ u, payload v k = some u ∧ u < 2 ^ 64 ∧ (match k with | .nat => decodeU u | _ => decodeS u) = v := by
  cases k
  · exact encode_decode_nat v ((accept_nat_iff v).mp h)
  · exact encode_decode_int v ((accept_int_iff v).mp h)
  · exact absurd rfl hk

/-- **C17 (literal value)**: an accepted (negated) literal evaluates to its Python value -/
theorem lit_value (l : Lit) (hl : (∃ n, l = .pos n) ∨ (∃ n, l = .neg (.pos n)))
    (h : checkLit l .int = .ok .int) :
    ∃ w, evalFolded (fold l) = some w ∧ w.toInt = l.pyVal := by
  have key : ∀ v : Int, InIntRange v → ∃ w, evalFolded (.const v) = some w ∧ w.toInt = v := by
    intro v hv
    obtain ⟨u, hu, _, hd⟩ := encode_decode_int v hv
    exact ⟨BitVec.ofNat 64 u, by simp [evalFolded, hu], hd⟩
  rcases hl with ⟨n, rfl⟩ | ⟨n, rfl⟩
  · exact key _ ((accept_int_iff _).mp h)
  · exact key _ ((accept_int_iff _).mp h)

/-- the type given to a comptime int under a hint equals the hint's kind exactly on the statement's range -/
theorem valueType_eq_iff (v : Int) (k : Kind) : valueType v (k == .nat) = some k ↔ AcceptAt v k := by
  have := comptime_accept_iff v k
  unfold checkComptime at this
  cases hv : valueType v (k == .nat) with
  | none => simpa [hv] using this
  | some act => by_cases hk : act = k <;> simpa [hv, hk] using this

/-- **C17 (tuple constants)**: `comptime((v₁,…,vₙ))` at `tuple[k₁,…,kₙ]` is accepted iff the lengths agree and
    every component is acceptable at its kind -/
theorem tuple_accept_iff (vs : List Int) (ks : List Kind) :
    (∃ k, checkComptimeTuple vs ks = .ok k) ↔ AllAccept vs ks := by
  induction vs generalizing ks with
  | nil =>
    cases ks with
    | nil => simp [checkComptimeTuple, AllAccept]
    | cons k ks => simp [checkComptimeTuple, AllAccept]
  | cons v vs ih =>
    cases ks with
    | nil => simp [checkComptimeTuple, AllAccept]
    | cons k ks =>
      have ih' := ih ks
      unfold AllAccept
      rw [← ih', ← valueType_eq_iff]
      rw [checkComptimeTuple]
      cases hv : valueType v (k == .nat) with
      | none => simp
      | some act =>
        cases hr : checkComptimeTuple vs ks with
        | ok k' => by_cases hk : act = k <;> simp [hk]
        | overflow => simp
        | mismatch => simp
        | incoherent => simp

/-- `listType` with a running element kind: accepted iff every element is typed that kind -/
theorem listType_ok_iff (hint : Bool) (vs : List Int) (k : Kind) :
    (∀ k', listType hint vs (some k) = .ok k' ↔ (k' = k ∧ ∀ v ∈ vs, valueType v hint = some k)) := by
  induction vs with
  | nil => intro k'; simp [listType]; exact eq_comm
  | cons v vs ih =>
    intro k'
    rw [listType]
    cases hv : valueType v hint with
    | none => simp [hv]
    | some t =>
      by_cases ht : t = k
      · subst ht; simp [ih, hv]
      · simp [ht, hv]

/-- **C17 (array constants)**: `comptime([v₁,…,vₙ])` at `frozenarray[k, n]` is accepted iff every element is
    acceptable at `k` -/
theorem list_accept_iff (vs : List Int) (k : Kind) :
    checkComptimeList vs k = .ok k ↔ ∀ v ∈ vs, AcceptAt v k := by
  cases vs with
  | nil => simp [checkComptimeList, listType]
  | cons v vs =>
    rw [checkComptimeList, listType]
    cases hv : valueType v (k == .nat) with
    | none =>
      have : ¬ AcceptAt v k := fun h => by rw [(valueType_eq_iff v k).mpr h] at hv; cases hv
      simp [this]
    | some t =>
      have hl := listType_ok_iff (k == .nat) vs t
      simp only [List.mem_cons, forall_eq_or_imp, ← valueType_eq_iff, hv]
      cases hr : listType (k == .nat) vs (some t) with
      | ok k' =>
        obtain ⟨rfl, hall⟩ := (hl k').mp hr
        by_cases ht : k' = k
        · subst ht; simp; exact hall
        · simp [ht]
      | overflow | mismatch | incoherent =>
        simp only [false_iff, reduceCtorEq]
        rintro ⟨ht, h⟩
        have ht' : t = k := Option.some.inj ht
        subst ht'
        have := (hl t).mpr ⟨rfl, h⟩
        rw [hr] at this; cases this

/-- the literal iff above is stated for 0 or 1 minus signs only: with two, it is FALSE of the code — only the innermost
    minus folds, the outer one is a run-time `ineg`, so `-(-9223372036854775808)` is accepted although its Python value
    `2^63` is out of range (it evaluates to `wrapS (2^63) = -2^63`: C04's wrap-around of an expression, not a literal) -/
theorem deeper_negation_not_range_checked :
    checkLit (.neg (.neg (.pos 9223372036854775808))) .int = .ok .int ∧
    ¬ InIntRange (Lit.neg (.neg (.pos 9223372036854775808))).pyVal ∧
    (evalFolded (fold (.neg (.neg (.pos 9223372036854775808))))).map BitVec.toInt = some (-9223372036854775808) := by
  decide

example : checkConst 9223372036854775807 .int = .ok .int := by decide
example : checkConst 9223372036854775808 .int = .overflow := by decide
example : checkConst (-9223372036854775809) .int = .overflow := by decide
example : checkConst 18446744073709551615 .nat = .ok .nat := by decide
example : checkConst 18446744073709551616 .nat = .overflow := by decide
example : checkConst (-1) .nat = .mismatch := by decide
example : checkLit (.neg (.pos 0)) .nat = .ok .nat := by decide
example : payload (-1) .int = some 18446744073709551615 := by decide
example : decodeS 18446744073709551615 = -1 := by decide
example : decodeU 18446744073709551615 = 18446744073709551615 := by decide
example : InIntRange (-9223372036854775808) := by decide
example : ∃ k, checkComptimeTuple [-5, 7] [.int, .nat] = .ok k := ⟨.int, by decide⟩
example : checkComptimeList [1, 18446744073709551615] .nat = .ok .nat := by decide
example : checkComptimeList [1, -1] .nat = .incoherent := by decide
/-- deeper negations are *expressions*: only the innermost minus folds, the outer one is `ineg` at run time,
    so `-(-9223372036854775808)` is accepted and evaluates to `wrapS (2^63) = -2^63` (C04's wrap-around,
    not a literal) -/
example : checkLit (.neg (.neg (.pos 9223372036854775808))) .int = .ok .int ∧
    (evalFolded (fold (.neg (.neg (.pos 9223372036854775808))))).map BitVec.toInt = some (-9223372036854775808) := by
  decide

end GuppyVerif.IntLit
