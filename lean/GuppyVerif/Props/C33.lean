import GuppyVerif.Lemmas.C33
/-! # C33 — Experimental features are gated and the gate state is restored

`exec` (Model/FeatureGate.lean) mirrors the two context-manager classes and
the four `check_*_enabled` functions; programs are arbitrary trees of bare calls, `with`
blocks on fresh or kept manager objects, gated checks, `raise` and `try/except`.
The specification side (`Spec/C33.lean`) has no manager objects: `Spec.run` is a scoping
interpreter that *discards* whatever a block's body did to the flag, `Spec.lex` is a
state-free lexical reading for programs made of `with <new object>:` blocks. -/
namespace GuppyVerif.FeatureGate

open Spec

/-- **C33 (restoration)**: after `with enable/disable_experimental_features(): body` the flag
    equals its value before the block — for every body (arbitrary nesting, bare calls inside,
    kept objects) and on both normal and exceptional exit; and the block raises exactly when
    its body (run under the block's setting) raises: `__exit__` never swallows. -/
theorem with_restores (k : Kind) (body : Prog) (s : State) :
    (exec (.withNew k body) s).state.flag = s.flag ∧
    (exec (.withNew k body) s).raised = (exec body ⟨k.target, s.env⟩).raised := by
  simp [exec, construct, withObj, enter, exitSwallows, exit_flag]

/-- **C33 (restoration, kept object)**: `x = enable…()` writes the flag *at construction* and
    captures the value it saw; a later `with x: body` restores that captured value (and does
    not set the flag on entry). -/
theorem withVar_restores_captured (x : Nat) (body : Prog) (s : State) (o : Obj)
    (h : lookup x s.env = some o) :
    (exec (.withVar x body) s).state.flag = o.original ∧
    (exec (.withVar x body) s).raised = (exec body s).raised := by
  simp [exec, h, withObj, enter, exitSwallows, exit_flag]

theorem bind_captures (x : Nat) (k : Kind) (s : State) :
    (exec (.bind x k) s).state.flag = k.target ∧
    lookup x (exec (.bind x k) s).state.env = some ⟨k, s.flag⟩ := by
  simp [exec, construct, lookup]

/-- The statement's "restore the previous setting" is **false** for a kept object if "previous"
    is read as "before the `with` block": with the flag on, `e = enable(); disable(); with e: pass`
    starts the block with the flag off and leaves it on (the value captured when `e` was built).  (Quirk of
    setting the flag in `__init__`; recorded in notes/C33.md, idiomatic use is unaffected.) -/
theorem withVar_need_not_restore_block_entry_value :
    ∃ (p : Prog) (s : State),
      let s₁ := (exec p s).state
      (exec (.withVar 0 .skip) s₁).state.flag ≠ s₁.flag :=
  ⟨.seq (.bind 0 .enable) (.call .disable), ⟨true, []⟩, by decide⟩

/-- **C33 (gating)**: a program using lists / function tensors / capturing closures / modifiers
    is rejected iff the flag is false when it is checked, accepted iff it is true; checking
    changes neither the flag nor control flow.  The diagnostic class is `errClass f`. -/
theorem gated_iff_flag (f : Feature) (s : State) :
    ((exec (.check f) s).trace = [.reject f (errClass f), .flag s.flag] ↔ s.flag = false) ∧
    ((exec (.check f) s).trace = [.accept f, .flag s.flag] ↔ s.flag = true) ∧
    (exec (.check f) s).state.flag = s.flag ∧ (exec (.check f) s).raised = false := by
  cases hf : s.flag <;> simp [exec, gate, hf]

/-- **C33 (trace refinement)**: for every program and start state the model's observations
    (accept/reject of every check, flag after every statement), final flag, captured values
    and exception outcome are those of the object-free scoping interpreter. -/
theorem trace_refines_spec (p : Prog) (s : State) :
    (exec p s).trace = (run p s.flag (savedOf s.env)).trace ∧
    (exec p s).state.flag = (run p s.flag (savedOf s.env)).flag ∧
    savedOf (exec p s).state.env = (run p s.flag (savedOf s.env)).saved ∧
    (exec p s).raised = (run p s.flag (savedOf s.env)).raised :=
  have h := exec_sim p s
  ⟨congrArg Out.trace h, congrArg Out.flag h, congrArg Out.saved h, congrArg Out.raised h⟩

/-- **C33 (lexical scoping)**: a program built only from `with <new object>:` blocks, checks,
    `raise` and `try/except` (any nesting) observes exactly what the state-free lexical reading
    predicts — every check is decided by its innermost enclosing block, or by the initial
    setting — and leaves the flag as it found it, whatever was raised and caught. -/
theorem inline_lexical (p : Prog) (s : State) (h : isInline p = true) :
    (exec p s).trace = (lex s.flag p).1 ∧ (exec p s).raised = (lex s.flag p).2 ∧
    (exec p s).state.flag = s.flag := by
  have e := (exec_sim p s).trans (run_lex p s.flag (savedOf s.env) h)
  exact ⟨congrArg Out.trace e, congrArg Out.raised e, congrArg Out.flag e⟩

/-- nested blocks with an exception caught in between: inner check accepted, outer rejected,
    final flag restored -/
example :
    (exec (.withNew .disable
            (.seq (.tryCatch (.withNew .enable (.seq (.check .lists) .raise)))
                  (.check .closures))) ⟨true, []⟩).trace =
      [.accept .lists, .flag true, .flag true, .flag false, .flag false,
       .reject .closures .unsupported, .flag false, .flag true] := by decide

example : isInline (.withNew .disable
            (.seq (.tryCatch (.withNew .enable (.seq (.check .lists) .raise)))
                  (.check .closures))) = true := by decide

/-- a bare call inside a block is undone by the block's exit -/
example : (exec (.withNew .disable (.call .enable)) ⟨false, []⟩).state.flag = false ∧
    (exec (.seq (.bind 3 .enable) (.withVar 3 .raise)) ⟨false, []⟩).raised = true := by decide

end GuppyVerif.FeatureGate
