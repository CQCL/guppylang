import GuppyVerif.Lemmas.C16
/-! # C16 — Implicit numeric coercions only widen

`C16Gen.cfg` is regenerated from /repo's source on every run (Kind enum values,
`Kind.__lt__`, the comparison in `try_coerce_to`, the method-name template, the implementation of each
`__nat__/__int__/__float__`), so these theorems are checked against the code as it stands at each run.
The quantifier over kinds is finite (3 × 3): case analyses over `Lemmas/C16.against_cfg`.
The value theorems quantify over all 64-bit values and over an arbitrary rounding function `ofInt`
(the assumed semantics of `convert_u` / `convert_s`). -/
namespace GuppyVerif.Coerce
open GuppyVerif.IntLit (Kind)
open GuppyVerif.IntSem
open GuppyVerif.C16Gen (cfg)

/-- **C16 (direction)**: an implicit coercion is inserted iff (actual, expected) ∈ {(nat,int), (nat,float), (int,float)}.
    (`against` = `check_type_against`, the path of every synthesized expression.) -/
theorem coerce_iff_widening (act exp : Kind) :
    (against cfg act exp).isCoerced = true ↔ Widening act exp := by
  rw [against_cfg]; cases act <;> cases exp <;> decide

/- Full statement over expression forms:
     ∀ form act exp, (checkExpr cfg form act exp).isCoerced = true ↔ Widening act exp
   It is FALSE of the code for call results and comptime expressions (`coerce_iff_widening_false_for_calls`),
   so it is proved with the hypothesis `form = .synth`. -/
theorem coerce_iff_widening_partial (form : Form) (act exp : Kind) (hf : form = .synth) :
    (checkExpr cfg form act exp).isCoerced = true ↔ Widening act exp := by
  subst hf; exact coerce_iff_widening act exp

/-- the negation of the full statement, with its witness: a call result of type `nat` used where `int` is
    expected is a type mismatch, not a coercion (`x: int = h()` with `h() -> nat` is rejected although
    `y = h(); x: int = y` is accepted).  Replayed on the real checker: known finding D17. -/
theorem coerce_iff_widening_false_for_calls :
    ¬ (∀ form act exp, (checkExpr cfg form act exp).isCoerced = true ↔ Widening act exp) := by
  intro h
  exact absurd ((h .call .nat .int).mpr (by decide)) (by decide)

/-- **C16 (never narrows)**, for every expression form: a narrowing use is always a type mismatch. -/
theorem never_narrows_any_form (form : Form) (act exp : Kind) (h : Narrowing act exp) :
    checkExpr cfg form act exp = .mismatch := by
  cases form
  · show against cfg act exp = _
    rw [against_cfg]; revert h; cases act <;> cases exp <;> decide
  all_goals exact if_neg h.ne

/-- … and no form ever inserts a coercion outside the widening relation -/
theorem coerced_only_if_widening (form : Form) (act exp : Kind)
    (h : (checkExpr cfg form act exp).isCoerced = true) : Widening act exp := by
  cases form
  · exact (coerce_iff_widening act exp).mp h
  all_goals (by_cases he : act = exp <;> simp [checkExpr, he, Out.isCoerced] at h)

/-- **C16 (never narrows, never gets stuck)**: every pair is either identical (nothing inserted), a widening
    (coerced) or a type mismatch; a narrowing use is always a mismatch. -/
theorem against_classification (act exp : Kind) :
    against cfg act exp =
      if act = exp then .same
      else if Widening act exp then against cfg act exp   -- coerced; the implementation is `coerce_impl`
      else .mismatch := by
  rw [against_cfg]; cases act <;> cases exp <;> rfl

theorem never_narrows (act exp : Kind) (h : Narrowing act exp) : against cfg act exp = .mismatch :=
  never_narrows_any_form .synth act exp h

/-- **C16 (which conversion)**: nat→int is a no-op on the bits, nat→float is the *unsigned* conversion,
    int→float the *signed* one; nat→float is one step (not nat→int→float). -/
theorem coerce_impl :
    against cfg .nat .int = .coerced "noop" ∧
    against cfg .nat .float = .coerced "hugr:arithmetic.conversions.convert_u" ∧
    against cfg .int .float = .coerced "hugr:arithmetic.conversions.convert_s" :=
  ⟨against_cfg _ _, against_cfg _ _, against_cfg _ _⟩

/-- **C16 (operator operands)**: `a ∘ b` with `a : E`, `b : A` is typed at the wider of the two kinds and a
    coercion is inserted exactly on the narrower operand. -/
theorem operand_widens (e a : Kind) :
    operand cfg e a =
      if a = e then some (e, .same, .same)
      else if Widening a e then some (e, .same, against cfg a e)
      else some (a, against cfg e a, .same) := by
  cases e <;> cases a <;> simp only [operand, against_cfg] <;> rfl

/-- **C16 (subscript index, read and write-back)**: an index of kind `nat` is widened to the `int` parameter of
    `__getitem__` *and* of the implicit `__setitem__` of an assignable place (`xs[n] = v`, `xs[n] += 1`, lending `qs[n]`): the
    write path accepts exactly what the read path accepts, with the same (no-op) coercion; a `float` index is rejected. -/
theorem index_place_widens (idx : Kind) :
    indexWrite cfg idx = indexRead cfg idx ∧ indexPlace cfg idx = against cfg idx .int ∧
    ((indexPlace cfg idx = .same ∨ (indexPlace cfg idx).isCoerced = true) ↔ (idx = .nat ∨ idx = .int)) := by
  rw [indexPlace_cfg, indexWrite_cfg, indexRead, against_cfg]
  cases idx <;> decide

/-- **C16 (value, nat → int)**: the inserted no-op preserves the value whenever it is representable
    in `int`, i.e. below 2^63 … -/
theorem nat_to_int_value {F : Type} (ofInt : Int → F) (w : W) (h : valueOf .nat w < 2 ^ 63) :
    ∃ w', applyImpl ofInt "noop" w = some (.bits w') ∧ valueOf .int w' = valueOf .nat w := by
  refine ⟨w, rfl, ?_⟩
  simp only [valueOf] at *
  rw [BitVec.toInt_eq_toNat_cond]
  split <;> omega

/-- … and at or above 2^63 (not representable) the `int` reads as `value - 2^64` (stated, not a violation
    of the statement, whose guard excludes it). -/
theorem nat_to_int_above (w : W) (h : 2 ^ 63 ≤ valueOf .nat w) :
    valueOf .int w = valueOf .nat w - 2 ^ 64 := by
  simp only [valueOf] at *
  rw [BitVec.toInt_eq_toNat_cond]
  split <;> omega

/-- **C16 (value, → float)**: for every 64-bit value the conversion inserted for an integer kind used at
    `float` yields the rounding `ofInt` of exactly that kind's reading of the bits (so a `nat ≥ 2^63` is not
    converted as a negative number).  `ofInt` = the assumed round-to-nearest of `convert_s`/`convert_u`. -/
theorem to_float_value {F : Type} (ofInt : Int → F) (act : Kind) (impl : String) (w : W)
    (h : against cfg act .float = .coerced impl) :
    ∃ f, applyImpl ofInt impl w = some (.flt f) ∧ f = ofInt (valueOf act w) := by
  rw [against_cfg] at h
  cases act <;> cases h <;> exact ⟨_, rfl, rfl⟩

example : (against cfg .nat .float).isCoerced = true := by rw [against_cfg]; rfl
example : against cfg .int .nat = .mismatch := against_cfg _ _
example : against cfg .float .int = .mismatch := against_cfg _ _
example : against cfg .int .int = .same := against_cfg _ _
example : checkExpr cfg .call .nat .int = .mismatch := by decide
example : checkExpr cfg .comptime .int .float = .mismatch := by decide
example : indexPlace cfg .nat = .coerced "noop" := (indexPlace_cfg _).trans (against_cfg _ _)
example : indexPlace cfg .float = .mismatch := (indexPlace_cfg _).trans (against_cfg _ _)
example : Widening .nat .int := by decide
example : ¬ Widening .int .nat := by decide
example : valueOf .nat (BitVec.ofNat 64 5) < 2 ^ 63 := by decide
example : valueOf .int (BitVec.ofNat 64 (2 ^ 63)) = -9223372036854775808 := by decide
example : operand cfg .float .nat = some (.float, .same, .coerced "hugr:arithmetic.conversions.convert_u") := by
  simp only [operand, against_cfg]

end GuppyVerif.Coerce
