import GuppyVerif.Lemmas.C30
/-! # C30 — Source span containment and intersection follow interval semantics

The specification (`Spec/C30.lean`) is *denotational*: a well-formed span denotes the
closed interval of positions `(line, col)` of its file between start and end in
lexicographic order; the Python operators are characterised against that set. -/
namespace GuppyVerif.Span

/-- **C30 (span in span), literal form of the statement**: `a in b` iff same file,
    a's start at or after b's start and a's end at or before b's end. -/
theorem containsSpan_iff (b a : Span) (ha : a.WF) (hb : b.WF) :
    b.containsSpan a = true ↔
      a.start.file = b.start.file ∧ PosLe b.start.line b.start.col a.start.line a.start.col ∧
        PosLe a.stop.line a.stop.col b.stop.line b.stop.col := by
  unfold Span.containsSpan Span.file
  by_cases hf : b.start.file = a.start.file
  · have h1 := le_iff_of_file (a := b.start) (b := a.start) hf
    have h2 := le_iff_of_file (a := a.stop) (b := b.stop) (ha.1.symm.trans (hf.symm.trans hb.1))
    simp only [hf, ne_eq, not_true_eq_false, ↓reduceIte, Bool.and_eq_true, h1, h2, true_and]
  · simp only [ne_eq, hf, not_false_eq_true, ↓reduceIte, Bool.false_eq_true, false_iff]
    intro h; exact hf h.1.symm

/-- **C30 (location in span)**: `loc in span` iff the location lies between the span's
    start and end (same file). -/
theorem containsLoc_iff (s : Span) (l : Loc) (hs : s.WF) :
    s.containsLoc l = true ↔ Mem l s :=
  -- a location is the span from itself to itself
  containsSpan_iff s ⟨l, l⟩ ⟨rfl, PosLe.refl _ _⟩ hs

/-- **C30 (span in span), interval semantics**: `a in b` iff every location of `a` is a
    location of `b`. -/
theorem containsSpan_iff_subset (b a : Span) (ha : a.WF) (hb : b.WF) :
    b.containsSpan a = true ↔ ∀ l, Mem l a → Mem l b := by
  rw [containsSpan_iff b a ha hb]
  constructor
  · rintro ⟨hf, h1, h2⟩ l ⟨lf, l1, l2⟩
    exact ⟨lf.trans hf, h1.trans l1, l2.trans h2⟩
  · intro h
    have hs := h a.start ⟨rfl, PosLe.refl _ _, ha.2⟩
    have he := h a.stop ⟨ha.1.symm, ha.2, PosLe.refl _ _⟩
    exact ⟨hs.1, hs.2.1, he.2.2⟩

/-- **C30 (intersection)**: for well-formed spans of one file, `a & b` never raises; it is
    `None` exactly when no location belongs to both, and otherwise a well-formed span
    denoting exactly the common locations. -/
theorem inter_spec (a b : Span) (ha : a.WF) (hb : b.WF) (hf : a.start.file = b.start.file) :
    match a.inter b with
    | .none => ∀ l, ¬ (Mem l a ∧ Mem l b)
    | .some c => c.WF ∧ ∀ l, Mem l c ↔ (Mem l a ∧ Mem l b)
    | .error => False := by
  unfold Span.inter Span.file
  simp only [hf, ne_eq, not_true_eq_false, ↓reduceIte]
  have f1 : b.stop.file = a.start.file := hb.1.symm.trans hf.symm
  have f2 : a.stop.file = b.start.file := ha.1.symm.trans hf
  have l1 := lt_iff_of_file (a := b.stop) (b := a.start) f1
  have l2 := lt_iff_of_file (a := a.stop) (b := b.start) f2
  by_cases h1 : Loc.lt b.stop a.start = true
  · simp only [h1, Bool.true_or, ↓reduceIte]
    rintro l ⟨⟨_, la1, _⟩, ⟨_, _, lb2⟩⟩
    exact (l1.mp h1) (la1.trans lb2)
  by_cases h2 : Loc.lt a.stop b.start = true
  · simp only [h2, Bool.or_true, ↓reduceIte]
    rintro l ⟨⟨_, _, la2⟩, ⟨_, lb1, _⟩⟩
    exact (l2.mp h2) (lb1.trans la2)
  have n1 := (not_lt_iff_of_file f1).mp h1
  have n2 := (not_lt_iff_of_file f2).mp h2
  simp only [h1, h2, Bool.or_self, Bool.false_eq_true, ↓reduceIte]
  -- the result runs from the later start to the earlier end (least upper and greatest lower bound)
  have fe : a.stop.file = b.stop.file := f2.trans hb.1
  have fs := max_file hf
  have hwf : Span.WF ⟨Loc.max a.start b.start, Loc.min a.stop b.stop⟩ :=
    ⟨fs.trans (ha.1.trans (min_file fe).symm),
      (max_le_iff hf _).mpr ⟨(le_min_iff fe _).mpr ⟨ha.2, n1⟩, (le_min_iff fe _).mpr ⟨n2, hb.2⟩⟩⟩
  simp only [mk?_of_WF hwf]
  refine ⟨hwf, fun l => ?_⟩
  unfold Mem
  rw [max_le_iff hf, le_min_iff fe]
  constructor
  · rintro ⟨lf, ⟨p1, q1⟩, p2, q2⟩
    exact ⟨⟨lf.trans fs, p1, p2⟩, lf.trans (fs.trans hf), q1, q2⟩
  · rintro ⟨⟨lf, p1, p2⟩, _, q1, q2⟩
    exact ⟨lf.trans fs.symm, ⟨p1, q1⟩, p2, q2⟩

/-- **C30 (different files)**: spans of different files are never contained in or
    intersecting each other; a location of another file is never in a span. -/
theorem different_files (a b : Span) (l : Loc) :
    (a.start.file ≠ b.start.file → a.containsSpan b = false ∧ a.inter b = .none) ∧
    (a.start.file ≠ l.file → a.containsLoc l = false) := by
  unfold Span.containsSpan Span.inter Span.containsLoc Span.file
  constructor
  · intro h; simp [h]
  · intro h; simp [h]

/-! Non-vacuity: concrete well-formed spans meeting the hypotheses, with a non-trivial
    intersection. -/
example : Span.WF ⟨⟨"f", 1, 4⟩, ⟨"f", 3, 0⟩⟩ ∧ Span.WF ⟨⟨"f", 2, 2⟩, ⟨"f", 5, 1⟩⟩ ∧
    Span.inter ⟨⟨"f", 1, 4⟩, ⟨"f", 3, 0⟩⟩ ⟨⟨"f", 2, 2⟩, ⟨"f", 5, 1⟩⟩ =
      .some ⟨⟨"f", 2, 2⟩, ⟨"f", 3, 0⟩⟩ := by
  refine ⟨⟨rfl, Or.inl (by decide)⟩, ⟨rfl, Or.inl (by decide)⟩, by decide⟩

end GuppyVerif.Span
