import GuppyVerif.Lemmas.C10
/-! # C10 — Compiler output and diagnostics are deterministic  *(partial)*

CPython is deterministic except for the iteration order of sets (and of dicts keyed by
objects inserted in set order).  `Gen.setSites` is the inventory — regenerated from /repo's
source on every run — of every place that constructs, iterates or pops a set.  The theorems
below show, for the sites that do iterate, that the result does not depend on the order the set
yields its elements; `all_sites_classified` ties the inventory to these arguments.  The analysis
worklists are not sets (they pop in insertion order); C09's `live_schedule_independent` /
`ass_schedule_independent` show their variable sets would not depend on the order anyway. -/
namespace GuppyVerif.Determ
open GuppyVerif.Dataflow

/-- **`update_reachable`, any pop order**: a block ends up flagged reachable iff a path of real
    edges leads to it from the entry. -/
theorem reach_iff_path (succ : Blk → List Blk) (entry : Blk) (t : RSt)
    (hr : RReach succ (reachInit entry) t) (hq : t.queue = []) (b : Blk) :
    t.reach b = true ↔ Path succ entry b := by
  have hi := rinv_reach succ entry hr (rinv_init succ entry)
  have hnq : ∀ c, c ∉ t.queue := by simp [hq]
  refine ⟨hi.sound b, fun hp => ?_⟩
  induction hp with
  | refl => exact hi.entryc.resolve_right (hnq _)
  | tail _ hc ih => exact (hi.closed _ ih _ hc).resolve_right (hnq _)

/-- reachability flags do not depend on the pop order -/
theorem reach_order_free (succ : Blk → List Blk) (entry : Blk) (t₁ t₂ : RSt)
    (h₁ : RReach succ (reachInit entry) t₁) (h₂ : RReach succ (reachInit entry) t₂)
    (q₁ : t₁.queue = []) (q₂ : t₂.queue = []) : t₁.reach = t₂.reach := by
  funext b
  rw [Bool.eq_iff_iff, reach_iff_path succ entry t₁ h₁ q₁, reach_iff_path succ entry t₂ h₂ q₂]

/-- the executable worklist under any scheduler -/
theorem reachRun_correct (succ : Blk → List Blk) (entry : Blk) (sched : List Blk → Blk) (fuel : Nat)
    (t : RSt) (h : reachRun succ sched fuel (reachInit entry) = some t) (b : Blk) :
    t.reach b = true ↔ Path succ entry b := by
  obtain ⟨hr, hq⟩ := reachRun_reach succ sched fuel _ _ h
  exact reach_iff_path succ entry t hr hq b

/-- **Iterating `sorted(a set)`**: whatever order the set yields its elements in (any
    permutation), the sorted list is the same. -/
theorem sorted_order_free (l₁ l₂ : List Nat) (h : l₁.Perm l₂) : pySorted l₁ = pySorted l₂ :=
  mergeSort_eq_of_perm (fun a b c => by simp; omega) (fun a b => by simp; omega)
    (fun a b => by simp; omega) h

/-- `check_rows_match` (after sorting) reports the same variable whatever the set order. -/
theorem firstMismatch_order_free (ty1 ty2 : Nat → Nat) (k₁ k₂ : List Nat) (h : k₁.Perm k₂) :
    firstMismatch ty1 ty2 k₁ = firstMismatch ty1 ty2 k₂ := by
  unfold firstMismatch; rw [sorted_order_free k₁ k₂ h]

/-- `sort_vars` gives the same row order for every arrangement of the same variables. -/
theorem sortVars_order_free (d : Nat → Bool) (r₁ r₂ : List Nat) (h : r₁.Perm r₂) :
    sortVars d r₁ = sortVars d r₂ :=
  mergeSort_eq_of_perm (varLe_trans d) (varLe_total d) (varLe_antisymm d) h

/-- `partially_monomorphize_args`: the index assignments commute. -/
theorem assignAll_order_free (args : List Nat) (v₁ v₂ : List Nat) (acc : List (Option Nat))
    (h : v₁.Perm v₂) : assignAll args v₁ acc = assignAll args v₂ acc := by
  unfold assignAll
  apply List.Perm.foldl_eq' h
  intro x _ y _ z
  by_cases e : x = y
  · subst e; rfl
  · exact List.set_comm _ _ e

/-- `min(a set, key)` does not depend on the set's order. -/
theorem minOf_order_free (l₁ l₂ : List Nat) (h : l₁.Perm l₂) : minOf l₁ = minOf l₂ := by
  unfold minOf
  apply List.Perm.foldl_eq' h
  intro x _ y _ z
  -- a step keeps the smaller of the accumulator and the element, so two steps commute
  cases z <;> grind

/-- **The inventory is covered**: every set site found in /repo's current source is one that has
    been examined and classified.  The key of a site is (file, function, kind, number of such places
    in that function): a new site in a new function, a further site in a listed function, or a site
    whose kind changes (a set that starts being iterated) makes this proof fail; code motion inside a
    function does not.  `classify` may answer `unproven` — see the next theorem. -/
theorem all_sites_classified : ∀ s ∈ Gen.setSites, (classify s).isSome = true :=
  fun _ hs => classify_isSome (sites_sublist.subset hs)

/-- …and the only sites classified without an order-freedom argument (`unproven`) are the two
    named in `knownUncovered` (`check_call`'s choice of an unsolved variable for a sub-note): the
    uncovered part cannot grow without this proof failing. -/
theorem unproven_sites_are_the_known_ones :
    ∀ s ∈ Gen.setSites, classify s = some .unproven → s ∈ knownUncovered :=
  fun _ _ => classify_unproven

/-- the sites that are *not* covered by an order-freedom argument (reported in evidence) -/
def uncovered : List (String × String × String × Nat) :=
  Gen.setSites.filter fun s => classify s == some .unproven

/-! Non-vacuity: a graph with a cycle and an unreachable block; a concrete permutation. -/
example : (reachRun (fun b => match b with | 0 => [1, 2] | 1 => [0] | 3 => [1] | _ => [])
    (fun q => q.getLast!) 20 (reachInit 0)).map (fun t => [t.reach 0, t.reach 2, t.reach 3]) =
    some [true, true, false] := by decide
example : pySorted [3, 1, 2] = pySorted [2, 3, 1] := sorted_order_free _ _ (by decide)
example : Gen.setSites.length > 30 := by decide

end GuppyVerif.Determ
