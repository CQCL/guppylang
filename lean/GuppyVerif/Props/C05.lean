import GuppyVerif.Lemmas.C03BuildCfg
import GuppyVerif.Lemmas.C03Fuel
import GuppyVerif.Lemmas.C05Order
/-! # C05 — Side effects happen once each, in Python's evaluation order

Side effects are calls of external functions; each call is appended to the trace with its arguments
and result, and the result may depend on the whole history, so *order*, *multiplicity* and *which
short-circuit operands are evaluated* are all observable in the trace.

**Statement (`lift_preserves_order`, `branch_preserves_order`, `calls_in_python_order`)**: for every
expression / program of the fragment, the trace of the built CFG equals the trace of Python's evaluation.  It is
false of the builder before /repo commits f9e33c1 / 7c8aeda (defect D9: (i) the middle operand of a chained
comparison was evaluated twice and (ii) lifted sub-expressions — IfExp, `and`/`or`, chained comparison, walrus —
were hoisted before side-effecting siblings to their left).  The model (`Model/Builder.lean`) is the builder as
of those commits (`ExprBuilder.build_operands`: an already built operand is stored in a temporary before a later
operand is built that would overtake it; the middle operand of a chained comparison is kept in a temporary unless
it is a constant or an unassigned name); the programs that showed D9 are evaluated on it (`d9_*_fixed`).
`track_hugr_side_effects` (the state-order edges of the lowered HUGR) is modelled in
`Model/OrderEdges.lean` and characterised in the section on state-order edges.  Unmodelled: which HUGR node each
Guppy construct is lowered to, qubit operations, panics (but for the schedule example of the known finding). -/
namespace GuppyVerif.Builder
open GuppyVerif.Surface

/-- **C05 `lift_preserves_order` (value position)**: building an expression from an open block of any builder
    state: in every extension of the CFG, running the hoisted part and then evaluating the residual
    expression yields Python's value **and Python's trace** — every call exactly once, in Python's order,
    short-circuit operands only when Python evaluates them.  (`userE`: the expression does not mention the
    builder's `%tmp` variables.) -/
theorem lift_preserves_order (env : Env) (e : Expr) (hu : userE e = true)
    (b : Nat) (σ : BState) (bl : List Block) (hb : b < σ.len) (ho : (σ.blk b).succs = [])
    (hx : Ext (buildE e b σ).2.2 bl) (s : S) (rv : Option Val) :
    ∃ s2 : S, Steps env bl ⟨b, (σ.blk b).stmts.length, s, rv⟩
        ⟨(buildE e b σ).2.1, ((buildE e b σ).2.2.blk (buildE e b σ).2.1).stmts.length, s2, rv⟩ ∧
      (eval env (buildE e b σ).1 s2).1 = (eval env e s).1 ∧
      (eval env (buildE e b σ).1 s2).2.2 = (eval env e s).2.2 := by
  obtain ⟨s2, h1, h2, _, _⟩ := sem_all env e .val b σ bl hu hb ho hx s rv
  have h2' : eval env (buildE e b σ).1 s2 = ((eval env e s).1, (s2.1, (eval env e s).2.2)) := h2
  exact ⟨s2, h1, by rw [h2'], by rw [h2']⟩

/-- **C05 (branch position: `if` / `while` conditions, operands of `and` / `or` / `not`)**: the
    branch code reaches the true target iff Python's value is truthy, having produced exactly Python's trace. -/
theorem branch_preserves_order (env : Env) (e : Expr) (hu : userE e = true)
    (b t f : Nat) (σ : BState) (bl : List Block) (hb : b < σ.len) (ho : (σ.blk b).succs = [])
    (hx : Ext (branchE e b t f σ) bl) (s : S) (rv : Option Val) :
    ∃ s2 : S, Steps env bl ⟨b, (σ.blk b).stmts.length, s, rv⟩
        ⟨if (eval env e s).1.truthy then t else f, 0, s2, rv⟩ ∧ s2.2 = (eval env e s).2.2 := by
  obtain ⟨s2, h1, h2, _, _⟩ := sem_all env e (.br t f) b σ bl hu hb ho hx s rv
  exact ⟨s2, h1, h2⟩

/-- **C05 (whole programs)**: the calls made by the CFG of a program are Python's calls:
    same functions, same arguments, same results, same order, same number. -/
theorem calls_in_python_order (env : Env) (p : Stmt) (rn : Bool) (g : Cfg) (st0 : Store) (o : Outcome)
    (st' : S) (hu : userS p = true)
    (hsc : loopScoped p false = true) (hb : buildCfg rn p = .ok g) (hex : Exec env p (st0, []) o st') :
    ∃ (n : Nat) (c : Config), run env g.blocks n ⟨0, 0, (st0, []), none⟩ = some c ∧ c.s.2 = st'.2 := by
  obtain ⟨n, c, h1, _, h2, _⟩ := buildCfg_correct hu hsc hb hex
  exact ⟨n, c, h1, h2⟩

/-! ## D9 (fixed by f9e33c1 / 7c8aeda): the former counterexamples, on the repaired builder -/

/-- a CFG run is deterministic: whatever fuel suffices gives the same final configuration -/
theorem run_det {env : Env} {bl : List Block} : ∀ (n m : Nat) (c a b : Config),
    run env bl n c = some a → run env bl m c = some b → a = b := by
  intro n
  induction n with
  | zero => intro m c a b h; simp [run] at h
  | succ n ih =>
    intro m c a b h1 h2
    cases m with
    | zero => simp [run] at h2
    | succ m =>
      simp only [run] at h1 h2
      cases hs : step env bl c with
      | none => rw [hs] at h1 h2; cases h1; cases h2; rfl
      | some c' => rw [hs] at h1 h2; exact ih m c' a b h1 h2

/-- an observation made on the run with fuel 20 holds for the run with any sufficient fuel -/
theorem run_facts {env : Env} {bl : List Block} {c0 : Config} {α : Type} (obs : Config → α) (v : α)
    (h : (run env bl 20 c0).map obs = some v) : ∀ n c, run env bl n c0 = some c → obs c = v := by
  intro n c hn
  cases hr : run env bl 20 c0 with
  | none => rw [hr] at h; cases h
  | some c' =>
    rw [hr] at h
    simp only [Option.map_some, Option.some.injEq] at h
    rw [run_det n 20 _ _ _ hn hr]; exact h

def cfgOf (p : Stmt) : Cfg := match buildCfg false p with | .ok g => g | .error _ => ⟨[]⟩
theorem cfgOf_ok (p : Stmt) (h : (match buildCfg false p with | .ok _ => true | .error _ => false) = true) :
    buildCfg false p = .ok (cfgOf p) := by
  unfold cfgOf; split <;> simp_all

/-- the `k`-th call returns `k` (so a value reveals when its call happened) -/
def envCount : Env := fun tr _ _ => .int tr.length
def st00 : Store := fun _ => .int 0

/-- `return -1 < f() < 1` -/
def d9Chain : Stmt := .cons (.ret (.cmp2 .lt .lt (.num (-1)) (.call0 "f") (.num 1))) .nil
/-- `return g() + (h() if c() else k())` -/
def d9IfExp : Stmt :=
  .cons (.ret (.bi (.arith .add) (.call0 "g") (.ite (.call0 "c") (.call0 "h") (.call0 "k")))) .nil
/-- `return g() - (x := h())` -/
def d9Walrus : Stmt :=
  .cons (.ret (.bi (.arith .sub) (.call0 "g") (.walrus (.user "x") (.call0 "h")))) .nil
/-- `x += (x := 5)` then `return x` -/
def d9Aug : Stmt :=
  .cons (.aug (.user "x") .add (.walrus (.user "x") (.num 5))) (.cons (.ret (.var (.user "x"))) .nil)

example : (userS d9Chain && userS d9IfExp && userS d9Walrus && userS d9Aug) = true := by decide

/-- **D9 (i), fixed**: `-1 < f() < 1`: Python calls `f` once and returns `True`; so does the built CFG (the value
    of `f()` is kept in a temporary for the second comparison).  Before 7c8aeda the CFG called `f` twice and
    returned `False`. -/
theorem d9_chained_compare_middle_once_fixed :
    (∃ st', Exec envCount d9Chain (st00, []) (.ret (.bool true)) st' ∧ st'.2.length = 1) ∧
    (∀ n c, run envCount (cfgOf d9Chain).blocks n ⟨0, 0, (st00, []), none⟩ = some c →
      c.ret = some (.bool true) ∧ c.s.2.length = 1 ∧ c.s.2.map (·.f) = ["f"]) := by
  constructor
  · exact ⟨_, execFuel_sound envCount 10 d9Chain (st00, []) _ _ rfl, by decide⟩
  · intro n c h
    have := run_facts (fun c => (c.ret, c.s.2.length, c.s.2.map (·.f))) (some (.bool true), 1, ["f"]) (by decide +kernel) n c h
    simp only [Prod.mk.injEq] at this; exact this

/-- **D9 (ii), conditional expression, fixed**: `g() + (h() if c() else k())`: Python calls `g, c, h`; so does the
    CFG (`g()` is stored in a temporary before the conditional is built).  Before f9e33c1 the CFG called
    `c, k, g` and returned another value. -/
theorem d9_ifexp_after_left_sibling_fixed :
    (∃ st', Exec envCount d9IfExp (st00, []) (.ret (.int 2)) st' ∧ st'.2.map (·.f) = ["g", "c", "h"]) ∧
    (∀ n c, run envCount (cfgOf d9IfExp).blocks n ⟨0, 0, (st00, []), none⟩ = some c →
      c.ret = some (.int 2) ∧ c.s.2.map (·.f) = ["g", "c", "h"]) := by
  constructor
  · exact ⟨_, execFuel_sound envCount 10 d9IfExp (st00, []) _ _ rfl, by decide⟩
  · intro n c h
    have := run_facts (fun c => (c.ret, c.s.2.map (·.f))) (some (.int 2), ["g", "c", "h"]) (by decide +kernel) n c h
    simp only [Prod.mk.injEq] at this; exact this

/-- **D9 (ii), walrus, fixed**: `g() - (x := h())` is built as `%tmp = g(); x = h(); return %tmp - x`.  Before
    f9e33c1 it was `x = h(); return g() - x`. -/
theorem d9_walrus_after_left_sibling_fixed :
    (∃ st', Exec envCount d9Walrus (st00, []) (.ret (.int (-1))) st' ∧ st'.2.map (·.f) = ["g", "h"]) ∧
    (∀ n c, run envCount (cfgOf d9Walrus).blocks n ⟨0, 0, (st00, []), none⟩ = some c →
      c.ret = some (.int (-1)) ∧ c.s.2.map (·.f) = ["g", "h"]) := by
  constructor
  · exact ⟨_, execFuel_sound envCount 10 d9Walrus (st00, []) _ _ rfl, by decide⟩
  · intro n c h
    have := run_facts (fun c => (c.ret, c.s.2.map (·.f))) (some (.int (-1)), ["g", "h"]) (by decide +kernel) n c h
    simp only [Prod.mk.injEq] at this; exact this

/-- **D9 (ii), data flow only, fixed**: `x += (x := 5)` with `x = 0`: Python gives 5 (the target is read first), and
    so does the CFG `%tmp = x; x = 5; x = %tmp + x`.  Before f9e33c1 the CFG `x = 5; x += x` gave 10. -/
theorem d9_aug_target_read_first_fixed :
    (∃ st', Exec envCount d9Aug (st00, []) (.ret (.int 5)) st') ∧
    (∀ n c, run envCount (cfgOf d9Aug).blocks n ⟨0, 0, (st00, []), none⟩ = some c → c.ret = some (.int 5)) := by
  constructor
  · exact ⟨_, execFuel_sound envCount 10 d9Aug (st00, []) _ _ rfl⟩
  · intro n c h
    have := run_facts (fun c => c.ret) (some (.int 5)) (by decide +kernel) n c h
    exact this

/-- the shape of the repair: exactly one temporary is drawn for `g() - (x := h())`, none for `g() - h()`; `a < b < c`
    draws one (for the value of the chain), `a < f() < c` a second one (for `f()`) -/
example : (buildE (.bi (.arith .sub) (.call0 "g") (.walrus (.user "x") (.call0 "h"))) 0 initState).2.2.nextTmp = 1 ∧
    (buildE (.bi (.arith .sub) (.call0 "g") (.call0 "h")) 0 initState).2.2.nextTmp = 0 ∧
    (buildE (.cmp2 .lt .lt (.var (.user "a")) (.var (.user "b")) (.var (.user "c"))) 0 initState).2.2.nextTmp = 1 ∧
    (buildE (.cmp2 .lt .lt (.var (.user "a")) (.call0 "f") (.var (.user "c"))) 0 initState).2.2.nextTmp = 2 := by decide

/-! ## `track_hugr_side_effects`: state-order edges (model `Model/OrderEdges.lean`)

The theorems hold for **every** sequence of node insertions (any hierarchy in which parents are inserted before their
children); the first needs that the builder never links a node that is already linked (`dup = false`: containers are
populated in a nested fashion — checked on every lowered program by the harness; the model records it). -/

open OrderEdges in
/-- **C05: in every region the order edges form one chain without repetition** from the region's `Input` through the
    linked nodes to its `Output` (or there are none), once the whole definition has been lowered (hypothesis
    `dup = false`) -/
theorem order_edges_total_partial (nds : List OrderEdges.Node) (hS : WFSeq 0 nds) (hd : (runAll nds).dup = false)
    (p : Nat) :
    region (runAll nds) p = [] ∨
    ∃ inp mids last, firstChild (runAll nds).nodes p = some inp ∧ (inp :: mids ++ [last]).Nodup ∧
      ((∃ out, (children (runAll nds).nodes p)[1]? = some out ∧
          region (runAll nds) p = pathEdges (inp :: mids ++ [last] ++ [out])) ∨
       ((children (runAll nds).nodes p)[1]? = none ∧ region (runAll nds) p = pathEdges (inp :: mids ++ [last]))) :=
  chain_final hS hd p

open OrderEdges in
/-- **C05**: a side-effecting node inserted into a dataflow region (its parent is not a `Conditional` / `CFG` and
    already has its `Input` child) is linked at once, as the last element of that region's chain; containers of
    side-effecting nodes are linked by the same rule (`handle_side_effect` recursing on the parent) -/
theorem side_effect_node_linked_last (s : St) (hW : WFN s.nodes) (hI : Inv s) (nd : OrderEdges.Node) (p inp : Nat)
    (hnd : ∀ q, nd.parent = some q → q < s.nodes.length) (heff : nd.eff = true) (hpar : nd.parent = some p)
    (hk : kindOf s.nodes p ≠ .cond ∧ kindOf s.nodes p ≠ .cfg) (hinp : firstChild s.nodes p = some inp) :
    lookup (addNode nd s).prev p = some s.nodes.length := addNode_links hI nd hnd heff hpar hk hinp

open OrderEdges in
/-- **C05**: edges are only ever appended, so within a chain the order of the nodes is the order in which they were
    linked -/
theorem order_edges_append_only (nd : OrderEdges.Node) (s : St) : s.edges <+: (addNode nd s).edges :=
  addNode_edges_prefix nd s

/-- non-vacuity: a function body with a call, a Conditional whose case contains a call, and another call: the
    chains are `Input → call → Conditional → call → Output` in the body and `Input → call → Output` in the case -/
def exOrder : List OrderEdges.Node :=
  [⟨none, .other, false⟩, ⟨some 0, .funcDefn, false⟩, ⟨some 1, .other, false⟩, ⟨some 1, .other, false⟩,
   ⟨some 1, .other, true⟩, ⟨some 1, .cond, false⟩, ⟨some 5, .other, false⟩, ⟨some 6, .other, false⟩,
   ⟨some 6, .other, false⟩, ⟨some 6, .other, true⟩, ⟨some 1, .other, true⟩]
example : OrderEdges.WFSeq 0 exOrder := by
  simp only [exOrder, OrderEdges.WFSeq]
  decide
example : (OrderEdges.runAll exOrder).dup = false ∧
    (OrderEdges.runAll exOrder).edges = [(2, 4), (4, 5), (7, 9), (5, 10), (10, 3), (9, 8)] := by decide

/-! ## Known finding: an implicitly panicking op is not ordered after earlier `result`s

`may_have_side_effect` (table `EXTENSION_OPS_WITH_SIDE_EFFECTS` + calls) does not contain the ops that panic
*internally* (`idiv_s` / `imod_s` by zero, `borrow` / `return` out of range, failing conversions), so such a
node gets no order edge.  For `result("i", i); result("d", 10 // (1 - i))` the body region is
`Input, Output, result_i (effect), isub (no effect), idiv (no effect by the table, panics at i = 1), result_d (effect)`:
the only order edges are `Input → result_i → result_d → Output`; the value edges are `isub → idiv → result_d`.
Both the schedule that runs `result_i` first and the one that runs `idiv` first respect all edges, and they
differ in what is observed: `[("i", 1)]` then panic (Python's behaviour) versus panic with nothing reported.
(`class:implicit-op-panic-overtakes-result` in `known_findings.json`; the real 1.0.4 runtime loses the result.) -/

/-- insertion sequence of the body of `result("i", i); result("d", 10 // (1 - i))`:
    0 module, 1 FuncDefn, 2 Input, 3 Output, 4 result_i, 5 isub, 6 idiv, 7 result_d -/
def exPanicNodes : List OrderEdges.Node :=
  [⟨none, .other, false⟩, ⟨some 0, .funcDefn, false⟩, ⟨some 1, .other, false⟩, ⟨some 1, .other, false⟩,
   ⟨some 1, .other, true⟩, ⟨some 1, .other, false⟩, ⟨some 1, .other, false⟩, ⟨some 1, .other, true⟩]
def exPanicValueEdges : List (Nat × Nat) := [(2, 4), (2, 5), (5, 6), (6, 7)]

/-- a schedule (order of execution of the region's nodes) respects a set of edges -/
def respects (edges : List (Nat × Nat)) (sched : List Nat) : Bool :=
  edges.all fun (a, b) => match sched.idxOf? a, sched.idxOf? b with
    | some i, some j => i < j
    | _, _ => false

/-- what is observed: node 4 reports `("i", 1)`, node 6 panics (execution stops), node 7 would report -/
def observe : List Nat → List String
  | [] => []
  | 4 :: rest => "result i" :: observe rest
  | 6 :: _ => ["panic"]
  | 7 :: rest => "result d" :: observe rest
  | _ :: rest => observe rest

/-- **known finding `implicit-op-panic-overtakes-result`**: the order edges the model (and the real
    `track_hugr_side_effects`, compared on every run) inserts for this region leave the panicking `idiv` unordered
    with respect to the earlier `result`; two schedules respect all order and value edges and are observably different -/
theorem implicit_panic_op_unordered :
    (OrderEdges.runAll exPanicNodes).edges = [(2, 4), (4, 7), (7, 3)] ∧
    respects ((OrderEdges.runAll exPanicNodes).edges ++ exPanicValueEdges) [2, 4, 5, 6, 7, 3] = true ∧
    respects ((OrderEdges.runAll exPanicNodes).edges ++ exPanicValueEdges) [2, 5, 6, 4, 7, 3] = true ∧
    observe [2, 4, 5, 6, 7, 3] = ["result i", "panic"] ∧ observe [2, 5, 6, 4, 7, 3] = ["panic"] := by decide

/-! ## Non-vacuity of the positive theorems -/

/-- `(a if c() else f()) + g(x, (y := h()))` lifts twice and needs no extra temporary: the left operand's
    residual is a temporary, and the walrus on the right does not assign anything the left residual reads -/
def exSafe : Expr :=
  .bi (.arith .add) (.ite (.call0 "c") (.var (.user "a")) (.call0 "f"))
    (.bi (.call2 "g") (.var (.user "x")) (.walrus (.user "y") (.call0 "h")))
example : userE exSafe = true ∧ lifts exSafe = true := by decide
example : ((buildE exSafe 0 initState).2.2.blk 0).succs.length = 2 ∧ (buildE exSafe 0 initState).2.1 = 4 := by decide

end GuppyVerif.Builder
