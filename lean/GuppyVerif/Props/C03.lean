import GuppyVerif.Lemmas.C03CfgShape
import GuppyVerif.Lemmas.C03Fuel
import GuppyVerif.Lemmas.C03Wiring
import GuppyVerif.Model.Scope
/-! # C03 — Classical control and data flow behave as in Python

The property theorems, with the example programs that show their hypotheses can be met.  Models:
`Model/Surface.lean` (surface language + Python's semantics; unbounded ints and bools, external calls recorded in
a trace), `Model/Builder.lean` (`cfg/builder.py` as of /repo commits f9e33c1 / 7c8aeda: CFGBuilder / ExprBuilder
incl. `build_operands` / BranchBuilder, reachability, implicit return, pruning; CFG execution), `Model/Wiring.lean`
(block wiring of `cfg_compiler.py`), `Model/Scope.lean` (name resolution in nested function bodies).
Vocabulary of the statements: `Spec/C03.lean` (`userS`), `Lemmas/C03Eval.lean` (`agreeU`), `Lemmas/C03State.lean` (`blkL`,
`BState.blk`, `BState.len`, `Ext`, `TouchS`), `Lemmas/C03StmtShape.lean` (`GoodS`, `loopFin`, `whS1`), `Lemmas/C03StmtSem.lean`
(`loopScoped`, `JOk`, `PostS`), `Lemmas/C03BuildCfg.lean` (`Path`), `Lemmas/C03Wiring.lean` (`NamesNodup`).

**Statement (`builder_correct`)**: for every surface program `p`, every input store and every environment of
external functions, if Python's big-step semantics runs `p` to a `return v` (or off the end), then
executing the CFG that `CFGBuilder.build` produces halts in the exit block with the same return value, the
same trace of external calls and the same values of the user variables.  The two hypotheses say that `p` is
a Python program: it does not mention the builder's `%tmp` variables (`userS`; not an identifier) and uses
`break`/`continue` only inside loops (`loopScoped`; a SyntaxError otherwise).  `for x in range(e)` loops are
included: their template (`make_iter` / `iter_next` / `is_some` / `unwrap`) is executed with the iterator
semantics of `range` (`applyPrim`).  No bound on program size, loop iterations or inputs;
termination-insensitive (the hypothesis is a terminating Python run).

The statement is false of the builder before f9e33c1 / 7c8aeda (defect D9: the middle operand of a chained
comparison built twice; lifted sub-expressions hoisted before side-effecting left siblings); the programs that
showed it are evaluated on this model in `Props/C05.lean` (`d9_*_fixed`).
Unmodelled: expression lowering to HUGR and HUGR execution. -/
namespace GuppyVerif.Builder
open GuppyVerif.Surface

/-- **C03 `builder_correct`**: the CFG built for a program computes what Python computes: same return value,
    same trace of external calls (names, arguments, results, order), same final values of all user variables.
    `rn` is `returns_none`; falling off the end is only accepted by the builder when `rn` holds. -/
theorem builder_correct (env : Env) (p : Stmt) (rn : Bool) (g : Cfg) (st0 : Store) (o : Outcome) (st' : S)
    (hu : userS p = true) (hsc : loopScoped p false = true)
    (hb : buildCfg rn p = .ok g) (hex : Exec env p (st0, []) o st') :
    ∃ (n : Nat) (c : Config), run env g.blocks n ⟨0, 0, (st0, []), none⟩ = some c ∧ c.b = 1 ∧
      c.s.2 = st'.2 ∧ agreeU c.s.1 st'.1 ∧
      ((∃ v, o = .ret v ∧ c.ret = some v) ∨ (o = .normal ∧ c.ret = none ∧ rn = true)) :=
  buildCfg_correct hu hsc hb hex

/-- the fragment token the driver reports to the harness is `safe` for every program: a real-code discrepancy
    on any program of the fragment is a VIOLATION -/
theorem hsClass_safe (p : Stmt) : hsClass p = "safe" := rfl

/-- the executable Python interpreter that the driver runs (and the harness compares with CPython on every
    generated program) is sound for the big-step relation used above -/
theorem execFuel_sound' (env : Env) (n : Nat) (s : Stmt) (st : S) (o : Outcome) (st' : S)
    (h : execFuel env n s st = some (o, st')) : Exec env s st o st' := execFuel_sound env n s st o st' h

/-- **statement level, any position in a CFG under construction**: building a statement from an
    open block `b` of any builder state yields code that, in every later extension `bl` of the CFG, takes a
    state agreeing with Python's on user variables to one agreeing with Python's final state — ending in the
    builder's continuation block (normal completion), in the innermost loop's tail / head (`break` /
    `continue`: `J.brk` / `J.cont` are the targets `visit_While` installed), or in the return block with
    the return value set. -/
theorem stmt_builder_correct (env : Env) (s : Stmt) (st st' : S) (o : Outcome) (h : Exec env s st o st')
    (prev b : Nat) (J : Jumps) (σ : BState) (bl : List Block) (il : Bool) (stI : S) (rv : Option Val)
    (hu : userS s = true) (hsc : loopScoped s il = true)
    (hJ : JOk J il) (hb : b < σ.len) (ho : (σ.blk b).succs = []) (hx : Ext (build s prev (some b) J σ).1 bl)
    (hag : agreeU stI.1 st.1) (htr : stI.2 = st.2) :
    PostS env bl J (build s prev (some b) J σ) o ⟨b, (σ.blk b).stmts.length, stI, rv⟩ σ.nextTmp st' :=
  (sem_stmt h).1 prev b J σ bl il stI rv hu hsc hJ hb ho hx hag htr

/-- **after pruning no real edge leads from unreachable into reachable code, and dummy edges point to
    unreachable blocks only** (for every block list, hence for every CFG `buildCfg` returns) -/
theorem prune_no_edge_into_reachable (bl : List Block) (i : Nat) (hi : i < bl.length) :
    ((blkL (prune bl) i).reach = false → ∀ s ∈ (blkL (prune bl) i).succs, (blkL bl s).reach = false) ∧
    (∀ s ∈ (blkL (prune bl) i).dsuccs, (blkL bl s).reach = false) := prune_edges bl i hi

/-- the set of blocks the builder marks reachable contains the entry and is closed under real edges -/
theorem reachable_closed (blocks : List Block) (rs : List Nat) (h : reachable blocks = some rs) :
    0 ∈ rs ∧ ∀ b ∈ rs, ∀ s ∈ (blkL blocks b).succs, s ∈ rs := reachable_spec h

/-- **the blocks `update_reachable` marks are exactly the blocks reachable from the entry over real edges** -/
theorem reachable_flags_exact (blocks : List Block) (rs : List Nat) (h : reachable blocks = some rs) (b : Nat) :
    b ∈ rs ↔ Path blocks 0 b := reachable_iff_path h b

/-- **every block with two successors has a branch predicate, and no block has more than two successors**
    (for every CFG `buildCfg` returns, including its unreachable blocks and after pruning) -/
theorem two_successors_have_pred (p : Stmt) (rn : Bool) (g : Cfg) (hb : buildCfg rn p = .ok g)
    (i : Nat) : (blkL g.blocks i).succs.length ≤ 2 ∧ ((blkL g.blocks i).succs.length = 2 → (blkL g.blocks i).pred ≠ none) :=
  buildCfg_shape hb i

/-- **every non-entry block has a predecessor over a real or a dummy edge** (for every CFG `buildCfg` returns,
    after pruning: no block is left dangling — unreachable code hangs on dummy edges or on other unreachable code, which
    is what lets the type checker propagate types into it) -/
theorem nonentry_block_has_pred (p : Stmt) (rn : Bool) (g : Cfg) (hb : buildCfg rn p = .ok g)
    (i : Nat) (h0 : 0 < i) (hi : i < g.blocks.length) :
    ∃ j, j < g.blocks.length ∧ (i ∈ (blkL g.blocks j).succs ∨ i ∈ (blkL g.blocks j).dsuccs) :=
  buildCfg_has_pred hb i h0 hi

/-- **`break` / `continue` target the innermost loop**: the body of a `while` is built with the loop's own head
    as `continue` target and its own tail as `break` target, whatever the enclosing targets `J` are (only the
    return target is inherited), and `break` / `continue` link the current block to exactly these targets. -/
theorem break_continue_target_innermost_loop (c : Expr) (body : Stmt) (prev b : Nat) (J : Jumps) (σ : BState) :
    build (.while c body) prev (some b) J σ =
      loopFin σ.len (build body (σ.len + 1) (some (σ.len + 1)) ⟨J.ret, some σ.len, some (σ.len + 2)⟩ (whS1 c b σ)) ∧
    (∀ t, J.brk = some t → build .brk prev (some b) J σ = (link b t σ, none)) ∧
    (∀ t, J.cont = some t → build .cont prev (some b) J σ = (link b t σ, none)) := by
  refine ⟨build_while_eq c body prev b J σ, ?_, ?_⟩
  · intro t h; simp only [build, ensure_some, h]
  · intro t h; simp only [build, ensure_some, h]

/-- building never disturbs other blocks: from an open block `b`, a statement only appends to `b`, creates
    fresh blocks, and adds dummy edges; it continues in `b` or in a fresh block, which is open -/
theorem build_frame (s : Stmt) (prev b : Nat) (J : Jumps) (σ : BState) (hb : b < σ.len)
    (ho : (σ.blk b).succs = []) : GoodS σ b (build s prev (some b) J σ) := build_good s prev b J σ hb ho

/-! ## Block wiring (`compiler/cfg_compiler.py`: `compile_bb`, `sort_vars`, `choose_vars_for_tuple_sum`,
    `insert_return_vars`; model `Model/Wiring.lean`)

The statement's own example of a silent miscompilation is "two same-typed variables swapped across a
block boundary".  The theorems say this cannot happen: along every edge the ordered list of places a block
delivers **is** the ordered list of places the successor block binds to its inputs. -/

/-- `sort_vars` only depends on the *set* of places of a row (names distinct) -/
theorem sort_vars_canonical (l1 l2 : List Wiring.Place) (h : l1.Perm l2) (hn : Wiring.NamesNodup l1) :
    Wiring.sortVars l1 = Wiring.sortVars l2 := Wiring.sortVars_canonical h hn

/-- **C03 `row_agreement`, block with one successor**: the block hands over exactly the places the successor block
    expects, in the successor's order (`sort_vars` on both sides; on an edge into the exit neither side sorts and the
    row is passed as it is) -/
theorem row_agreement_jump (inRow row succIn : List Wiring.Place) (ex : Bool) (hp : row.Perm succIn)
    (hn : Wiring.NamesNodup row) :
    Wiring.deliver ⟨inRow, [row]⟩ [ex] = some [if ex then row else Wiring.blockInputs false ⟨succIn, []⟩] :=
  Wiring.deliver_single inRow row succIn ex hp hn

/-- **C03 `row_agreement`, branching block** (plain-output and `TupleSum` case): along branch `i` the successor receives
    (the `TupleSum` variant row followed by) the block outputs, and that is exactly the list of places the successor
    block expects, in its order — no two same-typed places can be swapped.  Hypotheses = what the checker establishes:
    `row_i` has the places of the successor's input row; names in a row are distinct; a name denotes one place;
    non-droppable (linear) places are live on every branch -/
theorem row_agreement_branch (inRow first : List Wiring.Place) (rest : List (List Wiring.Place)) (exits : List Bool)
    (hr : rest ≠ []) (ds : List (List Wiring.Place)) (hd : Wiring.deliver ⟨inRow, first :: rest⟩ exits = some ds)
    (hnf : Wiring.NamesNodup first) (i : Nat) (row succIn d : List Wiring.Place)
    (hrow : (first :: rest)[i]? = some row) (hdi : ds[i]? = some d) (hp : row.Perm succIn)
    (hn : Wiring.NamesNodup row) (hc : ∀ p ∈ first, ∀ q ∈ row, p.name = q.name → p = q)
    (hlin : (row.filter fun p => !p.droppable).Perm (first.filter fun p => !p.droppable)) :
    d = Wiring.blockInputs false ⟨succIn, []⟩ :=
  Wiring.deliver_branch inRow first rest exits hr ds hd hnf i row succIn d hrow hdi hp hn hc hlin

/-- **C03 `return_vars_order`**: `insert_return_vars` prepends `%ret0, %ret1, …` (in index order) to the exit's input row
    and to the output row of every predecessor of the exit; an edge into the exit passes its row unsorted, so the function
    outputs are the return values in order, followed by the remaining exit places, provided the predecessor's row was
    the exit's row -/
theorem return_vars_order (tys : List Bool) (exitIn predOut inRow : List Wiring.Place) (h : predOut = exitIn) :
    Wiring.deliver ⟨inRow, [(Wiring.insertReturnVars tys exitIn predOut).2]⟩ [true] =
      some [(Wiring.insertReturnVars tys exitIn predOut).1] ∧
    (Wiring.insertReturnVars tys exitIn predOut).1.take tys.length =
      tys.zipIdx.map (fun (d, i) => Wiring.retVar i d) ∧
    (Wiring.insertReturnVars tys exitIn predOut).1.drop tys.length = exitIn :=
  Wiring.return_vars_order tys exitIn predOut inRow h

/-- non-vacuity: a branching block whose successors need different droppable places and share the linear `q`
    (the `TupleSum` path); the successor of branch 1 expects `B, a1, q` -/
example : Wiring.deliver ⟨[], [[⟨"zz", true⟩, ⟨"q", false⟩, ⟨"a1", true⟩], [⟨"q", false⟩, ⟨"a1", true⟩, ⟨"B", true⟩]]⟩
      [false, false] =
    some [[⟨"a1", true⟩, ⟨"zz", true⟩, ⟨"q", false⟩], [⟨"B", true⟩, ⟨"a1", true⟩, ⟨"q", false⟩]] := by decide
example : Wiring.blockInputs false ⟨[⟨"a1", true⟩, ⟨"q", false⟩, ⟨"B", true⟩], []⟩ =
    [⟨"B", true⟩, ⟨"a1", true⟩, ⟨"q", false⟩] := by decide

/-! ## Non-capturing nested functions: the recursive call of a nested function is the nested function
    (`checker/func_checker.py: check_nested_func_def`, `checker/core.py: Globals.__getitem__`; model `Model/Scope.lean`) -/

/-- **C03 `nested_recursion_resolves_to_itself`**: in the scope in which the body of a self-recursive, non-capturing
    nested function `f` is checked, the name `f` resolves to the nested function — for all contents of the enclosing
    frame's locals (the module namespace for module-level functions), globals and builtins, in particular when a
    module-level function of the same name exists — and all other names resolve as in the enclosing function -/
theorem nested_recursion_resolves_to_itself (g : Scope.Globals) (f : String) (id : Nat) :
    Scope.lookup (Scope.bindNested g f id) f = .defn id ∧
    ∀ x, x ≠ f → Scope.lookup (Scope.bindNested g f id) x = Scope.lookup g x :=
  ⟨Scope.lookup_bindNested_self g f id, fun x h => Scope.lookup_bindNested_other g f x id h⟩

/-- why the binding has to go into `f_locals`: bound in `f_globals`, a same-named definition `j` of the frame's locals
    (module namespace) captures the recursive call (seeded change C03-m6; `shadowing_recursion(3)` = 105 instead of 6) -/
theorem nested_binding_in_globals_is_shadowed (g : Scope.Globals) (f : String) (id j : Nat)
    (h : Scope.get g.locals f = some (.defn j)) (hne : j ≠ id) :
    Scope.lookup (Scope.bindNestedInGlobals g f id) f ≠ .defn id := by
  rw [Scope.lookup_bindNestedInGlobals_shadowed g f id j h]
  intro e; injection e with e; exact hne e

/-! ## Non-vacuity: a program with a loop, `break`, `continue`, early return, unreachable tail, lifted
    expressions and calls satisfies all hypotheses, is accepted, and has a terminating Python run -/

/-- `while x < 5: (if c(): break) ; x += f(x) ; (if x == 3: continue) ; y = (g() if x > 2 else 7)`
    `return y + (k() if p() else 1) + (u() < v() < (x := w()))`; `z = 1` (unreachable).  The return expression
    has the two shapes that were miscompiled before f9e33c1 / 7c8aeda. -/
def exProg : Stmt :=
  .cons (.while (.bi (.cmp .lt) (.var (.user "x")) (.num 5))
    (.cons (.ite (.call0 "c") (.cons .brk .nil) .nil)
    (.cons (.aug (.user "x") .add (.un (.call1 "f") (.var (.user "x"))))
    (.cons (.ite (.bi (.cmp .eq) (.var (.user "x")) (.num 3)) (.cons .cont .nil) .nil)
    (.cons (.assign (.user "y") (.ite (.bi (.cmp .gt) (.var (.user "x")) (.num 2)) (.call0 "g") (.num 7))) .nil)))))
  (.cons (.ret (.bi (.arith .add) (.bi (.arith .add) (.var (.user "y")) (.ite (.call0 "p") (.call0 "k") (.num 1)))
      (.cmp2 .lt .lt (.call0 "u") (.call0 "v") (.walrus (.user "x") (.call0 "w")))))
  (.cons (.assign (.user "z") (.num 1)) .nil))

def exEnv : Env := fun tr f _ => if f == "c" then .bool (decide (tr.length > 4)) else .int (tr.length % 2 + 1)

example : userS exProg = true ∧ loopScoped exProg false = true := by decide
example : (match buildCfg false exProg with | .ok g => g.blocks.length | .error _ => 0) = 20 := by decide +kernel
example : ∃ o st', Exec exEnv exProg (fun _ => .int 0, []) o st' ∧ o = .ret (.int 3) ∧ st'.2.length = 11 := by
  refine ⟨_, _, execFuel_sound exEnv 100 exProg (fun _ => .int 0, []) _ _ rfl, ?_, ?_⟩ <;> decide

/-- `for i in range(x if c() else 3): (if i == 1: continue); y += f(i)` then `return y` -/
def exFor : Stmt :=
  .cons (.for (.user "i") (.un (.prim .range) (.ite (.call0 "c") (.var (.user "x")) (.num 3)))
    (.cons (.ite (.bi (.cmp .eq) (.var (.user "i")) (.num 1)) (.cons .cont .nil) .nil)
    (.cons (.aug (.user "y") .add (.un (.call1 "f") (.var (.user "i")))) .nil)))
  (.cons (.ret (.var (.user "y"))) .nil)
example : userS exFor = true ∧ loopScoped exFor false = true := by decide
example : ∃ o st', Exec exEnv exFor (fun _ => .int 0, []) o st' ∧ o = .ret (.int 3) ∧ st'.2.length = 3 := by
  refine ⟨_, _, execFuel_sound exEnv 100 exFor (fun _ => .int 0, []) _ _ rfl, ?_, ?_⟩ <;> decide

end GuppyVerif.Builder
