import GuppyVerif.Lemmas.C07Sim
/-! # C07 — Borrowed arguments reflect the callee's in-place updates

`callBorrowA f π x` executes the place-level instruction sequence the
compiler emits for `callee(π)` (`emitAbs`: the cascade of array borrows and returns generated by
`visit_PlaceNode` / `_update_inout_ports` through the `__getitem__`/`__setitem__` calls of every
subscript on the path) on a tree-shaped store `x`; `f` is the callee's effect on its argument.
The specification is the lens `getP`/`putP` on trees (`Spec/C07.lean`).
The refinement to wires (`emitW`: tuple unpack/pack plumbing of `DFContainer`, `itousize`) is proved
too (`wire_writeback`, `wire_writeback_subscripts`, `wire_assign`); `emitW` itself is compared with
the real compiler's output per probe.  Not proved at wire level: `emitAssignSetW`. -/
namespace GuppyVerif.Places

/-- **lens laws** for the reference semantics, for every path (put-get, get-put, put-put): the
    specification `store[π := v]` is a well-behaved lens on trees. -/
theorem lens_put_get (π : List Step) (v x x' : V) (h : putP π v x = some x') :
    getP π x' = some v := getP_putP π v x x' h

theorem lens_get_put (π : List Step) (x v : V) (h : getP π x = some v) : putP π v x = some x :=
  putP_getP π x v h

theorem lens_put_put (π : List Step) (a b x x1 : V) (h : putP π a x = some x1) :
    putP π b x1 = putP π b x := putP_putP π a b x x1 h

/-- **frame**: an update at `π` leaves every part of the store that does not overlap `π`
    unchanged. -/
theorem lens_frame (π q : List Step) (v x x' : V) (hd : Disjoint π q) (h : putP π v x = some x') :
    getP q x' = getP q x := by
  obtain ⟨c, a, b, r1, r2, rfl, rfl, hab⟩ := hd
  exact getP_putP_of_ne c hab h

/-- **C07 (write-back is the lens update)**: for every place path `π` (any number of subscripts,
    any projections in between and after), every store in which `π` denotes a value that is not
    lent out, and every callee effect `f`: the emitted borrow / call / return sequence terminates
    without panic and leaves the store equal to `store[π := f (store[π])]`. -/
theorem writeback_lens (f : V → V) (π : CPath) (x v : V) (hget : getP π.steps x = some v)
    (hv : v.isHole = false) :
    ∃ x', assignAt π.steps f x = some x' ∧ callBorrowA f π x = .ok x' := by
  obtain ⟨x', hput, hrun⟩ := callBorrowA_eq f π x v hget hv
  exact ⟨x', (assignAt_of_get hget).trans hput, hrun⟩

/-- **C07 (assignment to a place)**: `π = v` (`StmtCompiler._assign_place`: the same cascade with the
    call replaced by binding the place) turns the store into `store[π := v]`. -/
theorem assign_lens (π : CPath) (x old v : V) (hget : getP π.steps x = some old)
    (hold : old.isHole = false) :
    ∃ x', putP π.steps v x = some x' ∧ callBorrowA (fun _ => v) π x = .ok x' :=
  callBorrowA_eq (fun _ => v) π x old hget hold

/-- **C07 (nothing else changes)**: after `callee(π)` every part of the store that does not
    overlap `π` reads as before. -/
theorem writeback_frame (f : V → V) (π : CPath) (x v x' : V) (hget : getP π.steps x = some v)
    (hv : v.isHole = false) (hrun : callBorrowA f π x = .ok x') (q : List Step)
    (hd : Disjoint π.steps q) : getP q x' = getP q x := by
  obtain ⟨x'', hput, hrun'⟩ := callBorrowA_eq f π x v hget hv
  cases hrun.symm.trans hrun'
  exact lens_frame _ _ _ _ _ hd hput

/-- **C07 (the callee sees the argument)**: the value passed to the callee is `store[π]`, and the
    caller afterwards reads the callee's result at `π`. -/
theorem writeback_observed (f : V → V) (π : CPath) (x v x' : V) (hget : getP π.steps x = some v)
    (hv : v.isHole = false) (hrun : callBorrowA f π x = .ok x') : getP π.steps x' = some (f v) := by
  obtain ⟨x'', hput, hrun'⟩ := callBorrowA_eq f π x v hget hv
  cases hrun.symm.trans hrun'
  exact lens_put_get _ _ _ _ hput

/-- **C07 (wire level, nested subscripts of any depth)**: for `callee(x[i₁]…[i_m])` the SSA op list
    of the model (`emitW`: `itousize`, `borrow`, `return`, `Call` with their wiring, compared with the
    real compiler's output on every run) computes `store[π := f (store[π])]` from the inputs
    `x, i₁, …, i_m` — the place-level theorem carried down to wires, with no hypothesis on the
    shape of the store or on the callee.  (Paths with struct/tuple projections: `wire_writeback`.) -/
theorem wire_writeback_subscripts (f : V → V) (is : List Nat) (c : String) (x v : V)
    (hget : getP (subPath is).steps x = some v) (hv : v.isHole = false) :
    ∃ x', assignAt (subPath is).steps f x = some x' ∧
      runW f (emitW (arrN is.length) (subPath is) c) (.val x :: is.map .int) = .ok [.val x'] := by
  obtain ⟨x', hasg, hrun⟩ := writeback_lens f (subPath is) x v hget hv
  exact ⟨x', hasg, wire_sim_subscripts is c x x' hrun⟩

/-- **C07 (wire level, every well-typed place path)**: for `callee(π)` with `π` any nesting of struct
    fields, tuple indices and subscripts, on a store that conforms to the root type `t` (`Conf`),
    with a callee that returns a value of the argument's type: the SSA op list of the model
    (`emitW`: the tuple unpack/pack plumbing of `DFContainer.__setitem__/__getitem__`, `itousize`,
    `borrow`/`return`, `Call`, with all wiring — compared with the real compiler's output on every
    run) computes `store[π := f (store[π])]` from the inputs `x, i₁, …, i_m`. -/
theorem wire_writeback (f : V → V) (t pty : Ty) (π : CPath) (c : String) (x v : V)
    (hWT : WT t π.chunks π.tail pty) (hx : Conf t x) (hfc : ∀ a, Conf pty a → Conf pty (f a))
    (hget : getP π.steps x = some v) (hv : v.isHole = false) :
    ∃ x', assignAt π.steps f x = some x' ∧
      runW f (emitW t π c) (.val x :: π.chunks.map (fun ch => W.int ch.idx)) = .ok [.val x'] := by
  obtain ⟨x', hasg, hrun⟩ := writeback_lens f π x v hget hv
  exact ⟨x', hasg, wire_sim Conf.typing c x x' hWT hx hfc hrun⟩

/-- **C07 (assignment to a copyable array element)**: `xs…[i_m] = v` with a copyable element type
    (classical `__setitem__`: visit the parent place, `set`, write the parent back — the parent
    arrays on the path are non-copyable and are borrowed/returned) turns the store into
    `store[π := v]`, for every nesting depth and every projection prefix. -/
theorem assign_set_lens (f : V → V) (π : CPath) (x old v : V) (hm : 0 < π.chunks.length)
    (htl : π.tail = []) (hget : getP π.steps x = some old) (hold : old.isHole = false) :
    ∃ x', putP π.steps v x = some x' ∧ assignSetA f π x v = .ok x' :=
  assignSet_run f π x old v hm htl hget hold

/-- **C07 (wire level of assignment to a place)**: `π = v` (`StmtCompiler._assign_place`) for every
    well-typed path that ends in a projection onto a component of leaf type (qubit / copyable /
    array), conforming store and conforming new value: the SSA op list `emitAssignW` — the same
    cascade and `DFContainer` plumbing with the call replaced by binding the place to the input
    wire, plus the `drop` of the replaced value — computes `store[π := v]` from the inputs
    `x, i₁, …, i_m, v`.  (No `Call` occurs in the op list; the interpreter's callee parameter is
    instantiated with the constant function `fun _ => v` of the place level.) -/
theorem wire_assign (t pty : Ty) (π : CPath) (x old v : V)
    (hWT : WT t π.chunks π.tail pty) (hleaf : ∀ ts, pty ≠ .tup ts) (htl : π.tail ≠ [])
    (hx : Conf t x) (hv : Conf pty v) (hget : getP π.steps x = some old)
    (hold : old.isHole = false) :
    ∃ x', putP π.steps v x = some x' ∧
      runW (fun _ => v) (emitAssignW t π)
        (.val x :: (π.chunks.map (fun ch => W.int ch.idx) ++ [.val v])) = .ok [.val x'] := by
  obtain ⟨x', hput, hrun⟩ := assign_lens π x old v hget hold
  exact ⟨x', hput, wire_sim_assign t pty π x x' v hWT hleaf htl hx hv hrun⟩

/-- **C07 (function signatures)**: a function with `k` borrowed parameters has `k` extra outputs,
    placed after the declared results, in parameter order (`FunctionType.to_hugr`) — and
    `_update_inout_ports` hands the `j`-th extra output to the `j`-th borrowed argument — counting
    ALL borrowed parameters, also those whose argument is a temporary (not a place), which take
    their port without binding anything — and consumes all of them (its final assertion holds). -/
theorem inout_ports_count_order (ps : List Param) (results : List Nat) :
    (hugrOutputs ps results).length = results.length + (ps.filter (·.borrowed)).length ∧
    (hugrOutputs ps results).take results.length = results.map .inl ∧
    (hugrOutputs ps results).drop results.length
      = (ps.filter (·.borrowed)).map (fun q => .inr q.name) ∧
    ∀ ports : List Nat, ports.length = (ps.filter (·.borrowed)).length →
      updateInoutPorts ps ports = some (inoutBindings ps ports, []) := by
  refine ⟨by simp [hugrOutputs], ?_, ?_, ?_⟩
  · unfold hugrOutputs
    have : results.length = (results.map (Sum.inl (β := Nat))).length := by simp
    rw [this, List.take_left']
    simp
  · unfold hugrOutputs
    have : results.length = (results.map (Sum.inl (β := Nat))).length := by simp
    rw [this, List.drop_left']
    simp
  · intro ports h
    simpa using updateInoutPorts_spec ps ports [] h

/-- **C07 (temporaries among the borrowed arguments)**: a place argument receives the port whose
    number is its rank among ALL borrowed parameters: if `j` borrowed parameters precede it
    (places or temporaries), it gets extra output `j`. -/
theorem inout_port_of_place (pre post : List Param) (q : Param) (ports : List Nat)
    (hq : q.borrowed = true) (hpl : q.place = true)
    (hlen : ports.length = ((pre ++ q :: post).filter (·.borrowed)).length) :
    ∃ w, ports[(pre.filter (·.borrowed)).length]? = some w ∧
      (q.name, w) ∈ inoutBindings (pre ++ q :: post) ports := by
  have hlt : (pre.filter (·.borrowed)).length < ports.length := by
    rw [hlen]; simp [List.filter_append, hq]
  refine ⟨ports[(pre.filter (·.borrowed)).length], List.getElem?_eq_getElem hlt, ?_⟩
  unfold inoutBindings
  simp only [List.mem_map, List.mem_filter]
  refine ⟨(q, ports[(pre.filter (·.borrowed)).length]), ⟨?_, hpl⟩, rfl⟩
  rw [List.mem_iff_getElem?]
  refine ⟨(pre.filter (·.borrowed)).length, ?_⟩
  rw [List.getElem?_zip_eq_some]
  refine ⟨?_, List.getElem?_eq_getElem hlt⟩
  simp [List.filter_append, hq]

/-- the hypotheses of `inout_port_of_place` are satisfiable: `three(array(0, 1), fresh(), xs)` — two
    temporaries precede the place `xs`, which is bound to extra output 2 -/
example : ∃ w, [10, 11, 12][2]? = some w ∧
    (2, w) ∈ inoutBindings ([⟨0, true, false, false⟩, ⟨1, true, false, false⟩] ++ ⟨2, true, false, true⟩ :: []) [10, 11, 12] :=
  inout_port_of_place [⟨0, true, false, false⟩, ⟨1, true, false, false⟩] [] ⟨2, true, false, true⟩ [10, 11, 12] rfl rfl rfl

/-- a temporary in front of a place: `copy_first(array(7, 8), xs)` binds `xs` to the SECOND port -/
example : updateInoutPorts [⟨0, true, false, false⟩, ⟨1, true, false, true⟩] [10, 11] = some ([(1, 11)], []) := by
  decide

/-- one port too few: `_update_inout_ports` fails (`next` on an exhausted iterator) -/
theorem inout_ports_missing (q : Param) (hq : q.borrowed = true) :
    updateInoutPorts [q] [] = none := by simp [updateInoutPorts, hq]

/-- `callee(x.0[1].1)` on a concrete store -/
example :
    callBorrowA (fun _ => .leaf 99) ⟨[⟨[0], 1⟩], [1]⟩
      (.tup [.arr [.tup [.leaf 1, .leaf 2], .tup [.leaf 3, .leaf 4]], .leaf 5])
    = .ok (.tup [.arr [.tup [.leaf 1, .leaf 2], .tup [.leaf 3, .leaf 99]], .leaf 5]) := rfl

/-- nested subscripts `callee(x[1][0])` -/
example :
    callBorrowA (fun _ => .leaf 7) ⟨[⟨[], 1⟩, ⟨[], 0⟩], []⟩
      (.arr [.arr [.leaf 1, .leaf 2], .arr [.leaf 3, .leaf 4]])
    = .ok (.arr [.arr [.leaf 1, .leaf 2], .arr [.leaf 7, .leaf 4]]) := rfl

/-- a lent element cannot be borrowed again -/
example :
    callBorrowA id ⟨[⟨[], 0⟩], []⟩ (.arr [.hole, .leaf 2]) = .error .alreadyBorrowed := rfl

/-- the wire-level op list of `cal(x[1][0])` on a concrete store -/
example :
    runW (fun _ => .leaf 7) (emitW (arrN 2) (subPath [1, 0]) "cal")
      [.val (.arr [.arr [.leaf 1, .leaf 2], .arr [.leaf 3, .leaf 4]]), .int 1, .int 0]
    = .ok [.val (.arr [.arr [.leaf 1, .leaf 2], .arr [.leaf 7, .leaf 4]])] := by
  obtain ⟨x', h1, h2⟩ := wire_writeback_subscripts (fun _ => .leaf 7) [1, 0] "cal"
    (.arr [.arr [.leaf 1, .leaf 2], .arr [.leaf 3, .leaf 4]]) (.leaf 3) rfl rfl
  have : x' = .arr [.arr [.leaf 1, .leaf 2], .arr [.leaf 7, .leaf 4]] := by
    have h : assignAt (subPath [1, 0]).steps (fun _ => V.leaf 7)
        (.arr [.arr [.leaf 1, .leaf 2], .arr [.leaf 3, .leaf 4]])
        = some (.arr [.arr [.leaf 1, .leaf 2], .arr [.leaf 7, .leaf 4]]) := rfl
    rw [h] at h1; exact (Option.some.inj h1).symm
  rw [← this]; exact h2

/-- `WT` and `Conf` of `wire_writeback` are inhabited (cell 1 of this store is lent, so `hget` does
    not hold of this pair) -/
example : WT (.arr (.tup [.q, .q])) [⟨[], 1⟩] [1] .q := ⟨.tup [.q, .q], rfl, rfl⟩
example : Conf (.arr (.tup [.q, .q])) (.arr [.tup [.leaf 1, .leaf 2], .hole]) := by
  simp [Conf, ConfL, V.isHole]

/-- `x[1][0] = 9` on an array of int arrays -/
example : assignSetA id ⟨[⟨[], 1⟩, ⟨[], 0⟩], []⟩ (.arr [.arr [.leaf 1, .leaf 2], .arr [.leaf 3, .leaf 4]]) (.leaf 9)
    = .ok (.arr [.arr [.leaf 1, .leaf 2], .arr [.leaf 9, .leaf 4]]) := rfl

example : emitAbs 2 = [.borrow 1, .borrow 2, .ret 1, .call, .borrow 1, .ret 2, .ret 1] := by decide

example : Disjoint [.proj 0, .idx 1] [.proj 0, .idx 2, .proj 3] :=
  ⟨[.proj 0], .idx 1, .idx 2, [], [.proj 3], rfl, rfl, by decide⟩

example : hugrOutputs [⟨0, true, false, true⟩, ⟨1, false, false, true⟩, ⟨2, true, false, true⟩] [7]
    = [.inl 7, .inr 0, .inr 2] := by decide

end GuppyVerif.Places
