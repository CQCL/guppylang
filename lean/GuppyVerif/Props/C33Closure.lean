import GuppyVerif.Lemmas.C33Closure
/-! # C33 — which nested functions are capturing closures (the gate's trigger)

`checkNested` / `checkOuter` (Model/ClosureGate.lean) mirror the gate in
`check_nested_func_def`: liveness of the nested body, `captured = live ∩ ctx.locals − params`.
The specification (`Spec/C33Closure.lean`) says positionally what "uses a local of the enclosing
function" means and never mentions types. -/
namespace GuppyVerif.ClosureGate

open Spec

/-- **C33 (capturing closures are gated)**: a nested function definition is rejected with the
    capturing-closures diagnostic iff experimental features are off and it uses — before assigning
    it itself, and not as one of its own parameters — a name that is a local of the enclosing
    function; if it uses none it is accepted under both settings. -/
theorem closure_gated_iff_captures (flag : Bool) (locals : List (Nat × VKind)) (f : Inner) :
    (checkNested flag locals f = .reject ↔ flag = false ∧ Captures (locals.map (·.1)) f) ∧
    (¬ Captures (locals.map (·.1)) f → checkNested flag locals f = .accept) := by
  have hc := captured_ne_nil_iff locals f
  unfold checkNested
  cases h : captured locals f with
  | nil =>
    rw [h] at hc
    have : ¬ Captures (locals.map (·.1)) f := fun c => (hc.mpr c) rfl
    simp [this]
  | cons c cs =>
    rw [h] at hc
    have hcap : Captures (locals.map (·.1)) f := hc.mp (by simp)
    cases flag
    · simp [hcap]
    · simp only [Bool.not_true, Bool.false_eq_true, ↓reduceIte, false_and, iff_false]
      refine ⟨?_, fun hn => absurd hcap hn⟩
      split <;> simp

/-- **C33 (the gate does not look at types)**: whether the captured locals are values or
    functions (a `Callable` parameter, `g = double`, a sibling nested function) is irrelevant —
    for one nested definition and for a whole enclosing function whose locals are re-typed at will. -/
theorem closure_gate_ignores_types (flag : Bool) (κ : Nat → VKind) (items : List Item) :
    ∀ (locals locals' : List (Nat × VKind)), locals.map (·.1) = locals'.map (·.1) →
      checkOuter flag locals items = checkOuter flag locals' (items.map (retype κ)) := by
  induction items with
  | nil => intro l l' _; rfl
  | cons it rest ih =>
    intro l l' h
    cases it with
    | localVar x k =>
      simp only [List.map_cons, retype, checkOuter]
      exact ih _ _ (names_bind_congr h x k (κ x))
    | nested f =>
      simp only [List.map_cons, retype, checkOuter]
      rw [checkNested_congr flag h f]
      cases checkNested flag l' f with
      | accept => exact ih _ _ (names_bind_congr h f.name .func .func)
      | reject => rfl
      | illegalAssign => rfl

/-! Enclosing function with a value parameter 0, a `Callable` parameter 1, a
    function-valued local 2; name 9 is a global.  (a) captures only the Callable, (b) shadows the
    local by a parameter, (c) assigns before reading, (d) reads then assigns a captured name. -/
def exLocals : List (Nat × VKind) := [(2, .func), (1, .func), (0, .value)]

example : checkNested false exLocals ⟨5, [7], [⟨[1, 7], none⟩]⟩ = .reject ∧
    checkNested true exLocals ⟨5, [7], [⟨[1, 7], none⟩]⟩ = .accept ∧
    checkNested false exLocals ⟨5, [1], [⟨[1, 9], none⟩]⟩ = .accept ∧
    checkNested false exLocals ⟨5, [7], [⟨[7], some 0⟩, ⟨[0], none⟩]⟩ = .accept ∧
    checkNested false exLocals ⟨5, [7], [⟨[0], some 6⟩, ⟨[7], some 0⟩, ⟨[6], none⟩]⟩ = .reject ∧
    checkNested true exLocals ⟨5, [7], [⟨[0], some 6⟩, ⟨[7], some 0⟩, ⟨[6], none⟩]⟩ = .illegalAssign := by
  decide

/-- a sibling nested function (itself capturing nothing) used by a later one -/
example : checkOuter false [] [.localVar 0 .value, .nested ⟨3, [7], [⟨[7], none⟩]⟩,
      .nested ⟨4, [7], [⟨[3, 7], none⟩]⟩] = .reject ∧
    checkOuter false [] [.localVar 0 .value, .nested ⟨3, [7], [⟨[7, 3], none⟩]⟩] = .accept := by decide

end GuppyVerif.ClosureGate
