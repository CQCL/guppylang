import GuppyVerif.Lemmas.C29Snippet
import GuppyVerif.Lemmas.C29ToSpan
/-! # C29 — Diagnostic rendering is total and faithful

The model (`Model/Render.lean`) mirrors `diagnostic.py` and `span.py` *after* the fix commits (wrap
only at whitespace; empty / blank texts; sub-diagnostic span truthiness; `to_span` columns).  The
specification vocabulary (`Spec/C29.lean`) reads rendered text back with its own functions
(`parseLine`, `numbered`, `words`, `vis`, `MarkerUnder`).

Coordinates: a rendered row body shows the source line minus `r` columns of pure indentation, so
body index `j` is source column `j + r`. -/
namespace GuppyVerif.Render

/-- **C29 (total, wrap)**: `diagnostic.wrap` never raises and returns at least one line
    (after the fix; before it, empty and whitespace-only texts raised `ValueError`). -/
theorem wrap_total (text : Str) (w : Nat) (ii si : Str) :
    ∃ first rest, wrap text w ii si = .ok (first :: rest) := by
  obtain ⟨f, r, h⟩ := wrapLines_eq_cons text w
  exact ⟨_, _, by rw [wrap_eq, h]; rfl⟩

/-- **C29 (total, snippet)**: for a span inside the registered source that satisfies the explicit
    precondition `ShiftSafe` (what `Loc.shift_left` asserts), `render_snippet` terminates
    without error — for every source, label, line-number width, highlight kind and context size. -/
theorem render_total (src : List Str) (s : Span) (label : Option Str) (maxLn : Nat) (prim : Bool)
    (pfx : Nat) (hin : InSource src s) (hv : s.Valid) (hsafe : ShiftSafe src s pfx) :
    ∃ out, renderSnippet src s label maxLn prim pfx = .ok out := by
  rw [renderSnippet_eq src s label maxLn prim pfx hin hv, if_pos hsafe]
  exact ⟨_, rfl⟩

/-- the precondition is necessary: at every excluded point inside the source the code raises
    `AssertionError` (classification of the points excluded by `ShiftSafe`) -/
theorem shift_unsafe_raises (src : List Str) (s : Span) (label : Option Str) (maxLn : Nat) (prim : Bool)
    (pfx : Nat) (hin : InSource src s) (hv : s.Valid) (hsafe : ¬ ShiftSafe src s pfx) :
    renderSnippet src s label maxLn prim pfx = .error .assertion := by
  rw [renderSnippet_eq src s label maxLn prim pfx hin hv, if_neg hsafe]

/-- spans whose endpoints are not inside the indentation of their lines (all token-based spans)
    satisfy the precondition -/
theorem token_spans_shift_safe (src : List Str) (s : Span) (pfx : Nat) (hin : InSource src s) (hv : s.Valid)
    (ht : TokenBased src s) : ShiftSafe src s pfx := by
  have hle := hv.le
  exact ⟨Nat.le_trans (removed_le_leadingWs src s pfx hin hle _ (Nat.sub_le _ _) hle) ht.1,
    Nat.le_trans (removed_le_leadingWs src s pfx hin hle _ (Nat.le_trans (Nat.sub_le _ _) hle)
      (Nat.le_refl _)) ht.2⟩

example : let src := ["def f():".toList, "                x = 1".toList]
    let s : Span := ⟨⟨2, 16⟩, ⟨2, 17⟩⟩
    InSource src s ∧ s.Valid ∧ TokenBased src s ∧ removed src s 0 = 12 := by
  decide +kernel

/-- **C29 (true line numbers)**: the numbered rows of a rendered snippet are exactly the context
    lines, the first and (if different) the last line of the span, in order; the row numbered `k`
    shows source line `k` minus `r` leading columns, where `r` is the same for all rows and every
    removed column is indentation (`r ≤` the leading whitespace of every shown line). -/
theorem line_numbers_true (src : List Str) (s : Span) (label : Option Str) (maxLn : Nat) (prim : Bool)
    (pfx : Nat) (out : List Str) (hin : InSource src s) (hv : s.Valid)
    (h : renderSnippet src s label maxLn prim pfx = .ok out) :
    ∃ r, (∀ k ∈ shown s pfx, r ≤ leadingWs (srcLine src k)) ∧
      numbered out = (shown s pfx).map (fun k => (k, (srcLine src k).drop r)) := by
  rw [renderSnippet_eq src s label maxLn prim pfx hin hv] at h
  split at h <;> cases h
  refine ⟨removed src s pfx, ?_, (numbered_showRows _ _).trans (entries_snippetRows _ _ _ _ _ _ hin.1)⟩
  intro k hk
  have hle := hv.le
  have hc := ctxLines_lt s pfx hin.1
  simp only [shown_eq s pfx hin.1, ctxNums, List.mem_append, List.mem_range'_1, List.mem_cons] at hk
  apply removed_le_leadingWs src s pfx hin hle k <;>
  · rcases hk with hk | rfl | hk
    · omega
    · omega
    · split at hk <;> simp at hk; omega

/-- **C29 (markers under the spanned columns)**: with `r` the number of trimmed indentation
    columns (`r ≤` both span columns), the row right after the last span line carries exactly
    `start.col - r` blanks and then `stop.col - start.col` highlight characters (single-line span:
    body indices `[start.col - r, stop.col - r)`, i.e. source columns `[start.col, stop.col)`), followed
    by nothing or by a blank and the label.  For a multi-line span the first line is marked from
    `start.col` to its end and the last line from its (trimmed) beginning to `stop.col`.
    The highlight character is `^` for the primary span and `-` otherwise. -/
theorem markers_under_columns (src : List Str) (s : Span) (label : Option Str) (maxLn : Nat) (prim : Bool)
    (pfx : Nat) (out : List Str) (hin : InSource src s) (hv : s.Valid)
    (h : renderSnippet src s label maxLn prim pfx = .ok out) :
    ∃ r tail, r ≤ s.start.col ∧ r ≤ s.stop.col ∧ (tail = [] ∨ ∃ t, tail = ' ' :: t) ∧
      (s.start.line = s.stop.line →
        MarkerUnder out s.stop.line ((srcLine src s.stop.line).drop r)
          (s.start.col - r) (s.stop.col - s.start.col) (if prim then '^' else '-') tail) ∧
      (s.start.line ≠ s.stop.line →
        MarkerUnder out s.start.line ((srcLine src s.start.line).drop r)
          (s.start.col - r) ((srcLine src s.start.line).length - s.start.col) (if prim then '^' else '-') [] ∧
        MarkerUnder out s.stop.line ((srcLine src s.stop.line).drop r)
          0 (s.stop.col - r) (if prim then '^' else '-') tail) := by
  rw [renderSnippet_eq src s label maxLn prim pfx hin hv] at h
  split at h <;> cases h
  rename_i hsafe
  obtain ⟨hs1, hs2⟩ : removed src s pfx ≤ s.start.col ∧ removed src s pfx ≤ s.stop.col := hsafe
  unfold snippetOut
  generalize removed src s pfx = r at *
  generalize (if prim then '^' else '-') = hl
  generalize (digits maxLn).length = ll
  obtain ⟨tail, htail, pre, more, e⟩ := snippetRows_last src s hl pfx r label
  refine ⟨r, tail, hs1, hs2, htail, fun hsingle => ?_, fun hmulti => ?_⟩
  · have hcols : s.start.col ≤ s.stop.col := by rcases hv with hv | hv <;> omega
    have := markerUnder_showRows ll (e.trans (by rw [lastHighlight, if_pos hsingle]; rfl))
    rwa [show s.stop.col - r - (s.start.col - r) = s.stop.col - s.start.col by omega] at this
  · obtain ⟨pre1, rest1, e1⟩ := snippetRows_first src s hl pfx r label hmulti
    have hb : (tline src r s.start.line).length - (s.start.col - r)
        = (srcLine src s.start.line).length - s.start.col := by
      simp only [tline, List.length_drop]; omega
    have h1 := markerUnder_showRows ll (tail := [])
      ((List.append_nil (highlight hl (s.start.col - r) (tline src r s.start.line).length)).symm ▸ e1)
    have h2 := markerUnder_showRows ll (e.trans (by rw [lastHighlight, if_neg hmulti]; rfl))
    rw [hb] at h1
    exact ⟨h1, h2⟩

example : let src := ["def f():".toList, "                x = 1".toList]
    MarkerUnder
      [" | ".toList, "2 |     x = 1".toList, "  |     ^ no".toList]
      2 ((srcLine src 2).drop 12) (16 - 12) (17 - 16) '^' " no".toList :=
  ⟨[" | ".toList], "2 |     x = 1".toList, "  |     ^ no".toList, [], by decide +kernel, by decide +kernel, by decide +kernel⟩

/-- **C29 (total, diagnostic)**: if every span of the diagnostic (main span with its two context
    lines, and the span of every sub-diagnostic) lies inside the registered source and is
    shift-safe, `render_diagnostic` terminates without error — for all titles, labels, messages and
    any number of sub-diagnostics with or without spans, labels, messages. -/
theorem render_total_diag (file : Str) (src : List Str) (d : Diag) (hd : DiagOK src d) :
    ∃ out, renderDiagnostic file src d = .ok out :=
  ⟨_, renderDiagnostic_eq file src d hd⟩

/-- **C29 (content preserved)**: the visible (non-whitespace) characters of the title, of every
    label and of every message of the diagnostic and its sub-diagnostics appear, in order, in the
    rendered output. -/
theorem content_preserved (file : Str) (src : List Str) (d : Diag) (out : List Str) (hd : DiagOK src d)
    (h : renderDiagnostic file src d = .ok out) :
    ∀ t ∈ diagTexts d, (vis t).Sublist out.flatten := by
  cases (renderDiagnostic_eq file src d hd).symm.trans h
  exact renderDiagnostic_shows file src d

example : diagTexts ⟨.error, some ⟨⟨1, 0⟩, ⟨1, 1⟩⟩, "T".toList, some "lab".toList, none,
    [⟨.note, none, none, some "msg".toList⟩]⟩ = ["T".toList, "lab".toList, "msg".toList] := by decide +kernel

/-- wrapping neither drops nor reorders nor invents visible characters -/
theorem content_preserved_wrap (text : Str) (w : Nat) :
    vis (wrapLines text w).flatten = vis text :=
  vis_wrapLines text w

/-- **C29 (width respected)**: every line produced by `wrap` is its indent followed by a body that
    is at most `w` characters long, or else contains no whitespace at all (a single word longer than
    the width, which is deliberately not broken). -/
theorem width_respected (text : Str) (w : Nat) (ii si : Str) (out : List Str)
    (h : wrap text w ii si = .ok out) :
    ∀ l ∈ out, ∃ ind body, l = ind ++ body ∧ (ind = ii ∨ ind = si) ∧
      (body.length ≤ w ∨ ∀ c ∈ body, isWs c = false) := by
  cases (wrap_eq text w ii si).symm.trans h
  have hwd := wrapLines_width text w
  intro l hl
  obtain ⟨f, r, hw⟩ := wrapLines_eq_cons text w
  rw [hw] at hl hwd
  simp only [indent, List.mem_cons, List.mem_map] at hl
  rcases hl with rfl | ⟨b, hb, rfl⟩
  · exact ⟨ii, f, rfl, Or.inl rfl, hwd f (by simp)⟩
  · exact ⟨si, b, rfl, Or.inr rfl, hwd b (by simp [hb])⟩

/-- **C29 (wrapped only at whitespace)**: the whitespace-delimited words of the wrapped lines, read
    line by line, are exactly the words of the text, in order — no word is ever split across lines
    (not at hyphens, not when longer than the width), none is lost, none is merged with a neighbour.
    Holds at full strength after fix commit 55bf698; before it `textwrap`'s defaults
    `break_long_words` / `break_on_hyphens` made it false (D13). -/
theorem wrap_at_whitespace (text : Str) (w : Nat) :
    (wrapLines text w).flatMap words = words text :=
  words_wrapLines text w

example : words "the value is non-copyable".toList
    = ["the".toList, "value".toList, "is".toList, "non-copyable".toList] := by decide +kernel

/-! ## spans made from AST nodes (`to_span`, after fix d720416) -/

/-- **C29 (byte offsets → columns)**: for every line and every byte offset that lies on a character
    boundary (`byteLen pre` for a split `pre ++ post` of the line — all offsets `ast` reports), the
    converted column is the number of characters before it.  Before the fix `to_span` used the byte
    offset itself, which is wrong as soon as `pre` contains a non-ASCII character. -/
theorem char_column_on_boundary (pre post : Str) :
    charColumn (pre ++ post) (byteLen pre) = pre.length := by
  rw [← utf8Bytes_eq]; exact charColumn_boundary pre post

/-- `to_span` of a single-line node covering the token `tok` (non-empty) on line `k`, whose AST offsets
    are the byte lengths of what precedes its start and its end: the span's columns are the
    character positions of the token. -/
theorem to_span_token (lines : List Str) (k : Nat) (pre tok post : Str) (htok : tok ≠ [])
    (hline : lines.getD (k - 1) [] = pre ++ tok ++ post) :
    toSpan lines k (byteLen pre) k (byteLen (pre ++ tok))
      = ⟨⟨k, pre.length⟩, ⟨k, pre.length + tok.length⟩⟩ := by
  have hb : byteLen (pre ++ tok) ≠ 0 := by
    cases tok with
    | nil => exact absurd rfl htok
    | cons c cs =>
      have := utf8Len_pos c
      rw [← utf8Bytes_eq, utf8Bytes_append]
      simp only [utf8Bytes]; omega
  have h1 := char_column_on_boundary pre (tok ++ post)
  have h2 := char_column_on_boundary (pre ++ tok) post
  simp only [List.append_assoc] at h1 h2 hline
  simp only [toSpan, hb, ↓reduceIte, ite_self, hline, h1, h2, List.length_append]

/-- **C29 (markers under the token, end to end)**: if the span comes from `to_span` of a node covering
    token `tok` on line `k` (linecache line `pre ++ tok ++ post`, displayed line `pre ++ tok ++ post'`),
    the marker row has `|pre| − r` blanks and exactly `|tok|` markers: in source coordinates (body index
    + `r`) the markers cover exactly the characters of `tok`, whatever non-ASCII text precedes it. -/
theorem markers_under_token (src lines : List Str) (k : Nat) (pre tok post post' : Str) (htok : tok ≠ [])
    (hline : lines.getD (k - 1) [] = pre ++ tok ++ post) (hsrc : srcLine src k = pre ++ tok ++ post')
    (hk : 1 ≤ k ∧ k ≤ src.length) (label : Option Str) (maxLn : Nat) (prim : Bool) (pfx : Nat) (out : List Str)
    (h : renderSnippet src (toSpan lines k (byteLen pre) k (byteLen (pre ++ tok))) label maxLn prim pfx = .ok out) :
    ∃ r tail, r ≤ pre.length ∧
      MarkerUnder out k ((srcLine src k).drop r) (pre.length - r) tok.length (if prim then '^' else '-') tail := by
  rw [to_span_token lines k pre tok post htok hline] at h
  have hin : InSource src ⟨⟨k, pre.length⟩, ⟨k, pre.length + tok.length⟩⟩ := by
    refine ⟨hk.1, hk.2, ?_, ?_⟩ <;> simp [hsrc] <;> omega
  have hv : Span.Valid ⟨⟨k, pre.length⟩, ⟨k, pre.length + tok.length⟩⟩ := Or.inr ⟨rfl, by simp⟩
  obtain ⟨r, tail, h1, _, _, hs, _⟩ := markers_under_columns src _ label maxLn prim pfx out hin hv h
  refine ⟨r, tail, h1, ?_⟩
  have := hs rfl
  simpa using this

example : charColumn "s = \"é字\"; x = y".toList (byteLen "s = \"é字\"; x = ".toList) = 14
    ∧ byteLen "s = \"é字\"; x = ".toList = 17 := by decide +kernel

/-- **C29 (latest registration wins)**: after any history of `add_file` calls (with or without
    explicit content, file names repeated at will) on top of any map, looking a file up yields the
    lines stored by the last call for that name; other names are unaffected. -/
theorem latest_registration_wins (m : SourceMap) (ops : List SrcOp) (file : Str) :
    (m.applyOps ops).lookup file = (match latest ops file with
      | some ls => some ls
      | none => m.lookup file) := by
  induction ops generalizing m with
  | nil => simp [SourceMap.applyOps, latest]
  | cons op ops ih =>
    have h := ih (m.addFile op)
    unfold SourceMap.applyOps at h ⊢
    rw [List.foldl_cons, h]
    have hl : latest (op :: ops) file = (match latest ops file with
        | some ls => some ls
        | none => if op.file = file then some op.stored else none) := rfl
    rw [hl]
    cases latest ops file with
    | some ls => rfl
    | none =>
      simp only [SourceMap.addFile, SourceMap.lookup]
      split <;> rfl

/-- a snippet is rendered from the latest registered text of its file (so all theorems above
    apply to that text), and rendering a span of a never-registered file raises `KeyError` -/
theorem render_shows_latest (ops : List SrcOp) (file : Str) (s : Span) (label : Option Str) (maxLn : Nat)
    (prim : Bool) (pfx : Nat) :
    renderIn ops file s label maxLn prim pfx = (match latest ops file with
      | some src => renderSnippet src s label maxLn prim pfx
      | none => .error .key) := by
  unfold renderIn
  rw [latest_registration_wins]
  cases latest ops file <;> rfl

example : latest [.content "f".toList "old".toList, .content "g".toList "x".toList,
    .cache "f".toList ["new  \n".toList]] "f".toList = some ["new".toList] := by decide +kernel

end GuppyVerif.Render
