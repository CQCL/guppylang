import GuppyVerif.Lemmas.C09Term
/-! # C09 — Dataflow analyses equal the path-based solution in any visit order

The property theorems, the two fuel bounds and an example CFG.  All are for an arbitrary well-formed CFG (`Cfg.WF`: edges recorded
at both ends and closed over the block list — what `CFG.link`/`dummy_link` maintain), with
arbitrary use/assign sets, dummy edges, unreachable blocks and cycles, **no bound on size**,
and for **every** visiting order: `LReach`/`AReach` let any queued block be popped next.

The path theorems are about every run that ends with an empty worklist (`liveRun`/`assRun`
return `none` if the fuel runs out); `liveRun_terminates` / `assRun_terminates` show that both
worklists do end, under every scheduler, within explicit bounds. -/
namespace GuppyVerif.Dataflow

/-- **Liveness = path semantics, any order.**  After any run of the backward worklist that ends
    with no block queued, `x` is live before `b` iff `x` is read on some path from `b` before
    being reassigned — or, for the variables declared live initially (borrowed parameters), the
    path never terminates. -/
theorem live_iff_path (g : Cfg) (hg : g.WF) (init : List Var) (t : LSt)
    (hr : LReach g (liveInit g init) t) (hq : ∀ c ∈ g.blocks, c ∉ t.queue)
    (b : Blk) (hb : b ∈ g.blocks) (x : Var) :
    x ∈ t.vals b ↔ LiveSpec g init x b := by
  have hi := linv_reach g hg init hr (linv_init g init)
  rw [LiveSpec, infPath_eq]
  exact (hi.solves hq x).iff (livePath_least g x) (fun b c hb h => hg.closed b hb c h.2) (hi.sound · x)
    (fun hx c => hi.above c x hx) hb

/-- The statement's sentence verbatim, when no variable is declared live initially. -/
theorem live_iff_path_literal (g : Cfg) (hg : g.WF) (t : LSt)
    (hr : LReach g (liveInit g []) t) (hq : ∀ c ∈ g.blocks, c ∉ t.queue)
    (b : Blk) (hb : b ∈ g.blocks) (x : Var) :
    x ∈ t.vals b ↔ LivePath g x b := by
  rw [live_iff_path g hg [] t hr hq b hb x, liveSpec_nil]

/-- **Liveness does not depend on the visiting order.** -/
theorem live_schedule_independent (g : Cfg) (hg : g.WF) (init : List Var) (t₁ t₂ : LSt)
    (h₁ : LReach g (liveInit g init) t₁) (h₂ : LReach g (liveInit g init) t₂)
    (q₁ : ∀ c ∈ g.blocks, c ∉ t₁.queue) (q₂ : ∀ c ∈ g.blocks, c ∉ t₂.queue)
    (b : Blk) (hb : b ∈ g.blocks) : SetEq (t₁.vals b) (t₂.vals b) := by
  intro x
  rw [live_iff_path g hg init t₁ h₁ q₁ b hb x, live_iff_path g hg init t₂ h₂ q₂ b hb x]

/-- The executable worklist, under any scheduler whatsoever, computes the path semantics. -/
theorem liveRun_correct (g : Cfg) (hg : g.WF) (init : List Var) (sched : List Blk → Blk)
    (fuel : Nat) (t : LSt) (h : liveRun g sched fuel (liveInit g init) = some t)
    (b : Blk) (hb : b ∈ g.blocks) (x : Var) :
    x ∈ t.vals b ↔ LiveSpec g init x b := by
  obtain ⟨hr, he⟩ :=
    (liveRun_isWorklist g sched).reach LReach.refl (fun b => LReach.step b) fuel _ t h
  exact live_iff_path g hg init t hr (fun c _ => by rw [he]; exact List.not_mem_nil) b hb x

/-- fuel that always suffices for the liveness worklist -/
def liveBound (g : Cfg) (init : List Var) : Nat :=
  ((livePairs g init).length + 1) * (g.blocks.length + 1)

/-- **The liveness worklist terminates under every scheduler**, within `liveBound` pops
    (each pop either leaves the values alone and shrinks the worklist, or flips one of finitely
    many (block, variable) memberships, each of which can flip only once). -/
theorem liveRun_terminates (g : Cfg) (hg : g.WF) (init : List Var) (sched : List Blk → Blk)
    (fuel : Nat) (hf : liveBound g init ≤ fuel) :
    (liveRun g sched fuel (liveInit g init)).isSome = true :=
  (liveRun_isWorklist g sched).isSome (ltinv_step g hg init) fuel _ (ltinv_init g init)
    (Nat.le_trans (wlPot_le _ _ List.countP_le_length) hf)

/-- total correctness: with `liveBound` fuel the run returns, and returns the path semantics -/
theorem liveRun_total (g : Cfg) (hg : g.WF) (init : List Var) (sched : List Blk → Blk) :
    ∃ t, liveRun g sched (liveBound g init) (liveInit g init) = some t ∧
      ∀ b ∈ g.blocks, ∀ x, x ∈ t.vals b ↔ LiveSpec g init x b := by
  have h := liveRun_terminates g hg init sched _ (Nat.le_refl _)
  obtain ⟨t, ht⟩ := Option.isSome_iff_exists.mp h
  exact ⟨t, ht, fun b hb x => liveRun_correct g hg init sched _ t ht b hb x⟩

/-- **Definite assignment = all paths, any order.**  `x` is definitely assigned before `b` iff
    no backward path from `b` reaches a root (a block without predecessors, the entry) without
    passing an assignment to `x` or finding `x` assigned before the root.  (`allVars` is the
    analysis' universe; see `defass_iff_all_paths_reachable`.) -/
theorem defass_iff_all_paths (g : Cfg) (hg : g.WF) (P : AParams) (t : ASt)
    (hr : AReach g P (assInit g P) t) (hq : ∀ c ∈ g.blocks, c ∉ t.queue)
    (b : Blk) (hb : b ∈ g.blocks) (x : Var) :
    x ∈ t.befD b ↔ x ∈ allVars g P ∧ ¬ NotDef g P x b := by
  have hi := ainv_reach g hg P hr (ainv_init g P)
  -- not `Solves.iff`: a variable outside `allVars` is in no value at all (`dsub`), not only off the infinite paths
  refine ⟨fun hx => ⟨hi.dsub b hb x hx, fun hn => ?_⟩,
    fun ⟨hx, hn⟩ => Classical.not_not.mp fun h => (hi.dbelow b x h).elim (· hx) hn⟩
  exact (hi.solvesD hq x).of_fin (notDef_least g P x) (fun b p hb h => hg.pclosed b hb p h.1) hn hb hx

/-- For blocks reachable from a root the universe restriction disappears: the statement's
    sentence verbatim ("assigned on all paths from the entry"). -/
theorem defass_iff_all_paths_reachable (g : Cfg) (hg : g.WF) (P : AParams) (t : ASt)
    (hr : AReach g P (assInit g P) t) (hq : ∀ c ∈ g.blocks, c ∉ t.queue)
    (b : Blk) (hb : b ∈ g.blocks) (hfr : FromRoot g b) (x : Var) :
    x ∈ t.befD b ↔ ¬ NotDef g P x b := by
  rw [defass_iff_all_paths g hg P t hr hq b hb x]
  constructor
  · exact fun h => h.2
  · intro hn
    exact ⟨Classical.not_not.mp fun hx => hn (notDef_of_fromRoot hg hb hfr hx), hn⟩

/-- **Maybe assignment = some path, any order.** -/
theorem maybeass_iff_some_path (g : Cfg) (hg : g.WF) (P : AParams) (t : ASt)
    (hr : AReach g P (assInit g P) t) (hq : ∀ c ∈ g.blocks, c ∉ t.queue)
    (b : Blk) (hb : b ∈ g.blocks) (x : Var) :
    x ∈ t.befM b ↔ MaybePath g P x b ∨ (x ∈ P.entryMaybe ∧ InfBack g b) := by
  have hi := ainv_reach g hg P hr (ainv_init g P)
  rw [infBack_eq]
  exact (hi.solvesM hq x).iff (maybePath_least g P x) (fun b p hb h => hg.pclosed b hb p h) (hi.msound · x)
    (fun hx c => hi.mabove c x hx) hb

/-- For blocks reachable from a root: exactly "assigned on some path from the entry". -/
theorem maybeass_iff_some_path_reachable (g : Cfg) (hg : g.WF) (P : AParams) (t : ASt)
    (hr : AReach g P (assInit g P) t) (hq : ∀ c ∈ g.blocks, c ∉ t.queue)
    (b : Blk) (hb : b ∈ g.blocks) (hfr : FromRoot g b) (x : Var) :
    x ∈ t.befM b ↔ MaybePath g P x b := by
  rw [maybeass_iff_some_path g hg P t hr hq b hb x]
  constructor
  · rintro (h | ⟨hx, _⟩)
    · exact h
    · exact maybePath_of_fromRoot hfr hx
  · exact Or.inl

/-- **Assignment results do not depend on the visiting order.** -/
theorem ass_schedule_independent (g : Cfg) (hg : g.WF) (P : AParams) (t₁ t₂ : ASt)
    (h₁ : AReach g P (assInit g P) t₁) (h₂ : AReach g P (assInit g P) t₂)
    (q₁ : ∀ c ∈ g.blocks, c ∉ t₁.queue) (q₂ : ∀ c ∈ g.blocks, c ∉ t₂.queue)
    (b : Blk) (hb : b ∈ g.blocks) :
    SetEq (t₁.befD b) (t₂.befD b) ∧ SetEq (t₁.befM b) (t₂.befM b) := by
  refine ⟨fun x => ?_, fun x => ?_⟩
  · rw [defass_iff_all_paths g hg P t₁ h₁ q₁ b hb x, defass_iff_all_paths g hg P t₂ h₂ q₂ b hb x]
  · rw [maybeass_iff_some_path g hg P t₁ h₁ q₁ b hb x, maybeass_iff_some_path g hg P t₂ h₂ q₂ b hb x]

/-- The executable forward worklist, under any scheduler, computes the path semantics. -/
theorem assRun_correct (g : Cfg) (hg : g.WF) (P : AParams) (sched : List Blk → Blk)
    (fuel : Nat) (t : ASt) (h : assRun g P sched fuel (assInit g P) = some t)
    (b : Blk) (hb : b ∈ g.blocks) (x : Var) :
    (x ∈ t.befD b ↔ x ∈ allVars g P ∧ ¬ NotDef g P x b) ∧
    (x ∈ t.befM b ↔ MaybePath g P x b ∨ (x ∈ P.entryMaybe ∧ InfBack g b)) := by
  obtain ⟨hr, he⟩ :=
    (assRun_isWorklist g P sched).reach AReach.refl (fun b => AReach.step b) fuel _ t h
  have hq : ∀ c ∈ g.blocks, c ∉ t.queue := fun c _ => by rw [he]; exact List.not_mem_nil
  exact ⟨defass_iff_all_paths g hg P t hr hq b hb x, maybeass_iff_some_path g hg P t hr hq b hb x⟩

/-- fuel that always suffices for the assignment worklist -/
def assBound (g : Cfg) (P : AParams) : Nat :=
  (2 * (assPairs g P).length + 1) * (g.blocks.length + 1)

/-- **The assignment worklist terminates under every scheduler**, within `assBound` pops. -/
theorem assRun_terminates (g : Cfg) (hg : g.WF) (P : AParams) (sched : List Blk → Blk)
    (fuel : Nat) (hf : assBound g P ≤ fuel) :
    (assRun g P sched fuel (assInit g P)).isSome = true := by
  refine (assRun_isWorklist g P sched).isSome (atinv_step g hg P) fuel _ (atinv_init g hg P)
    (Nat.le_trans (wlPot_le _ _ ?_) hf)
  have h1 : (assPairs g P).countP (pend (fun _ => true) (assInit g P).aftD) ≤ (assPairs g P).length :=
    List.countP_le_length
  have h2 : (assPairs g P).countP (pend P.entryMaybe.contains (assInit g P).aftM) ≤
      (assPairs g P).length := List.countP_le_length
  omega

/-- total correctness of the forward analysis -/
theorem assRun_total (g : Cfg) (hg : g.WF) (P : AParams) (sched : List Blk → Blk) :
    ∃ t, assRun g P sched (assBound g P) (assInit g P) = some t ∧
      ∀ b ∈ g.blocks, ∀ x,
        (x ∈ t.befD b ↔ x ∈ allVars g P ∧ ¬ NotDef g P x b) ∧
        (x ∈ t.befM b ↔ MaybePath g P x b ∨ (x ∈ P.entryMaybe ∧ InfBack g b)) := by
  have h := assRun_terminates g hg P sched _ (Nat.le_refl _)
  obtain ⟨t, ht⟩ := Option.isSome_iff_exists.mp h
  exact ⟨t, ht, fun b hb x => assRun_correct g hg P sched _ t ht b hb x⟩

/-! ## Non-vacuity: a CFG with a loop, a dummy edge into otherwise unreachable code, and a
    scheduler that is not index order; the hypotheses above are met and the runs terminate. -/

/-- 0 → 1 ⇄ 2, 1 → 3 (exit), dummy edge 0 ⇢ 4 → 3.  x=7 assigned in 0, used in 2; y=8 used in 4. -/
def exCfg : Cfg where
  blocks := [0, 1, 2, 3, 4]
  succ := fun b => match b with | 0 => [1] | 1 => [2, 3] | 2 => [1] | 4 => [3] | _ => []
  dsucc := fun b => match b with | 0 => [4] | _ => []
  pred := fun b => match b with | 1 => [0, 2] | 2 => [1] | 3 => [1, 4] | _ => []
  dpred := fun b => match b with | 4 => [0] | _ => []
  used := fun b => match b with | 2 => [7] | 4 => [8] | _ => []
  assigned := fun b => match b with | 0 => [7] | _ => []

theorem exCfg_wf : exCfg.WF := by
  refine ⟨?_, ?_, fun b c => ⟨?_, ?_⟩⟩
  · unfold Edge; decide
  · unfold PEdge; decide
  -- blocks from 5 on have no edges; for the others the edge lists are compared
  · unfold Edge PEdge
    match b with
    | 0 | 1 | 2 | 3 | 4 => revert c; decide
    | n + 5 => intro h; cases h
  · unfold Edge PEdge
    match c with
    | 0 | 1 | 2 | 3 | 4 => revert b; decide
    | n + 5 => intro h; cases h

example : (liveRun exCfg (fun q => q.getLast!) 50 (liveInit exCfg [])).isSome = true := by decide
example : ((liveRun exCfg (fun q => q.getLast!) 50 (liveInit exCfg [])).map (·.vals 0)) = some [8] := by
  decide
example : (assRun exCfg ⟨[], []⟩ (fun q => q.getLast!) 50 (assInit exCfg ⟨[], []⟩)).isSome = true := by
  decide
example : LivePath exCfg 8 0 :=
  .step (by decide) (show 4 ∈ exCfg.succ 0 ++ exCfg.dsucc 0 by decide) (.use (by decide))

end GuppyVerif.Dataflow
