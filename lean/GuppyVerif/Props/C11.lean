import GuppyVerif.Lemmas.C11
import GuppyVerif.Gen.C11Config
/-! # C11 — Compiling a definition does not depend on session history

The session model is `Model/Session.lean`; the specification vocabulary
(`Sys.HistoryFree`, `Sys.FailedOpNoEffect`, `ShiftInv`) is in `Spec/C11.lean` and does not mention the
model.  `Gen/C11Config.lean` is regenerated from `/repo`'s source on every run; `real_config_sound`
and the four inventory theorems re-check it.

The statement at full strength is

    theorem compile_history_free (P : Pool) : (sys Gen.config nameLt P).HistoryFree

with `nameLt` the order `compare_var` really uses (Python string order on `"%tmp<n>"`).  It was FALSE
of the code before `fix: restart the numbering of temporary variables in CompilationEngine.check`
(`compile_history_free_false_for_name_order` below is a concrete history for the pre-fix configuration;
replayed on the pre-fix engine it gave two different Hugrs, block ports permuted — see notes/C11.md) and
holds of the code with that fix (the configuration regenerated into `Gen.config`).  `compile_history_free_of_sound` is the general form: either `check`
restarts the numbering, or the order on generated names is invariant under renumbering. -/
namespace GuppyVerif.Session

/-- **T-src tie**: the facts regenerated from `/repo`'s source are the ones the theorems assume. -/
theorem real_config_sound : Gen.config.Sound := by decide

/-- … and `check` restarts the `%tmp` numbering -/
theorem real_config_restarts_tmp : Gen.config.checkRestartsTmp = true := by decide

/-- **C11 (history freedom, all pools, all histories), general form**: if `check` resets the caches
    (`parsing` included), nothing is written into the defining frame, the tracing state and `parsing` are
    restored on every exit, and either `check` restarts the `%tmp` numbering or the order on generated
    names is invariant under renumbering, then what `d.check()` and `compile d` return after ANY history
    of check / compile / re-lower operations (failing ones included) is what they return in a fresh
    session.  (Counters, `DEF_STORE` growth and the in-place mutations of cached CFGs are all allowed to
    differ.) -/
theorem compile_history_free_of_sound {cfg : Config} (hs : cfg.Sound) {lt : Nat → Nat → Bool}
    (hlt : cfg.checkRestartsTmp = true ∨ ShiftInv lt) (P : Pool) : (sys cfg lt P).HistoryFree := by
  intro h d
  have hc := exec_clean hs lt P h State.init
  exact observe_congr hs hlt P d hc.leaks hc.tracing

/-- **C11 at full strength**: for the code as it is (facts regenerated from `/repo`) and the order it
    really uses on generated names (string order), for all pools and all histories. -/
theorem compile_history_free (P : Pool) : (sys Gen.config nameLt P).HistoryFree :=
  compile_history_free_of_sound real_config_sound (Or.inl real_config_restarts_tmp) P

example : (sys Gen.config nameLt [⟨[], false, false, 1, 2, 0, [[0, 1]], [], false, false, false⟩]).observe
    State.init 0 = (.ok (), .ok [⟨0, 1, [[0, 1]], none⟩]) := by decide

/-- the fresh-session result that the history of the pre-fix witness below reproduces -/
example : (sys Gen.config nameLt [⟨[], false, false, 1, 1, 0, [[0]], [], false, false, false⟩,
      ⟨[], false, false, 1, 2, 0, [[0, 1]], [], false, false, false⟩]).observe
    ((sys Gen.config nameLt [⟨[], false, false, 1, 1, 0, [[0]], [], false, false, false⟩,
      ⟨[], false, false, 1, 2, 0, [[0, 1]], [], false, false, false⟩]).exec
        (List.replicate 9 (.lower 0)) State.init) 1 = (.ok (), .ok [⟨1, 1, [[0, 1]], none⟩]) := by decide

/-- the code before the fix (no restart of the numbering) — history free if generated names were
    compared numerically -/
theorem compile_history_free_numeric (P : Pool) :
    (sys { Gen.config with checkRestartsTmp := false } natLt P).HistoryFree :=
  compile_history_free_of_sound (by decide) (Or.inr natLt_shiftInv) P

/-- **C11 (failed operations), general form**: under the same hypotheses, removing a failed operation
    from a history changes no later result. -/
theorem failed_op_no_effect_of_sound {cfg : Config} (hs : cfg.Sound) {lt : Nat → Nat → Bool}
    (hlt : cfg.checkRestartsTmp = true ∨ ShiftInv lt) (P : Pool) : (sys cfg lt P).FailedOpNoEffect := by
  intro h₁ o h₂ d _
  rw [compile_history_free_of_sound hs hlt P (h₁ ++ o :: h₂) d,
    compile_history_free_of_sound hs hlt P (h₁ ++ h₂) d]

/-- **C11 (failed operations) at full strength**, for the code as it is -/
theorem failed_op_no_effect (P : Pool) : (sys Gen.config nameLt P).FailedOpNoEffect :=
  failed_op_no_effect_of_sound real_config_sound (Or.inl real_config_restarts_tmp) P

/-- a failing `lower` exists (non-vacuity of `failed_op_no_effect`) -/
example : (sys Gen.config nameLt [⟨[], true, false, 1, 0, 0, [], [], false, false, false⟩]).failsAt (.lower 0)
    State.init = true := by decide

/-- … and one that fails while PARSING -/
example : (sys Gen.config nameLt [⟨[], false, false, 1, 0, 0, [], [], false, false, true⟩]).failsAt (.check 0)
    State.init = true := by decide

/-- **C11 (failed operations, state)**: whatever an operation does — fail half-way included, in a
    parse too — it neither binds a name in the user's frame, nor leaves tracing mode switched on, nor
    leaves a definition recorded as "being parsed". -/
theorem op_keeps_session_clean {cfg : Config} (hs : cfg.Sound) (lt : Nat → Nat → Bool) (P : Pool)
    (o : Op) (s : State) :
    ((sys cfg lt P).step o s).leaks = s.leaks ∧ ((sys cfg lt P).step o s).tracing = s.tracing ∧
      (s.parsing = [] → ((sys cfg lt P).step o s).parsing = []) :=
  have h := step_clean hs lt P o s
  ⟨h.leaks, h.tracing, h.parsing⟩

/-! ## the program text changes between operations (a file that is edited and loaded again) -/

/-- **C11 across versions, general form**: the history may consist of operations on ANY earlier versions of
    the definitions (other pools: bodies, signatures, dependencies, nested functions … all may differ); what
    `d.check()` and `compile d` return for the current version is what they return in a fresh session.  This
    holds because `State` carries nothing that was derived from the text of a definition past `reset()`.  That
    `State` lists everything that survives is an ASSUMPTION about the code: the inventories below
    (`session_globals_classified`, `counters_classified`, `reset_clears_all_caches`) are syntactic tripwires for it,
    and the differential run over edited files searches for counter-examples (e.g. `DEF_STORE.sources`, keyed by
    file name, is outside the model). -/
theorem compile_version_history_free_of_sound {cfg : Config} (hs : cfg.Sound) {lt : Nat → Nat → Bool}
    (hlt : cfg.checkRestartsTmp = true ∨ ShiftInv lt) : (vsys cfg lt).HistoryFree := by
  intro h P d
  have hc := vexec_clean hs lt h State.init
  exact observe_congr hs hlt P d hc.leaks hc.tracing

/-- **C11 across versions at full strength**, for the code as it is -/
theorem compile_version_history_free : (vsys Gen.config nameLt).HistoryFree :=
  compile_version_history_free_of_sound real_config_sound (Or.inl real_config_restarts_tmp)

/-- non-vacuity: version 1 (`x + 1`-like: one `%tmp`, one return) is compiled, then the edited version 2 (two
    `%tmp` in one row) of the same definition: the result is that of version 2 -/
example : (vsys Gen.config nameLt).observe [⟨[], false, false, 1, 2, 0, [[0, 1]], [], false, false, false⟩]
    ((vsys Gen.config nameLt).exec
      [([⟨[], false, false, 1, 1, 0, [[0]], [], false, false, false⟩], .lower 0)] State.init) 0
    = (.ok (), .ok [⟨0, 1, [[0, 1]], none⟩]) := by decide

/-- what a parse cache keyed by the POSITION of a definition (file, line) that survives `reset()` does: an
    operation on the new text sees, for every position already parsed, the old definition -/
def staleView (old new : Pool) : Pool :=
  new.zipIdx.map fun (r, i) => (old[i]?).getD r

/-- … and that is observable (so no such cache may exist): version 1 of a definition is well typed, version 2,
    at the same position, is not; through the stale view version 2 still compiles -/
theorem position_keyed_source_cache_observable :
    (vsys Gen.config nameLt).observe
        (staleView [⟨[], false, false, 1, 0, 0, [], [], false, false, false⟩]
          [⟨[], true, false, 1, 0, 0, [], [], false, false, false⟩]) State.init 0
      ≠ (vsys Gen.config nameLt).observe [⟨[], true, false, 1, 0, 0, [], [], false, false, false⟩] State.init 0 := by
  decide

/-! ## without the restart of the numbering the full statement is false for the order the code uses -/

/-- the configuration of the code before `fix: restart the numbering of temporary variables…` -/
def preFix : Config := { Gen.config with checkRestartsTmp := false }

/-- `one` draws one `%tmp`; `two` draws two that are live together across a block boundary -/
def tmpPool : Pool :=
  [⟨[], false, false, 1, 1, 0, [[0]], [], false, false, false⟩,
   ⟨[], false, false, 1, 2, 0, [[0, 1]], [], false, false, false⟩]

/-- **defect of the code before the fix** (replayed on the pre-fix engine): without the restart, after nine compilations of
    `one` the counter stands at 9, `two` gets `%tmp9`, `%tmp10`, and `"%tmp10" < "%tmp9"` as strings: the
    block's ports come out in the other order than in a fresh session (`%tmp0`, `%tmp1`). -/
theorem compile_history_free_false_for_name_order : ¬ (sys preFix nameLt tmpPool).HistoryFree := by
  intro h
  have := h (List.replicate 9 (.lower 0)) 1
  revert this
  decide

/-- `nameLt` is indeed not invariant under renumbering (so the disjunction in `compile_history_free_of_sound`
    is not vacuous bookkeeping: for the real order, the restart is exactly what is needed) -/
theorem nameLt_not_shiftInv : ¬ ShiftInv nameLt := by
  intro h
  have := h 9 0 1
  revert this
  decide

/-! ## each mechanism is needed (model-level witnesses; the second and third were real defects) -/

/-- the value of `Gen.config`, written out so that the witnesses below do not move when it is regenerated -/
def good : Config := ⟨true, true, false, true, false, true, true, true⟩

/-- without `reset()` in `check` (and with `parsed` surviving) an earlier failed check hides a later
    error: `A` calls `bad1`, `bad2`; checking `A` fails on `bad2` while `bad1` stays parsed but
    unchecked; then `B` (calls `bad1`) checks fine although it fails in a fresh session -/
theorem reset_needed :
    ¬ (sys { good with checkResets := false } natLt
        [⟨[], true, false, 1, 0, 0, [], [], false, false, false⟩, ⟨[], true, false, 1, 0, 0, [], [], false, false, false⟩,
         ⟨[0, 1], false, false, 1, 0, 0, [], [], false, false, false⟩,
         ⟨[0], false, false, 1, 0, 0, [], [], false, false, false⟩]).HistoryFree := by
  intro h
  have := h [.check 2] 3
  revert this
  decide

/-- binding the recursive nested function in the defining frame itself (the code before
    `fix: … bind it in a copied scope`) makes a later user of the shadowed global crash -/
theorem frame_copy_needed :
    ¬ (sys { good with nestedRecBindsInFrame := true } natLt
        [⟨[], false, false, 1, 0, 0, [], [⟨1, true, 0⟩], false, false, false⟩,
         ⟨[], false, false, 1, 0, 0, [], [], false, false, false⟩,
         ⟨[1], false, false, 1, 0, 0, [], [], false, false, false⟩]).HistoryFree := by
  intro h
  have := h [.lower 0] 2
  revert this
  decide

/-- not restoring the tracing state when a comptime function raises (the code before
    `fix: set_tracing_state …`) changes the error a later definition is rejected with -/
theorem tracing_restore_needed :
    ¬ (sys { good with tracingRestored := false } natLt
        [⟨[], false, false, 1, 0, 1, [], [], true, true, false⟩,
         ⟨[], false, true, 1, 0, 0, [], [], false, false, false⟩]).FailedOpNoEffect := by
  intro h
  have := h [] (.lower 0) [] 1 (by decide)
  revert this
  decide

/-- if neither `reset()` emptied `parsing` nor `_parse` removed what it added, a definition whose
    signature does not parse would be rejected as *cyclic* from the second attempt on -/
theorem parsing_emptied_needed :
    ¬ (sys { good with resetClearsParsing := false, parseRestores := false } natLt
        [⟨[], false, false, 1, 0, 0, [], [], false, false, true⟩]).HistoryFree := by
  intro h
  have := h [.check 0] 0
  revert this
  decide

/-- … and without the `finally` alone every `check` fails: `check` parses its argument, `get_checked`
    parses it again and finds it still recorded (history free, but useless; `real_config_sound` rules it out) -/
theorem parse_restore_needed :
    ((sys { good with parseRestores := false } natLt
        [⟨[], false, false, 1, 0, 0, [], [], false, false, false⟩]).observe State.init 0).1 = .error .cyclic := by
  decide

/-! ## lowering twice from the same cache (`insert_return_vars` guard, `input_tys.append`) -/

/-- **C11 (compiled more than once)**: with the guard in `compile_cfg` and nobody reading
    `input_tys`, lowering a (non-comptime) definition again from the same cached, already mutated CFG
    object yields the same entry — the in-place mutations are not observable.  (Extra hypothesis: the globals
    the body uses are in the cache, as they are after a successful `check`; otherwise the first lowering
    checks them on demand, which is covered by the history theorems, not by this one.) -/
theorem relower_entry_stable_partial {cfg : Config} (hg : cfg.returnVarsGuard = true)
    (hi : cfg.compilerReadsInputTys = false) (lt : Nat → Nat → Bool) (P : Pool) (n : Nat) (s s₁ : State)
    (e : OutEntry) (r : RawDef) (hr : P[n]? = some r) (hnc : r.comptime = false)
    (hd : ∀ d ∈ r.deps, s.hasChecked d = true)
    (h : compileOne cfg lt P n s = (s₁, .ok e)) :
    (compileOne cfg lt P n s₁).2 = .ok e := by
  cases hf : findChecked n s.checked with
  | none => simp [compileOne, hr, hf] at h
  | some c =>
    rw [compileOne_cached cfg lt hr hnc hf hd, Prod.mk.injEq] at h
    obtain ⟨hs₁, he⟩ := h
    have hf1 : findChecked n s₁.checked = some ⟨setExt (c.core.inputTysExtra + closures r)
        (setRet (retAfter cfg c.core) c.core), c.base⟩ := by
      rw [← hs₁]
      exact findChecked_updChecked n (setExt _) (fun _ => rfl) _ _
        (findChecked_updChecked n (setRet _) (fun _ => rfl) _ c hf)
    have hd1 : ∀ d ∈ r.deps, s₁.hasChecked d = true := by
      intro d hdm
      rw [← hs₁]
      exact ((any_id_updChecked n d (setExt _) (fun _ => rfl) _).trans
        (any_id_updChecked n d (setRet _) (fun _ => rfl) _)).trans (hd d hdm)
    rw [compileOne_cached cfg lt hr hnc hf1 hd1, ← he]
    -- with the guard the exit row is patched once only, and nobody reads `input_tys`
    simp only [retAfter_stable cfg hg, hi]
    rfl

example : (compileOne good natLt tmpPool 1 ⟨[⟨⟨1, 0, 0⟩, 4⟩], [1], 6, 0, 0, [], false, []⟩).2
    = .ok ⟨1, 1, [[0, 1]], none⟩ := by decide

def recPool : Pool := [⟨[], false, false, 2, 0, 0, [], [⟨7, true, 1⟩], false, false, false⟩]

/-- without the guard the second lowering sees the return variables twice -/
theorem guard_needed :
    (relower { good with returnVarsGuard := false } natLt recPool 0
        (lower { good with returnVarsGuard := false } natLt recPool 0 State.init).1).2
      ≠ some (lower { good with returnVarsGuard := false } natLt recPool 0 State.init).2 := by
  decide

/-- if the compiler read `input_tys`, the second lowering of a recursive capturing closure would
    differ (`input_tys.append` is not idempotent) -/
theorem input_tys_unread_needed :
    (relower { good with compilerReadsInputTys := true } natLt recPool 0
        (lower { good with compilerReadsInputTys := true } natLt recPool 0 State.init).1).2
      ≠ some (lower { good with compilerReadsInputTys := true } natLt recPool 0 State.init).2 := by
  decide

/-- … and with the real configuration the two lowerings of that pool agree -/
theorem relower_agrees_on_recPool :
    (relower Gen.config natLt recPool 0 (lower Gen.config natLt recPool 0 State.init).1).2
      = some (lower Gen.config natLt recPool 0 State.init).2 := by
  decide

/-! ## inventories regenerated from the source -/

/-- every cache attribute of `CompilationEngine` other than the user-registered extension list is
    cleared by `reset()` -/
theorem reset_clears_all_caches :
    Gen.engineAttrs.all (fun a => a == "additional_extensions" || Gen.resetClears.contains a) = true := by
  decide

/-- The SYNTACTIC inventory of session-global state that `c11_translate._session_globals` produces over the
    packages `guppylang_internals` and `guppylang`, every entry with the reason why it cannot make the result of
    compiling a definition depend on earlier operations (or where that is established instead).  The scanner
    lists: module/class-level container literals and constructor calls mutated from a function; `functools.cache`
    / `lru_cache` functions; the container attributes of module-level instances of package classes (`DEF_STORE`,
    `ENGINE`), followed through nested instances; module-level `ContextVar`s; `global` rebinding; stores into
    class attributes / monkey patches from inside functions; mutable default arguments.  It does NOT see
    `setattr` / `__dict__`, function attributes, closures, instances made by factory functions, C-level caches
    (`linecache`, `sys.modules`) or other packages (hugr) — those are left to the differential runs. -/
def sessionGlobalsClassified : List (String × String) :=
  [("checker/core.py:@cache builtin_defs",
      "table of builtin definitions, built once, does not depend on user code"),
   ("compiler/core.py:Hugr.add_node set in track_hugr_side_effects",
      "monkey patch for the duration of one compile_inner; restored on every exit — not modelled; established by the " ++
      "differential run only (a compile that fails mid-body followed by other lowerings: seeded change m1)"),
   ("engine.py:DEF_STORE.frames", "keyed by DefId, fresh per definition object (defCtr); a re-executed file makes new ids"),
   ("engine.py:DEF_STORE.impl_parents", "keyed by fresh DefId (see frames)"),
   ("engine.py:DEF_STORE.impls",
      "keyed by the fresh DefId of the type, then by method name; generated struct methods are registered again " ++
      "by every get_checked — structs are not modelled, real-engine run only (seeded change m4)"),
   ("engine.py:DEF_STORE.raw_defs", "keyed by fresh DefId; grows only (model: store), entries of old versions are unreachable"),
   ("engine.py:DEF_STORE.sources.sources",
      "keyed by FILE NAME, so text-derived and observable in rendered diagnostics; overwritten with the current " ++
      "linecache text by every parse_py_func (SourceMap.add_file: latest registration wins, C29); not modelled — " ++
      "the edited-file run compares rendered diagnostics (source snippets) of re-loaded ill-typed versions with a " ++
      "fresh interpreter"),
   ("engine.py:DEF_STORE.wasm_functions", "keyed by fresh DefId (see frames)"),
   ("engine.py:ENGINE.additional_extensions", "user-registered extension list, deliberately kept (reset_clears_all_caches)"),
   ("engine.py:ENGINE.checked", "reassigned by reset() (reset_clears_all_caches); model: checked"),
   ("engine.py:ENGINE.compiled", "reassigned by reset()"),
   ("engine.py:ENGINE.parsed", "reassigned by reset(); model: parsed"),
   ("engine.py:ENGINE.parsing", "reassigned by reset() and emptied by _parse's finally; model: parsing"),
   ("engine.py:ENGINE.to_check_worklist", "reassigned by reset(); model: the work list of checkLoop"),
   ("engine.py:ENGINE.types_to_check_worklist", "reassigned by reset(); structs are not modelled"),
   ("experimental.py:global EXPERIMENTAL_FEATURES_ENABLED",
      "user setting, changed only by the user's explicit call / with-block (restored in __exit__), never by check or compile"),
   ("tracing/builtins_mock.py:MockMeta.__name__ set in _mock_meta", "attribute of a class created by that very call"),
   ("tracing/builtins_mock.py:MockMeta.__qualname__ set in _mock_meta", "attribute of a class created by that very call"),
   ("tracing/state.py:_STATE ContextVar", "model: tracing; reset in set_tracing_state's finally (tracingRestored)"),
   ("tys/qubit.py:@functools.cache qubit_ty", "a constant type")]

/-- the regenerated inventory is exactly the classified table: a NEW entry (e.g. a cache of parsed sources keyed
    by file and line, seeded change m6) — or the disappearance of one — breaks the build and starts the search.
    This is a tripwire over what the scanner can see (see `sessionGlobalsClassified`), not a proof that nothing
    else survives: the premise "`State` is all that survives" of `compile_version_history_free` rests on it, on
    `counters_classified`, `reset_clears_all_caches` AND on the differential runs. -/
theorem session_globals_classified : Gen.sessionGlobals = sessionGlobalsClassified.map (·.1) := rfl

/-- nobody outside the checker reads `input_tys`, and nobody writes into a frame namespace -/
theorem no_input_tys_read_no_frame_write : Gen.inputTysReads = [] ∧ Gen.frameWrites = [] := by decide

/-- the session-global counters are exactly the ones classified here: `tmp_vars` (restarted by `check`)
    and `DefId._ids` are modelled (`tmpCtr`, `defCtr`); the other three are unmodelled (the correspondence run observes that
    they do not reach the Hugr).  A NEW counter breaks this theorem. -/
theorem counters_classified :
    Gen.counters = ["cfg/builder.py:tmp_vars", "compiler/core.py:GlobalConstId._fresh_ids",
      "definition/common.py:DefId._ids", "tracing/object.py:GuppyObjectId._fresh_ids",
      "tys/var.py:ExistentialVar._fresh_id"] := rfl

end GuppyVerif.Session
