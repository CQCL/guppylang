import GuppyVerif.Lemmas.C32
/-! # C32 — Accepted syntax is never silently ignored (partial: "looked at or rejected")

Every theorem in this file is, or follows from, a **table `decide`** over `Gen/C32SyntaxCoverage.lean` (the two about the
grammar follow from `grammar_split` of `Spec/C32.lean`), which is regenerated on every
run from CPython's grammar and from the visitor sources of the tree under check; the quantifier (node kinds × fields)
is finite, so each `decide` is a complete enumeration of the *extracted table* — a statement about the code only as
far as the extractor's notion of "read" (a syntactic attribute load on a variable typed by annotations / `visit_K`
naming / ASDL chains) and the pipeline shape of `Model/C32Coverage.lean` are right; both are trusted and are
cross-checked dynamically (probes through the real check + lowering).
`Covered` means: the field is looked at by every consumer that can receive the node, or the populated field / the node
kind / every way to reach it is rejected.  It does **not** mean "takes effect as in Python" (that half of the sentence is
C03 / C05 territory and is only sampled by the clause-vs-base Hugr comparison), and the granularity is (kind, field),
not individual operators. -/
namespace GuppyVerif.C32

/-- **C32**: no semantics-bearing field of any Python node kind is silently ignored by the
    statement / expression pipeline: it is read by a stage that accepts the node, or the populated
    field, the node kind, or every grammar position leading to the node is rejected. -/
theorem no_semantic_field_ignored : ∀ p ∈ semanticFields, Covered tables p.1 p.2 :=
  have h : semanticFields.all (coveredL tables) = true := by decide +kernel
  fun p hp => covered_of_coveredL tables (List.all_eq_true.1 h p hp)

/-- The fixed lists of `Spec/C32.lean` classify every field of the regenerated grammar. -/
theorem grammar_classified :
    ∀ r ∈ grammar, (r.kind, r.field) ∈ semanticFields ∨ (r.kind, r.field) ∈ nonSemanticFields :=
  fun _ hr => (mem_grammar_iff _).1 (List.mem_map_of_mem hr)

/-- …and mention only fields the grammar has. -/
theorem semantic_fields_in_grammar :
    ∀ p ∈ semanticFields ++ nonSemanticFields, grammar.any (fun r => r.kind = p.1 ∧ r.field = p.2) = true := by
  intro p hp
  obtain ⟨r, hr, rfl⟩ := List.mem_map.1 ((mem_grammar_iff p).2 (List.mem_append.1 hp))
  exact List.any_eq_true.2 ⟨r, hr, by simp⟩

/-- `nodeRejected` rests on the two dispatchers' `generic_visit` raising a user error, and on
    `ExprChecker.generic_visit` falling back to the synthesizer. -/
theorem generic_visit_rejects :
    genericHow tables .CFGBuilder = .rejects ∧ genericHow tables .ExprSynthesizer = .rejects ∧
      genericHow tables .ExprChecker = .fallback := by
  decide +kernel

/-- D2 (fixed): loop `else` clauses and decorators of nested functions are rejected, not dropped. -/
theorem loop_else_and_nested_decorators_rejected :
    disp tables fuel .While .f_orelse = .rejected ∧ disp tables fuel .For .f_orelse = .rejected ∧
      disp tables fuel .FunctionDef .f_decorator_list = .rejected := by
  decide +kernel

/-- No statement visitor of the CFG builder returns without recording a value-bearing statement for a
    whole syntactic class of values: `Assign/AugAssign/AnnAssign/Return/FunctionDef/With` are always
    appended to a basic block, `Expr` is dropped only when its built value is a `%tmp` variable. -/
theorem value_statements_recorded : ∀ k ∈ valueStatements, recordedOK records k = true := by
  decide +kernel

/-- No stage — builder, checker or **compiler** (compiler/expr_compiler.py, where desugared generators are lowered) —
    consumes a list-typed field only through single elements: every (stage, kind, field) that is read has a whole-list read. -/
theorem list_fields_consumed_whole : ∀ r ∈ listReads, listReadOK listReads r = true := by
  decide +kernel

example : listReadOK [(.compiler, .comprehension, .f_ifs, .index), (.compiler, .comprehension, .f_ifs, .test)]
    (.compiler, .comprehension, .f_ifs, .index) = false := by decide +kernel

/-! Non-vacuity / sensitivity: the check distinguishes tables.  Dropping the guard rows of the D2 fix
    (the tree before the fix) or the keyword guard of `ExprSynthesizer.visit_Call` makes `Covered`
    false for exactly those fields; and the dispositions are not all the same. -/
example : ¬ Covered { tables with reads := tables.reads.filter (· ≠ (.CFGBuilder, .While, .f_orelse, .guard)) }
    .While .f_orelse := by decide +kernel
example : ¬ Covered { tables with reads := tables.reads.filter (· ≠ (.ExprSynthesizer, .Call, .f_keywords, .guard)) }
    .Call .f_keywords := by decide +kernel
example : recordedOK [(.Expr, .guarded [.isinstance])] .Expr = false ∧ recordedOK [(.Expr, .never)] .Expr = false := by
  decide +kernel
example : disp tables fuel .If .f_orelse = .handled ∧ disp tables fuel .Starred .f_value = .handled ∧ disp tables fuel .Try .f_handlers = .nodeRejected ∧
    disp tables fuel .keyword .f_arg = .unreachable ∧ disp tables fuel .arguments .f_vararg = .rejected ∧
    disp tables fuel .arg .f_annotation = .handled := by decide +kernel

end GuppyVerif.C32
