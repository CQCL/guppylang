import GuppyVerif.Lemmas.C19
import GuppyVerif.Gen.C19Lowering
/-! # C19 — Array access is bounds-safe and alias-free

`getitem`/`setitem`/`run (emit…)` *execute the op lists the compiler emits*
(`Model/ArraySem.lean`, compared with the op lists extracted from /repo's real lowering on every
run) under the assumed `borrow_arr` semantics; the right-hand sides are plain list operations
(`xs[i]`, `List.set`, `take`/`drop`), i.e. Python's list semantics restricted to non-negative
indices.  All statements are for arbitrary lengths, indices, cell states, pattern shapes and op
sequences.  The only size hypothesis is `length ≤ 2^63` for access (an array longer than 2^63
elements would make `itousize (-1) = 2^64-1` a valid index; such arrays do not fit an address
space) and `length < 2^63` for iteration and comprehension (the counter reaches `length`, and the
`+ 1` before that must not wrap). -/
namespace GuppyVerif.ArraySem
open Spec

variable {α : Type}

/-- **C19 (read)**: `xs[i]` on an array in any borrow state.  In range and present: element `i`
    comes back; a classical read leaves the array unchanged, a linear read marks exactly cell `i`
    as lent.  In range but lent: panic (no alias).  Out of range — negative included — panic. -/
theorem getitem_spec (linear : Bool) (a : Cells α) (i : Int) (hi : IsI64 i) (hn : a.length ≤ 2 ^ 63) :
    getitem linear a i =
      if InRange a.length i then
        match a[i.toNat]? with
        | some (some v) => .ok (v, if linear then a.set i.toNat none else a)
        | _ => .error .alreadyBorrowed
      else .error (if linear then .indexOob else .unwrapFail oobMsg) := by
  rw [getitem_eq]
  rcases cell_itousize a hi hn with ⟨hr, hu, c, hc⟩ | ⟨hr, hc⟩
  · rw [if_pos hr, ← hu, hc]; cases c <;> rfl
  · rw [if_neg hr, hc]

/-- **C19 (read, Python list form)**: on an array whose elements are all present, `xs[i]` is
    Python's `xs[i]` for `0 ≤ i < n` and a panic for every other index. -/
theorem getitem_list (linear : Bool) (xs : List α) (i : Int) (hi : IsI64 i)
    (hn : xs.length ≤ 2 ^ 63) :
    getitem linear (ofList xs) i =
      if h : 0 ≤ i ∧ i.toNat < xs.length then
        .ok (xs[i.toNat]'h.2, if linear then (ofList xs).set i.toNat none else ofList xs)
      else .error (if linear then .indexOob else .unwrapFail oobMsg) := by
  have hl : (ofList xs).length = xs.length := List.length_map _
  rw [getitem_spec linear _ i hi (hl ▸ hn), hl]
  simp only [inRange_iff_toNat]
  by_cases h : 0 ≤ i ∧ i.toNat < xs.length
  · simp [h, ofList]
  · simp [h]

/-- **C19 (negative indices)**: every negative index panics, whatever the array. -/
theorem negative_index_panics (linear : Bool) (a : Cells α) (i : Int) (hi : IsI64 i)
    (hn : a.length ≤ 2 ^ 63) (hneg : i < 0) (v : α) :
    getitem linear a i = .error (if linear then .indexOob else .unwrapFail oobMsg) ∧
    setitem linear a i v = .error (if linear then .indexOob else .unwrapFail oobMsg) := by
  have hc : a[itousize i]? = none :=
    List.getElem?_eq_none (by have := itousize_of_neg hneg hi.1; omega)
  rw [getitem_eq, setitem_eq, hc]
  exact ⟨rfl, rfl⟩

/-- **C19 (no aliasing)**: once element `i` has been lent, lending it again panics — for every
    array state and index (no hypothesis: a successful first borrow implies the index was valid). -/
theorem double_borrow_panics (a a' : Cells α) (i : Int) (v : α)
    (h : getitem true a i = .ok (v, a')) : getitem true a' i = .error .alreadyBorrowed := by
  obtain ⟨hc, rfl⟩ := getitem_linear_ok h
  rw [getitem_eq, List.getElem?_set_self (List.getElem?_eq_some_iff.mp hc).1]

/-- … and lending a *different* element afterwards behaves exactly as before (frame). -/
theorem borrow_frame (a a' : Cells α) (i : Int) (v : α) (h : getitem true a i = .ok (v, a'))
    (j : Nat) (hj : j ≠ itousize i) : a'[j]? = a[j]? := by
  obtain ⟨_, rfl⟩ := getitem_linear_ok h
  exact List.getElem?_set_ne (Ne.symm hj)

/-- **C19 (write)**: `xs[i] = v`.  Classical: in range and present → exactly cell `i` replaced.
    Linear (`return`): in range and lent → cell `i` filled; present → panic.  Out of range → panic. -/
theorem setitem_spec (linear : Bool) (a : Cells α) (i : Int) (v : α) (hi : IsI64 i)
    (hn : a.length ≤ 2 ^ 63) :
    setitem linear a i v =
      if InRange a.length i then
        match a[i.toNat]?, linear with
        | some (some _), false => .ok (a.set i.toNat (some v))
        | some none, true => .ok (a.set i.toNat (some v))
        | some (some _), true => .error .notBorrowed
        | _, _ => .error .alreadyBorrowed
      else .error (if linear then .indexOob else .unwrapFail oobMsg) := by
  rw [setitem_eq]
  rcases cell_itousize a hi hn with ⟨hr, hu, c, hc⟩ | ⟨hr, hc⟩
  · rw [if_pos hr, ← hu, hc]; cases c <;> cases linear <;> rfl
  · rw [if_neg hr, hc]

/-- **C19 (write, Python list form)**: classical `xs[i] = v` is Python's list assignment for
    `0 ≤ i < n` (all other elements untouched — `List.set`), and a panic otherwise. -/
theorem setitem_list (xs : List α) (i : Int) (v : α) (hi : IsI64 i) (hn : xs.length ≤ 2 ^ 63) :
    setitem false (ofList xs) i v =
      if 0 ≤ i ∧ i.toNat < xs.length then .ok (ofList (xs.set i.toNat v))
      else .error (.unwrapFail oobMsg) := by
  have hl : (ofList xs).length = xs.length := List.length_map _
  rw [setitem_spec false _ i v hi (hl ▸ hn), hl]
  simp only [inRange_iff_toNat]
  by_cases h : 0 ≤ i ∧ i.toNat < xs.length
  · simp [h, ofList, List.map_set]
  · simp [h]

/-- **C19 (sequences of reads and writes)**: any sequence of classical reads and writes, run
    through the emitted code, behaves like the same sequence on a Python list (same values read,
    same final list), and panics exactly when Python's list semantics restricted to non-negative
    indices fails.  Induction over the sequence. -/
theorem classical_ops_refine_list (ops : List (AOp α))
    (hops : ∀ o ∈ ops, match o with | .read i => IsI64 i | .write i _ => IsI64 i) :
    ∀ (xs log : List α), xs.length ≤ 2 ^ 63 →
      runOps (ofList xs, log) ops = match pyRun (xs, log) ops with
        | some (ys, log') => .ok (ofList ys, log')
        | none => .error (.unwrapFail oobMsg) := by
  induction ops with
  | nil => intro xs log _; rfl
  | cons o os ih =>
    intro xs log hn
    have ho := hops o (by simp)
    have ih' := ih (fun o h => hops o (by simp [h]))
    cases o with
    | read i =>
      simp only [runOps, pyRun, pyStep, getitem_list false xs i ho hn]
      split
      · exact ih' xs _ hn
      · rfl
    | write i v =>
      simp only [runOps, pyRun, pyStep, setitem_list xs i v ho hn]
      split
      · exact ih' _ log (by simpa using hn)
      · rfl

/-- **C19 (sequences of borrows and returns)**: any sequence of lends and give-backs on a linear
    array, run through the emitted code, behaves like the reference model "Python list + lent
    flag per position": same elements handed out, same final contents and flags; and it panics
    exactly when the reference says the operation is illegal (index not in `0 ≤ i < n`, lending a
    lent element, giving back into an occupied position).  Induction over the sequence. -/
theorem linear_ops_refine_flags (ops : List (LOp α)) (hops : ∀ o ∈ ops, IsI64 o.idx) :
    ∀ (r : Ref α) (log : List α), r.WF → r.vals.length ≤ 2 ^ 63 →
      match refRun (r, log) ops with
      | some (r', log') => runL (r.cells, log) ops = .ok (r'.cells, log')
      | none => ∃ e, runL (r.cells, log) ops = .error e := by
  induction ops with
  | nil => intro r log _ _; rfl
  | cons o os ih =>
    intro r log hwf hn
    have hs := stepL_refStep r hwf hn o (hops o (by simp)) log
    rw [runL_cons, refRun]
    cases h : refStep (r, log) o with
    | none => rw [h] at hs; obtain ⟨e, he⟩ := hs; exact ⟨e, by rw [he]; rfl⟩
    | some st' =>
      rw [h] at hs
      rw [hs.1]
      exact ih (fun o h => hops o (by simp [h])) st'.1 st'.2 hs.2.1 (hs.2.2 ▸ hn)

/-- **C19 / C07 (borrowed element)**: `callee(xs[i])` with a borrowing callee on a linear element
    (borrow, call, return) leaves the array with exactly element `i` replaced by the callee's
    result; out of range panics; a lent element panics. -/
theorem inout_writeback (f : α → α) (c : String) (xs : List α) (i : Int) (hi : IsI64 i)
    (hn : xs.length ≤ 2 ^ 63) :
    run f (emitInout c) [vArr (ofList xs), vInt i] =
      if h : 0 ≤ i ∧ i.toNat < xs.length then
        .ok [vArr (ofList (xs.set i.toNat (f (xs[i.toNat]'h.2))))]
      else .error .indexOob := by
  rw [run_inout]
  by_cases h : 0 ≤ i ∧ i.toNat < xs.length
  · rw [itousize_inRange (inRange_iff_toNat.mpr h) hn]
    simp [h, ofList, List.map_set]
  · have hl : (ofList xs).length = xs.length := List.length_map _
    rw [getElem?_itousize_of_not_inRange _ hi (hl ▸ hn) (hl ▸ mt inRange_iff_toNat.mp h)]
    simp [h]

/-- **C19 (unpacking)**: `l0, …, *mid, r0, … = xs` (left pops, then right pops, targets assigned
    left to right) gives every target what Python gives it: the left targets `xs[:l]` in order,
    the starred target the middle slice as an array, the right targets `xs[n-r:]` in order; without
    a starred target the remainder is empty and discarded.  For all `l`, `r`, `n`. -/
theorem unpack_order (f : α → α) (xs : List α) (l r : Nat) (starred : Bool)
    (hlen : l + r ≤ xs.length) (hexact : starred = false → l + r = xs.length) :
    run f (emitUnpack l r starred xs.length) [vArr (ofList xs)] =
      .ok ((pyUnpack xs l r).1.map vElem
            ++ (if starred then [vArr (ofList (pyUnpack xs l r).2.1)] else [])
            ++ (pyUnpack xs l r).2.2.map vElem) := by
  have hl : (xs.take l).length = l :=
    List.length_take_of_le (Nat.le_trans (Nat.le_add_right l r) hlen)
  have hr : (xs.drop (xs.length - r)).length = r := by
    rw [List.length_drop, Nat.sub_sub_self (Nat.le_trans (Nat.le_add_left r l) hlen)]
  have hxs : xs.take l ++ ((xs.drop l).take (xs.length - l - r) ++ xs.drop (xs.length - r)) = xs := by
    rw [show xs.length - r = l + (xs.length - l - r) by omega, ← List.drop_drop,
      List.take_append_drop, List.take_append_drop]
  have := run_emitUnpack f (xs.take l) ((xs.drop l).take (xs.length - l - r))
    (xs.drop (xs.length - r)) starred fun hs => by
      rw [Nat.sub_sub, hexact hs, Nat.sub_self, List.take_zero]
  rwa [hl, hr, hxs] at this

/-- **C19 (unpacking binds its targets in pattern order)**: `_assign_array` / `_assign_tuple` bind
    the targets strictly in pattern order, the starred target in its place (`assignOrder`; the named
    probes extracted every run — also with the starred name repeated — are compared with
    `emitUnpackNamed`, which uses this order). -/
theorem unpack_assign_order (l r : Nat) :
    assignOrder l r true = List.range (l + 1 + r) ∧ assignOrder l 0 false = List.range l :=
  ⟨by simp [assignOrder], by simp [assignOrder]⟩

/-- **C19 (a name that occurs several times in an unpacking pattern)**: with targets `names` (pattern
    order: `l` left targets, the starred target at position `l`, `r` right targets; ANY name may be
    repeated, the starred one included) every name ends up with the wire of its RIGHTMOST occurrence
    — Python's left-to-right binding. -/
theorem unpack_named_last_wins (names wires : List Nat) (l r t : Nat)
    (hn : names.length = l + 1 + r) (hw : wires.length = names.length) (ht : t < names.length)
    (hlast : ∀ t', t < t' → t' < names.length → names[t']? ≠ names[t]?) :
    lookupName (bindTargets names wires (assignOrder l r true)) names[t] = wires[t]? := by
  rw [(unpack_assign_order l r).1]
  exact lookup_bind_range names wires t ht _ (hn ▸ ht) (Nat.le_of_eq hn.symm)
    (Nat.le_of_eq (hn.symm.trans hw.symm)) fun t' h1 h2 => hlast t' h1 (hn ▸ h2)

/-- regression: with the order used before 535d821 (starred target bound LAST, `assignOrderOld`)
    the statement above is false — witness `*a, a = xs` (names [0, 0]): `a` ended up as the starred
    array (wire 5) whereas Python leaves the last element (wire 6). -/
theorem unpack_named_old_order_deviates :
    ¬ (∀ (names wires : List Nat) (l r t : Nat), names.length = l + 1 + r → wires.length = names.length →
        t < names.length → (∀ t', t < t' → t' < names.length → names[t']? ≠ names[t]?) →
        lookupName (bindTargets names wires (assignOrderOld l r true)) names[t]! = wires[t]?) := by
  intro h
  have := h [0, 0] [5, 6] 0 1 1 rfl rfl (by decide)
    (fun _ h1 h2 => absurd (Nat.lt_of_lt_of_le h2 h1) (Nat.lt_irrefl _))
  revert this
  decide

/-- **C19 (iteration)**: a `for` loop over an array (`ArrayIter.__next__` until `nothing`) yields
    the elements `0 … n-1` in index order, each exactly once, then stops — and for linear arrays the
    final `discard_all_borrowed` succeeds because every element has been handed out.  Any fuel
    beyond `n + 1` calls gives the same answer. -/
theorem iter_order (linear : Bool) (xs : List α) (hn : xs.length < 2 ^ 63) (extra : Nat) :
    drain linear (xs.length + 1 + extra) ⟨ofList xs, 0⟩ = .ok (some xs) := by
  have := drain_from linear xs hn (xs.length + 1 + extra) 0 (Nat.zero_le _) (by omega)
  rwa [iterCells_zero, List.drop_zero] at this

/-- **C19 (array comprehension)**: the comprehension loop (start from `new_all_borrowed`, `return`
    element number `count` at index `count`) builds the array of the generated elements in
    generation order. -/
theorem comp_order (xs : List α) (hn : xs.length < 2 ^ 63) :
    xs.foldlM compStep (compInit xs.length) = .ok (ofList xs, (xs.length : Int)) := by
  have := comp_from xs.length hn xs [] (by simp)
  simpa [compInit, newAllBorrowed, ofList] using this

/-- **C19 (iteration over a frozenarray)**: `FrozenarrayIter.__next__` (what a `for` loop or a
    comprehension over a comptime list / `mutable_copy()` runs) yields the elements `0 … n-1` in
    index order, each exactly once, then stops; no index ever goes out of bounds. -/
theorem frozen_iter_order (xs : List α) (hn : xs.length < 2 ^ 63) (extra : Nat) :
    fdrain (xs.length + 1 + extra) ⟨xs, 0⟩ = .ok (some xs) := by
  exact fdrain_from xs hn (xs.length + 1 + extra) 0 (Nat.zero_le _) (by omega)

/-- **C19 (array comprehension, whole loop)**: the comprehension loop as the compiler lowers it —
    `new_all_borrowed n` and counter `0` fed into a `TailLoop` over the iterator, `__next__` per
    round, `nothing` ⇒ break with the carried array, `some (x, it')` ⇒ `return` of `g x` at index
    `count`, `count + 1`, continue with `it'` (`emitCompLoop`, compared with the loop extracted from
    the real Hugr) — run over an array `xs` evaluates to the array `[g x | x ∈ xs]` in index order,
    for every length; every fuel ≥ n + 1 gives the same result. -/
theorem comp_order_loop (g : α → α) (xs : List α) (hn : xs.length < 2 ^ 63) (extra : Nat) :
    runComp (emitCompLoop xs.length) g (xs.length + 1 + extra) (ofList xs)
      = .ok (some (vArr (ofList (xs.map g)))) := by
  have := runLoop_from g xs hn xs.length extra [] (Nat.zero_add _)
  simp only [List.length_nil, iterCells_zero, List.drop_zero, Int.natCast_zero, List.nil_append,
    emitCompLoop] at this
  simp only [runComp, CompLoop.init, emitCompLoop, and_self, ↓reduceIte, Except.ok_bind,
    Except.pure_eq_ok, newAllBorrowed]
  rw [show ofList ([] : List α) = [] from rfl, List.nil_append] at this
  rw [this]
  rfl

/-- … and one element too many panics instead of overwriting anything. -/
theorem comp_overflow_panics (xs : List α) (e : α) (hn : xs.length < 2 ^ 63) :
    compStep (ofList xs, (xs.length : Int)) e = .error .indexOob := by
  rw [compStep_eq, itousize_natCast hn]; simp [ofList]

/-- **C19 (copy)**: `xs.copy()` of an array with all elements present returns the same elements
    in the same order and leaves the original unchanged. -/
theorem copy_spec (f : α → α) (xs : List α) :
    run f emitCopy [vArr (ofList xs)] = .ok [vArr (ofList xs), vArr (ofList xs)] := by
  rw [run_copy]; simp [ofList]

/-! ## T-obj: the op lists extracted from /repo's lowering in this run ARE the emissions the
theorems above are about (`Gen/C19Lowering.lean` is regenerated on every run) -/

/-- the extracted lowerings of `xs[i]`, `xs[i] = v`, `cal(xs[i])`, `xs.copy()` equal the model's
    emissions — so `getitem_spec`, `setitem_spec`, `inout_writeback`, `copy_spec`, … speak about
    the code the compiler produces in this run -/
theorem extracted_access_eq_emission :
    Gen.getitemClassical = emitGetitem false ∧ Gen.getitemClassicalFixed = emitGetitem false ∧
    Gen.getitemLinear = emitGetitem true ∧ Gen.setitemClassical = emitSetitem false ∧
    Gen.setitemLinear = emitSetitem true ∧ Gen.inoutLinear = emitInout "cal" ∧
    Gen.copyClassical = emitCopy := by decide

/-- the extracted lowerings of five unpacking patterns equal `emitUnpack` at their shapes -/
theorem extracted_unpack_eq_emission :
    Gen.unpack0 = emitUnpackShape Gen.unpack0Shape ∧ Gen.unpack1 = emitUnpackShape Gen.unpack1Shape ∧
    Gen.unpack2 = emitUnpackShape Gen.unpack2Shape ∧ Gen.unpack3 = emitUnpackShape Gen.unpack3Shape ∧
    Gen.unpack4 = emitUnpackShape Gen.unpack4Shape := by decide

/-- the comprehension loop extracted from /repo's lowering in this run is the model's -/
theorem extracted_comp_loop_eq_emission : Gen.compLoop = emitCompLoop Gen.compLoopLen := by decide

/-! ## Non-vacuity: concrete instances -/

example : getitem false (ofList [10, 20, 30]) 1 = .ok (20, ofList [10, 20, 30]) := by rfl
example : getitem false (ofList [10, 20, 30]) (-1) = .error (.unwrapFail oobMsg) := by rfl
example : getitem true (ofList [10, 20, 30]) 3 = .error .indexOob := by rfl
example : getitem true [some 10, none, some 30] 1 = .error .alreadyBorrowed := by rfl
example : setitem false (ofList [10, 20, 30]) 2 7 = .ok (ofList [10, 20, 7]) := by rfl
example : IsI64 (-1) ∧ InRange 3 2 ∧ ¬ InRange 3 (-1) := by unfold IsI64 InRange; omega
/-- `x, *r, x = xs` (names 0, 100, 0; wires 5, 6, 7): x ends up with the wire of the right target -/
example : lookupName (bindTargets [0, 100, 0] [5, 6, 7] (assignOrder 1 1 true)) 0 = some 7 := by decide
/-- the hypotheses of `unpack_named_last_wins` are satisfiable: `x, *r, x` with t = the right `x` -/
example : lookupName (bindTargets [0, 100, 0] [5, 6, 7] (assignOrder 1 1 true)) ([0, 100, 0][2]) = [5, 6, 7][2]? :=
  unpack_named_last_wins [0, 100, 0] [5, 6, 7] 1 1 2 rfl rfl (by decide)
    (fun _ h1 h2 => absurd (Nat.lt_of_lt_of_le h2 h1) (Nat.lt_irrefl _))
/-- `*a, a = xs`: the right `a` wins -/
example : lookupName (bindTargets [0, 0] [5, 6] (assignOrder 0 1 true)) 0 = some 6 := by decide
example : assignOrder 2 2 true = [0, 1, 2, 3, 4] := by decide
example : assignOrderOld 2 2 true = [0, 1, 3, 4, 2] := by decide
example : pyUnpack [1, 2, 3, 4, 5] 1 2 = ([1], [2, 3], [4, 5]) := by decide
example : drain true 4 ⟨ofList [10, 20, 30], 0⟩ = .ok (some [10, 20, 30]) := by rfl
example : runComp (emitCompLoop 2) (· + 1) 3 (ofList [10, 20]) = .ok (some (vArr (ofList [11, 21]))) := by
  rfl
example : fdrain 4 ⟨[10, 20, 30], 0⟩ = .ok (some [10, 20, 30]) := by rfl
example : [10, 20].foldlM compStep (compInit 2) = .ok (ofList [10, 20], 2) := by rfl
example : pyRun ([1, 2, 3], []) [.write 0 9, .read 0, .read 2] = some ([9, 2, 3], [9, 3]) := by
  decide
example : pyRun ([1, 2, 3], ([] : List Nat)) [.read (-1)] = none := by decide
example : refRun (⟨[1, 2, 3], [false, false, false]⟩, []) [.lend 1, .giveBack 1 9, .lend 1]
    = some (⟨[1, 9, 3], [false, true, false]⟩, [2, 9]) := by decide
example : refRun (⟨[1, 2, 3], [false, false, false]⟩, ([] : List Nat)) [.lend 1, .lend 1] = none := by
  decide

end GuppyVerif.ArraySem
