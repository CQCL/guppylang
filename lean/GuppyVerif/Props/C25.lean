import GuppyVerif.Lemmas.C25
/-! # C25 — Modifier blocks lower to the matching modifier operations (partial)

Model: `Model/Modifier.lean` (`compile_modified_block` on the three lists kept by
`ModifiedBlock`).  The code emits one `DaggerModifier` iff the number of daggers is odd, then the
`PowerModifier`s in source order, then the `ControlModifier`s in source order — *not* one
operation per modifier in cross-kind source order as the statement literally says.  Both
differences are semantics-preserving (dagger is an involution; modifiers of different kinds
commute), so the statement is read modulo the congruence `Equiv` of `Spec/C25.lean`, which is
defined inductively from exactly those two laws and never reorders modifiers of one kind. -/
namespace GuppyVerif.Modifier

/-- **C25 (operations match the source, modulo the congruence)**: for every modifier list
    (any length, any repetition), the emitted operation list is congruent to the source list. -/
theorem ops_equiv_source (ms : List Mod) : Equiv ms (emit ms) :=
  equiv_emit ms

/-- **C25 (per-kind order, arities and exponents preserved; dagger parity)**: the emitted
    powers are the source powers in source order with the same exponent expressions, the
    emitted controls are the source controls in source order with the same arities, and a
    dagger is emitted iff the source has an odd number of daggers. -/
theorem emit_projections (ms : List Mod) :
    powers (emit ms) = powers ms ∧ controls (emit ms) = controls ms ∧
      daggered (emit ms) = daggered ms :=
  let h := (ops_equiv_source ms).invariants
  ⟨h.2.1.symm, h.2.2.symm, h.1.symm⟩

/-- **C25 (the congruence is exactly "same projections")**: two stacks are congruent iff they
    agree on dagger parity, on the sequence of powers and on the sequence of controls.  So the
    reading modulo `Equiv` loses nothing but cross-kind order and cancelled dagger pairs. -/
theorem equiv_iff_projections (a b : List Mod) :
    Equiv a b ↔ (daggered a = daggered b ∧ powers a = powers b ∧ controls a = controls b) :=
  ⟨Equiv.invariants, fun ⟨hd, hp, hc⟩ =>
    .trans (ops_equiv_source a) (emit_congr hd hp hc ▸ .symm (ops_equiv_source b))⟩

/-- **C25 (normal form)**: the emitted list is a canonical representative: congruent stacks
    emit the same operations, and emitting is idempotent. -/
theorem equiv_iff_emit_eq (a b : List Mod) : Equiv a b ↔ emit a = emit b :=
  ⟨fun h => emit_congr h.invariants.1 h.invariants.2.1 h.invariants.2.2,
   fun h => .trans (ops_equiv_source a) (h ▸ .symm (ops_equiv_source b))⟩

/-- **C25 (captures threaded, controls handed back)**: for every list of controls (any
    arities) and captured variables as the checker records them (`capture`, which stores the
    in-out flag on each variable): (1) the values wired into the indirect call are, position by
    position, what the modified function's type expects — this is about the control arrays (the
    captured halves of both sides are the same expression); (2) the outputs the compiler
    stores back, which it selects by the stored *flag*, are exactly the outputs the signature
    declares, which it selects by the *type* — three code sites (`_set_inout_if_non_copyable`,
    `check_modified_block_signature`, `compile_modified_block`) that must agree, and do because the
    flag is set from copyability (setting it from linearity instead breaks (2), see
    `handBack_needs_flag_from_copyability`); (3) the reordering is a stable partition. -/
theorem captures_threaded (cs : List (Nat × Nat)) (vs : List Var) :
    callArgs cs (capture vs) = fnInputs cs (capture vs) ∧
      handBack cs (capture vs) = fnOutputs cs (capture vs) ∧
      (order vs).Perm vs ∧
      (order vs).filter (fun v => !v.copyable) = vs.filter (fun v => !v.copyable) ∧
      (order vs).filter (·.copyable) = vs.filter (·.copyable) := by
  have hflag : ∀ l : List Var, (∀ v, v ∈ l → v.inout = !v.copyable) →
      l.filter (·.inout) = l.filter (fun v => !v.copyable) := by
    intro l h
    apply List.filter_congr
    intro v hv; rw [h v hv]
  have hcap : ∀ v, v ∈ order (capture vs) → v.inout = !v.copyable := by
    intro v hv
    have : v ∈ capture vs := by
      simp only [order, List.mem_append, List.mem_filter] at hv
      rcases hv with h | h <;> exact h.1
    simp only [capture, List.mem_map] at this
    rcases this with ⟨w, _, rfl⟩
    rfl
  refine ⟨?_, ?_, ?_, ?_, ?_⟩
  · exact (fnInputs_eq cs _).symm
  · rw [fnOutputs_eq, ← hflag _ hcap]; rfl
  · unfold order
    have := List.filter_append_perm (fun v : Var => !v.copyable) vs
    refine List.Perm.trans ?_ this
    apply List.Perm.append_left
    have : (fun v : Var => !(!v.copyable)) = (fun v : Var => v.copyable) := by
      funext v; simp
    rw [this]
  · simp [order, List.filter_append, List.filter_filter]
  · simp [order, List.filter_append, List.filter_filter]

/-- the agreement in `captures_threaded` (2) is not automatic: with the flag taken from another
    predicate (here: never set, as for a droppable non-copyable array under the seeded change
    C25/m3) the compiler hands back fewer values than the signature declares -/
theorem handBack_needs_flag_from_copyability :
    handBack [] [⟨0, false, false⟩] ≠ fnOutputs [] [⟨0, false, false⟩] := by decide

/-- **C25 (control qubits handed back, element level)**: take any block with any control items
    over individual qubits, and let `ret` be *whatever* the modified function returns for a control
    array (length-preserving, otherwise arbitrary).  Then after the block every control variable
    names the wire that was taken from it **iff** the function returns each control array
    element-wise in place.  So the compiler's pack → call → unpack adds no permutation of its own:
    the only way a control variable can end up on another wire is the callee's doing — and with
    the in-place semantics of `ControlModifier` (assumed, outside the repository) nothing moves
    (`control_qubits_returned_in_place`). -/
theorem control_qubits_returned (ret : List Nat → List Nat) (controls : List (List Nat))
    (hlen : ∀ vars, vars ∈ controls → (ret (packCtrl vars)).length = vars.length) :
    (∀ ps, ps ∈ blockHandBack ret controls → ∀ p, p ∈ ps → p.1 = p.2) ↔
      ∀ vars, vars ∈ controls → ret (packCtrl vars) = vars := by
  unfold blockHandBack unpackAssign
  constructor
  · intro h vars hv
    refine (List.zip_diag_iff vars (ret (packCtrl vars)) (hlen vars hv)).mp ?_
    exact h _ (List.mem_map.mpr ⟨vars, List.mem_reverse.mpr hv, rfl⟩)
  · intro h ps hps
    simp only [List.mem_map, List.mem_reverse] at hps
    rcases hps with ⟨vars, hv, rfl⟩
    exact (List.zip_diag_iff vars (ret (packCtrl vars)) (hlen vars hv)).mpr (h vars hv)

/-- the instance for the assumed in-place semantics, in the form the driver evaluates -/
theorem control_qubits_returned_in_place (controls : List (List Nat)) :
    handBackElems controls = blockHandBack id controls ∧
      ∀ ps, ps ∈ handBackElems controls → ∀ p, p ∈ ps → p.1 = p.2 := by
  refine ⟨rfl, ?_⟩
  exact (control_qubits_returned id controls (fun _ _ => rfl)).mpr (fun _ _ => rfl)

/-- non-vacuity: a callee that swaps the two qubits of `control(c, d)` is detected by the iff -/
example : ¬ ∀ ps, ps ∈ blockHandBack List.reverse [[3, 5]] → ∀ p, p ∈ ps → p.1 = p.2 := by
  intro h
  have := (control_qubits_returned List.reverse [[3, 5]] (by intro v hv; simp [packCtrl])).mp h [3, 5] (by simp)
  simp [packCtrl] at this
example : blockHandBack id [[3, 5], [7]] = [[(7, 7)], [(3, 3), (5, 5)]] := by decide

/-- handing the unpacked qubits back from the END of the list (seeded change C25/m6) swaps the
    variables as soon as a control lists two distinct qubits: the first variable ends up naming
    the last qubit's wire.  For all lists of at least two pairwise distinct variables. -/
theorem pop_order_permutes (v w : Nat) (rest : List Nat) (hnd : (v :: w :: rest).Nodup) :
    unpackAssignPop (v :: w :: rest) (packCtrl (v :: w :: rest)) ≠ (v :: w :: rest).map (fun x => (x, x)) := by
  intro h
  unfold unpackAssignPop packCtrl at h
  -- the head pair is (v, last element), and the last element is not v
  have hne : (w :: rest) ≠ [] := by simp
  have hlast : (v :: w :: rest).reverse.head? = some ((w :: rest).getLast hne) := by
    rw [List.head?_reverse]
    simp [List.getLast?_cons_cons, List.getLast?_eq_some_getLast hne]
  cases hr : (v :: w :: rest).reverse with
  | nil => simp at hr
  | cons x xs =>
    rw [hr] at h hlast
    simp only [List.head?_cons, Option.some.injEq] at hlast
    simp only [List.zip_cons_cons, List.map_cons, List.cons.injEq, Prod.mk.injEq, true_and] at h
    have hx : x = v := h.1
    have hmem : (w :: rest).getLast hne ∈ (w :: rest) := List.getLast_mem hne
    rw [← hlast, hx] at hmem
    exact (List.nodup_cons.mp hnd).1 hmem

/-- **D17 (the defect, on the pre-fix wiring)**: passing the control arrays in source order
    does not match the function type as soon as two controls differ in arity
    (`with control(a), control(b, c):`). -/
theorem d17_old_order_mismatch :
    callArgsOld [(0, 1), (1, 2)] [⟨0, false, true⟩] ≠ fnInputs [(0, 1), (1, 2)] [⟨0, false, true⟩] ∧
      callArgs [(0, 1), (1, 2)] [⟨0, false, true⟩] = fnInputs [(0, 1), (1, 2)] [⟨0, false, true⟩] := by
  decide

/-- `with control(c0), power(n), dagger, control(c1, c2), power(m), dagger, dagger:` -/
example : emit [.control 0 1, .power 0, .dagger, .control 1 2, .power 1, .dagger, .dagger] =
    [.dagger, .power 0, .power 1, .control 0 1, .control 1 2] := by decide

/-- the congruence does not identify stacks that differ in arity, exponent or order within a kind -/
example : ¬ Equiv [.control 0 1] [.control 0 2] := by
  intro h; have := h.invariants.2.2; simp [controls] at this
example : ¬ Equiv [.power 0, .power 1] [.power 1, .power 0] := by
  intro h; have := h.invariants.2.1; simp [powers] at this
example : ¬ Equiv [.dagger] [] := by
  intro h; have := h.invariants.1; simp [daggered] at this

end GuppyVerif.Modifier
