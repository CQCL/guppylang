import GuppyVerif.Spec.C02
import GuppyVerif.Lemmas.C02
/-! # C02 — Rejected programs fail with a located user error, never a crash   *(partial)*

C02 as stated ("no exception other than a Guppy error escapes from check/compile, for
every program") is NOT a Lean theorem: the checker is not modelled as a whole.  What is proved:

* the **inventory theorems**: every internal-failure site (`assert`, `raise InternalGuppyError`, raise of a
  non-Guppy exception, `assert_never`, `zip(strict=True)`, subscript of a locally built dict) that the translator finds
  in the anchored checker files of the tree under check (`Gen/C02InternalSites.lean`, regenerated on every run) is
  classified in the hand-written `Spec/C02.lean` — so a *new* site breaks `sites_classified`; every class `guarded g`
  names a theorem that exists (`Lemmas/C02Guards.lean` and the `example`s at the end fail to elaborate otherwise);
* the **component theorems** for the components modelled in `Model/Check02.lean`: the internal outcome is
  unreachable — arity (`check_num_args` before `zip(strict=True)`), name resolution (`check_bb`'s program analysis
  before `ExprSynthesizer.visit_Name`, for the entry block and for successor blocks), block signatures
  (`check_rows_match`, under the same-keys hypothesis that C08 `no_internal_error` establishes).

Everything else (113 of the 120 sites on the baseline tree) is covered only by the crash search of
`harness/props/c02.py`. -/
namespace GuppyVerif.C02

/-- **every regenerated internal-failure site is classified** (finite table: `decide` is a proof).  A new
    `assert` / `raise InternalGuppyError` / `zip(strict=True)` / … site in the anchored files changes `Gen.siteIds`
    and breaks this theorem. -/
theorem sites_classified : AllClassified Gen.siteIds classifiedIds :=
  fun _ h => (by decide +kernel : Gen.siteIds.Perm classifiedIds).subset h

/-- the literal id lists are the ones of the tables -/
theorem id_lists_faithful :
    Gen.siteIds = Gen.sites.map (·.id) ∧ classifiedIds = classification.map (·.1) := by
  constructor <;> decide +kernel

/-- every site has exactly one class: no id is classified twice -/
theorem classification_functional : classifiedIds.Nodup := by
  decide +kernel

/-- each guard names one of these theorems.  That the two theorems of other properties exist is checked by
    `Lemmas/C02Guards.lean` (a separate module importing `Props/C03` and `Props/C08`, built by the check on every run:
    a missing theorem there breaks the tie; kept out of this file so that these theorems do not depend on
    `Props/C03` and `Props/C08` building); the two of this file are pinned by `example`s at its end. -/
theorem guard_theorem_names (g : Guard) : g.theorem ∈
    ["GuppyVerif.UseDef.no_internal_error", "GuppyVerif.Builder.two_successors_have_pred",
     "GuppyVerif.C02.typeCheckArgs_never_internal", "GuppyVerif.C02.block_names_resolved"] := by
  cases g <;> simp [Guard.theorem]

/-- non-vacuity: the inventory is not empty, and both classes occur -/
example : Gen.siteIds.length ≥ 100 ∧ (classification.any (·.2.isGuarded)) = true ∧
    (classification.any (fun c => !c.2.isGuarded)) = true := by decide +kernel

/-- full input/output specification of the arity component against `List.zip`: pairs in order when the
    counts agree, else `WrongNumberOfArgsError(expected, actual)` -/
theorem typeCheckArgs_spec {α β : Type} (inputs : List α) (params : List β) :
    typeCheckArgs inputs params =
      if params.length = inputs.length then .ok (inputs.zip params)
      else .error (.user (.wrongNumberOfArgs params.length inputs.length)) := by
  by_cases h : params.length = inputs.length <;> simp [typeCheckArgs, checkNumArgs, zipStrict_eq, h]

/-- **`zip(inputs, func_ty.inputs, strict=True)` never raises `ValueError` in `type_check_args`**: whatever
    the argument and parameter lists, the outcome is a result or the user error `WrongNumberOfArgsError`. -/
theorem typeCheckArgs_never_internal {α β : Type} (inputs : List α) (params : List β) :
    Acceptable (typeCheckArgs inputs params) := by
  rw [typeCheckArgs_spec]
  split <;> trivial

/-- the guard is needed: without the arity check the strict zip does fail internally exactly when the
    lengths differ -/
theorem zipStrict_internal_iff {α β : Type} (xs : List α) (ys : List β) :
    (∃ s, zipStrict xs ys = .error (.internal s)) ↔ xs.length ≠ ys.length := by
  rw [zipStrict_eq]
  split <;> simp [*]

example : typeCheckArgs [10, 20] ["a", "b"] = .ok [(10, "a"), (20, "b")] := rfl
example : typeCheckArgs [10, 20, 30] ["a", "b"] = .error (.user (.wrongNumberOfArgs 2 3)) := rfl
example : ∃ s, zipStrict [10, 20, 30] ["a", "b"] = .error (.internal s) := ⟨_, rfl⟩

/-- `visit_Name` reaches `raise InternalGuppyError("Variable … is not defined in TypeSynthesiser")` exactly for
    names that are neither local, nor generic parameters, nor globals -/
theorem visitName_internal_iff (sc : Scope) (x : Nat) :
    (∃ s, visitName sc x = .error (.internal s)) ↔
      (x ∉ sc.locals ∧ lookup x sc.generic = none ∧ lookup x sc.globals = none) := by
  rw [← Classical.not_not (a := ∃ s, _), ← acceptable_iff, visitName_acceptable_iff, Known]
  simp [not_or]

/-- **names_resolved, entry block**: if the variables assigned before the entry block (the function
    arguments) are in `ctx.locals`, then checking the entry block — `check_bb`'s test of `bb.vars.used` followed by
    the statements, each read going through `visit_Name` and each assignment extending `ctx.locals` — never reaches
    the internal branch: the outcome is the final context or a user error (`VarNotDefinedError`, `ExpectedError`). -/
theorem block_names_resolved (evs : List Ev) (assBefore assignedSomewhere : List Nat) (sc : Scope)
    (hargs : ∀ y ∈ assBefore, y ∈ sc.locals) :
    Acceptable (checkEntryBlock evs assBefore assignedSomewhere sc) := by
  have hacc := entryCheck_acceptable (usedFirst evs []) assBefore assignedSomewhere sc
  unfold checkEntryBlock
  split
  · next he =>
    exact runBlock_acceptable evs [] sc
      (fun x hx => (entryCheck_ok he x hx).imp_left fun h => hargs x (by simpa using h))
      (fun x hx => nomatch hx)
  · next he => exact acceptable_error (he ▸ hacc)

/-- **names_resolved, successor blocks**: when the test at the end of `check_bb` passes for a successor,
    every name live before the successor resolves in the successor's context (whose locals are the block's output
    row `[ctx.locals[x] for x in live if x in ctx.locals]`), and so does every block of reads of live names and of
    names assigned earlier in that block. -/
theorem succ_names_resolved (live assignedSomewhere maybeAss : List Nat) (sc : Scope)
    (h : succCheck live assignedSomewhere maybeAss sc = .ok ()) (evs : List Ev)
    (hlive : ∀ x ∈ usedFirst evs [], x ∈ live) :
    Acceptable (runBlock { sc with locals := live.filter (fun x => sc.locals.contains x) } evs) := by
  refine runBlock_acceptable evs [] _ (fun x hx => ?_) (fun x hx => nomatch hx)
  have hl := hlive x hx
  exact (succCheck_ok h x hl).imp_left fun hc => List.mem_filter.2 ⟨hl, hc⟩

/-- the two tests of `check_bb` themselves only ever raise user errors -/
theorem program_analysis_user_errors_only (used assBefore asg live maybe : List Nat) (sc : Scope) :
    Acceptable (entryCheck used assBefore asg sc) ∧ Acceptable (succCheck live asg maybe sc) :=
  ⟨entryCheck_acceptable used assBefore asg sc, succCheck_acceptable live asg maybe sc⟩

/- non-vacuity.  Names: 1 = argument `a`, 2 = local `y`, 3 = generic const param `n`, 4 = global function `f`,
   5 = plain Python object `obj`, 9 = unknown `zz`.  Block: `y = f(a, n); use y` -/
private def exSc : Scope := ⟨[1], [(3, true)], [(4, .value), (5, .pyObject)]⟩
private def exBlock : List Ev := [.use 4, .use 1, .use 3, .assign 2, .use 2]
example : checkEntryBlock exBlock [1] [1, 2] exSc = .ok ⟨[2, 1], [(3, true)], [(4, .value), (5, .pyObject)]⟩ := rfl
example : checkEntryBlock (.use 9 :: exBlock) [1] [1, 2] exSc = .error (.user (.varNotDefined 9)) := rfl
example : checkEntryBlock (.use 5 :: exBlock) [1] [1, 2] exSc = .error (.user (.varNotDefined 5)) := rfl
/-- and the hazard is real: skipping the analysis, the unknown name reaches the internal branch -/
example : ∃ s, runBlock exSc (.use 9 :: exBlock) = .error (.internal s) := ⟨_, rfl⟩
example : succCheck [1, 4] [1, 2] [] exSc = .ok () := rfl

/-- **rows_same_keys (partial)**: when both rows contain every name that is looked up — which is what C08
    `UseDef.no_internal_error` proves for the rows flowing into a block in `check_cfg` — `check_rows_match` returns
    or raises `BranchTypeError`, never `KeyError`.  Full statement (no hypothesis) is false of the function in
    isolation: see the example below. -/
theorem rows_same_keys_partial (r1 r2 : Row)
    (h1 : ∀ x ∈ r1.map (·.1) ++ r2.map (·.1), ∃ t, rowLookup x r1 = some t)
    (h2 : ∀ x ∈ r1.map (·.1) ++ r2.map (·.1), ∃ t, rowLookup x r2 = some t) :
    Acceptable (checkRowsMatch r1 r2) :=
  rowsMatchOn_acceptable _ r1 r2 h1 h2

/-- two output rows computed for the same successor from contexts that both contain every live name have the
    same keys, so `rows_same_keys_partial` applies to them -/
theorem output_rows_match_acceptable (live : List Nat) (l1 l2 : Row)
    (h1 : ∀ x ∈ live, ∃ t, rowLookup x l1 = some t) (h2 : ∀ x ∈ live, ∃ t, rowLookup x l2 = some t) :
    Acceptable (checkRowsMatch (outputRow live l1) (outputRow live l2)) := by
  have names : ∀ (l : Row), (∀ x ∈ live, ∃ t, rowLookup x l = some t) → (outputRow live l).map (·.1) = live := by
    intro l hl
    rw [outputRow_names, List.filter_eq_self]
    intro x hx
    obtain ⟨t, ht⟩ := hl x hx
    rw [← rowLookup_isSome_iff, ht]; rfl
  have hlive : ∀ x ∈ (outputRow live l1).map (·.1) ++ (outputRow live l2).map (·.1), x ∈ live := by
    rw [names l1 h1, names l2 h2]; simp
  exact rows_same_keys_partial _ _
    (fun x hx => rowLookup_of_mem (by rw [names l1 h1]; exact hlive x hx))
    (fun x hx => rowLookup_of_mem (by rw [names l2 h2]; exact hlive x hx))

example : checkRowsMatch [(1, 0), (2, 0)] [(1, 0), (2, 1)] = .error (.user (.branchType 2)) := rfl
example : ∃ s, checkRowsMatch [(1, 0), (2, 0)] [(1, 0)] = .error (.internal s) := ⟨_, rfl⟩
example : checkRowsMatch (outputRow [1, 2] [(2, 7), (1, 5), (3, 0)]) (outputRow [1, 2] [(1, 5), (2, 7)]) = .ok () := rfl

/-- the two guards that name theorems of this file -/
example := @typeCheckArgs_never_internal
example := @block_names_resolved

end GuppyVerif.C02
