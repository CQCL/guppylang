import GuppyVerif.Lemmas.C31
import GuppyVerif.Lemmas.C31Names
/-! # C31 — Printed types read back as the same type; distinct variables get distinct names

Full statement of the round trip (as in properties.jsonl): *for every type without function
components the printed string parses back to the same type*.  It is FALSE of the code for constant
arguments that cannot be written in an annotation (an `int`-typed value, a negative number, `inf`,
`nan`: `roundtrip_false_int_const`, `roundtrip_false_negative`, `roundtrip_false_inf`), so the
theorem carries the hypothesis `WFTy` (constants are nat / bool / non-negative finite float values or
free constant variables) and is named `_partial`. -/
namespace GuppyVerif.Print

/-- **C31 (round trip)**: for every well-formed first-order type — no function component, no
    existential variable; definitions resolvable under their own name and arguments kind-correct;
    nat / bool / non-negative-float constants; free bound variables named by the parameter context —
    reading the printed tokens back (`ast.parse`, then `type_from_ast`) succeeds and yields the type
    with its `preserve` flags cleared, which Python's `==` (`Ty.beq`) identifies with the type itself.
    `hcd`: the copy/drop classification does not depend on `preserve` (true of the model's classifier:
    `classify_ignores_preserve`). -/
theorem parse_print_partial (W : World) (hcd : W.cd.IgnoresPreserve) (t : Ty) (h : WFTy W t) :
    readToks W.env W.ctx W.cd (printToks t) = .ok (normTy t) ∧ Ty.beq (normTy t) t = true :=
  ⟨readToks_print W hcd t h, beq_norm_ty t⟩

/-- the two stages separately: CPython's parser yields the expression `astTy t` … -/
theorem parse_print_stage1 (W : World) (t : Ty) (h : WFTy W t) : parseToks (printToks t) = .ok (astTy t) :=
  parseToks_print W t h

/-- … and `type_from_ast` maps that expression to the type -/
theorem parse_print_stage2 (W : World) (hcd : W.cd.IgnoresPreserve) (t : Ty) (h : WFTy W t) :
    typeFromAst W.env W.ctx W.cd (astTy t) = .ok (normTy t) := by
  simp [typeFromAst, read_ty W hcd t h, asType]

/-- the model's own classifier (`Type.copyable` / `Type.droppable`) satisfies `hcd` -/
theorem classify_ignores_preserve (env : Env) : (classify env).IgnoresPreserve :=
  fun t => cls_norm env.intrinsic t []

/-! ### non-vacuity: a concrete world and type satisfying the hypotheses -/
def exEnv : Env where
  defs := fun s =>
    if s = "int" then some (.num .int)
    else if s = "nat" then some (.num .nat)
    else if s = "bool" then some (.opaque "bool" [] false false false)
    else if s = "array" then
      some (.opaque "array" [.ty 0 "T" false false, .const 1 "n" (.num .nat) false] true false false)
    else if s = "Option" then some (.opaque "Option" [.ty 0 "T" false false] false false false)
    else if s = "G2" then
      some (.struct "G2" [.ty 0 "T" true false, .const 1 "n" (.num .nat) false]
        [.opaque "array" [.ty (.bvar "T" 0 true false), .const (.bvar (.num .nat) "n" 1)]])
    else if s = "Si" then some (.struct "Si" [.const 0 "x" (.num .int) false] [.num .int])
    else if s = "Sf" then some (.struct "Sf" [.const 0 "x" (.num .float) false] [.num .int])
    else none
  lists := false

def exCtx : Ctx := fun s =>
  if s = "T" then some (.ty 0 "T" true true) else if s = "k" then some (.const 1 "k" (.num .nat) false) else none

def exWorld : World := ⟨exEnv, exCtx, classify exEnv⟩

/-- `Option[((int,), G2[T, k], array[bool, 3]),]` over the context `T: Copy+Drop, k: nat` -/
def exTy : Ty :=
  .opaque "Option" [.ty (.tuple
    [.tuple [.num .int] true,
     .struct "G2" [.ty (.bvar "T" 0 true true), .const (.bvar (.num .nat) "k" 1)]
       [.opaque "array" [.ty (.bvar "T" 0 true false), .const (.bvar (.num .nat) "n" 1)]],
     .opaque "array" [.ty boolTy, .const (.val (.num .nat) (.int 3))]] false)]

example : WFTy exWorld exTy :=
  have t1 : WFTy exWorld (.tuple [.num .int] true) := ⟨rfl, trivial⟩
  have t2 : WFTy exWorld (.struct "G2" [.ty (.bvar "T" 0 true true), .const (.bvar (.num .nat) "k" 1)]
      [.opaque "array" [.ty (.bvar "T" 0 true false), .const (.bvar (.num .nat) "n" 1)]]) :=
    ⟨⟨⟨rfl, rfl⟩, ⟨rfl, _, rfl⟩, trivial⟩, _, rfl, ⟨fun _ => rfl, nofun⟩, ⟨.inl ⟨_, rfl⟩, rfl⟩, trivial⟩
  have tb : WFTy exWorld boolTy := ⟨trivial, _, _, _, _, rfl, nofun, trivial⟩
  have t3 : WFTy exWorld (.opaque "array" [.ty boolTy, .const (.val (.num .nat) (.int 3))]) :=
    ⟨⟨tb, .inl ⟨rfl, 3, rfl⟩, trivial⟩, _, _, _, _, rfl, nofun, ⟨nofun, nofun⟩, ⟨.inl ⟨_, rfl⟩, rfl⟩, trivial⟩
  ⟨⟨⟨t1, t2, t3, trivial⟩, trivial⟩, _, _, _, _, rfl, nofun, ⟨nofun, nofun⟩, trivial⟩

example : (printStr exTy) = some "Option[((int,), G2[T, k], array[bool, 3]),]" := by decide +kernel

example : readToks exEnv exCtx (classify exEnv) (printToks exTy) = .ok (normTy exTy) :=
  have t1 : WFTy exWorld (.tuple [.num .int] true) := ⟨rfl, trivial⟩
  have t2 : WFTy exWorld (.struct "G2" [.ty (.bvar "T" 0 true true), .const (.bvar (.num .nat) "k" 1)]
      [.opaque "array" [.ty (.bvar "T" 0 true false), .const (.bvar (.num .nat) "n" 1)]]) :=
    ⟨⟨⟨rfl, rfl⟩, ⟨rfl, _, rfl⟩, trivial⟩, _, rfl, ⟨fun _ => rfl, nofun⟩, ⟨.inl ⟨_, rfl⟩, rfl⟩, trivial⟩
  have tb : WFTy exWorld boolTy := ⟨trivial, _, _, _, _, rfl, nofun, trivial⟩
  have t3 : WFTy exWorld (.opaque "array" [.ty boolTy, .const (.val (.num .nat) (.int 3))]) :=
    ⟨⟨tb, .inl ⟨rfl, 3, rfl⟩, trivial⟩, _, _, _, _, rfl, nofun, ⟨nofun, nofun⟩, ⟨.inl ⟨_, rfl⟩, rfl⟩, trivial⟩
  (parse_print_partial exWorld (classify_ignores_preserve exEnv) exTy
    ⟨⟨⟨t1, t2, t3, trivial⟩, trivial⟩, _, _, _, _, rfl, nofun, ⟨nofun, nofun⟩, trivial⟩).1

/-! ### the full statement is false of the code: constants that cannot be written back -/
/-- the error a read-back ends with, if any -/
def errOf : Except PErr Ty → Option PErr
  | .error e => some e
  | .ok _ => none

/-- `Si[5]` with an `int`-typed 5: printed `Si[5]`, read back as a `nat` 5, rejected (TypeMismatchError) -/
theorem roundtrip_false_int_const :
    errOf (readToks exEnv exCtx (classify exEnv)
      (printToks (.struct "Si" [.const (.val (.num .int) (.int 5))] [.num .int]))) = some .typeMismatch := by
  decide +kernel

/-- `Si[-1]`: `-1` is a `UnaryOp`, no type argument (InvalidTypeArgError) -/
theorem roundtrip_false_negative :
    errOf (readToks exEnv exCtx (classify exEnv)
      (printToks (.struct "Si" [.const (.val (.num .int) (.int (-1)))] [.num .int]))) = some .invalidTypeArg := by
  decide +kernel

/-- `Sf[inf]`: `inf` is read as a name (VarNotDefinedError) -/
theorem roundtrip_false_inf :
    errOf (readToks exEnv exCtx (classify exEnv)
      (printToks (.struct "Sf" [.const (.val (.num .float) (.float "inf"))] [.num .int]))) = some .varNotDefined := by
  decide +kernel

/-- **C31 (names)**: in the printed form of a closed generic function type of rank 1 (repeated
    parameter names, comptime-generated parameters and existential variables allowed; all display names
    identifier-like, i.e. without `'` and `?`), or of any non-generic type whose free bound variables are
    named by a context of pairwise distinct names, two variable occurrences carry the same printed name
    iff they are the same variable (same de Bruijn index / same existential id). -/
theorem distinct_vars_distinct_names (ctxNames : List String) (t : Ty) (h : NamesOK ctxNames t) :
    ∀ o1 ∈ varOccs (printToks t), ∀ o2 ∈ varOccs (printToks t), (o1.2 = o2.2 ↔ o1.1 = o2.1) := by
  cases t with
  | func ins o ps cs =>
    rcases h with ⟨hne, hps, hins, ho⟩ | h
    · exact names_generic ins o ps cs hne hps hins ho
    · exact names_open ctxNames _ h
  | _ => exact names_open ctxNames _ h

/-- **C31 (fresh names)**: the names `_fresh_name` hands out for any list of display names
    (`T`, `T'1`, `T'2`, …) are pairwise distinct, one per display name — provided display names never
    contain `'` (they are Python identifiers). -/
theorem fresh_names_nodup (ds : List String) (h : ∀ d ∈ ds, NoQuote d) :
    (pushParams .init ds).bound.Nodup ∧ (pushParams .init ds).bound.length = ds.length := by
  obtain ⟨hi, hl, _⟩ := inv_pushParams NoQuote (fun _ hd => hd) ds .init h (inv_init _)
  exact ⟨bound_nodup _ hi, by simpa [PState.init] using hl⟩

/-- the hypothesis of `fresh_names_nodup` is needed: a display name containing a quote can collide -/
theorem fresh_names_quote_collision : ¬ (pushParams .init ["T", "T", "T'1"]).bound.Nodup := by decide +kernel

/-- `forall T, T'1, n: nat. (T @owned, ?T'2) -> (T'1, ?T'2, array[?T'3, n])`: three parameters two of which are
    called `T`, two existential variables also called `T` -/
def exFn : Ty :=
  .func [.mk (.bvar "T" 0 false false) ⟨false, true, false⟩, .mk (.evar "T" 7 true true) ⟨false, false, false⟩]
    (.tuple [.bvar "T" 1 true true, .evar "T" 7 true true,
      .opaque "array" [.ty (.evar "T" 9 true true), .const (.bvar (.num .nat) "n" 2)]] false)
    [.ty 0 "T" false false, .ty 1 "T" true true, .const 2 "n" (.num .nat) false] []

example : printStr exFn = some "forall T, T'1, n: nat. (T @owned, ?T'2) -> (T'1, ?T'2, array[?T'3, n])" := by
  decide +kernel

example : NamesOK [] exFn := by
  refine Or.inl ⟨by simp, ?_, ?_, ?_⟩ <;>
    simp [ParamsOK, paramName, paramIdx, paramTyBody, Body, BodyTys, BodyIns, BodyIn, BodyArgs, BodyArg,
      BodyConst, IdentLike, NoQuote]

example : ∀ d ∈ ["T", "T", "n", "T"], NoQuote d := by simp [NoQuote]

/-- the closedness hypothesis is needed: a generic function type mentioning a variable beyond its own
    parameters prints that variable with its bare display name (`forall T. T -> T`, two variables) -/
theorem names_false_for_open_generic :
    let t : Ty := .func [.mk (.bvar "T" 0 false false) ⟨false, false, false⟩] (.bvar "T" 1 false false)
      [.ty 0 "T" false false] []
    (.bound 0, "T") ∈ varOccs (printToks t) ∧ (.bound 1, "T") ∈ varOccs (printToks t) := by
  decide +kernel

theorem alloc_run_ge (ks : List EKind) : ∀ (a : Alloc), ∀ x ∈ a.run ks, a.next ≤ x.2 := by
  induction ks with
  | nil => intro a x hx; simp [Alloc.run] at hx
  | cons k ks ih =>
    intro a x hx
    simp only [Alloc.run, List.mem_cons] at hx
    rcases hx with rfl | hx
    · simp
    · have := ih ⟨a.next + 1⟩ x hx
      simp at this; omega

/-- **C31 (allocator)**: any sequence of `.fresh` calls of either kind on the shared counter hands out
    pairwise distinct ids — in particular a type variable and a const variable never share an id. -/
theorem fresh_ids_distinct_across_kinds (ks : List EKind) : ∀ (a : Alloc), ((a.run ks).map (·.2)).Nodup := by
  induction ks with
  | nil => intro a; simp [Alloc.run]
  | cons k ks ih =>
    intro a
    simp only [Alloc.run, List.map_cons, List.nodup_cons, List.mem_map, not_exists, not_and]
    refine ⟨?_, ih _⟩
    intro x hx e
    have := alloc_run_ge ks ⟨a.next + 1⟩ x hx
    simp at this; omega

theorem evarOccs_sub : ∀ (toks : List Tok) (o : EKind × Nat × String), o ∈ evarOccs toks →
    (VarId.exist o.2.1, o.2.2) ∈ varOccs toks
  | [], o, h => by simp [evarOccs] at h
  | t :: r, o, h => by
      rw [varOccs_cons]
      cases t with
      | evar s id c =>
        rcases List.mem_cons.mp h with rfl | h
        · exact List.mem_append_left _ (List.mem_singleton.mpr rfl)
        · exact List.mem_append_right _ (evarOccs_sub r o h)
      | _ => exact List.mem_append_right _ (evarOccs_sub r o h)

/-- **C31 (names, both kinds)**: if the existential variables of `t` (type AND const variables) were
    handed out by one run of the shared allocator — explicit hypothesis: ids are unique across kinds —
    then two existential occurrences in the printed form carry the same name iff they are the same
    variable, a variable being (kind, id).  In particular `?T` never stands for a type variable and a
    const variable at once.  Without the hypothesis this is false: `per_kind_counters_share_a_name`. -/
theorem evars_of_both_kinds_distinct_names (ctxNames : List String) (t : Ty) (h : NamesOK ctxNames t)
    (a : Alloc) (ks : List EKind)
    (halloc : ∀ o ∈ evarOccs (printToks t), (o.1, o.2.1) ∈ a.run ks) :
    ∀ o1 ∈ evarOccs (printToks t), ∀ o2 ∈ evarOccs (printToks t),
      (o1.2.2 = o2.2.2 ↔ (o1.1, o1.2.1) = (o2.1, o2.2.1)) := by
  intro o1 h1 o2 h2
  have hn := distinct_vars_distinct_names ctxNames t h _ (evarOccs_sub _ o1 h1) _ (evarOccs_sub _ o2 h2)
  simp only [VarId.exist.injEq] at hn
  rw [hn]
  constructor
  · intro e
    have m1 := halloc o1 h1
    have m2 := halloc o2 h2
    have hnd := fresh_ids_distinct_across_kinds ks a
    have := List.nodup_map_inj (·.2) _ hnd _ m1 _ m2 e
    exact this
  · intro e; exact congrArg Prod.snd e

/-- with one counter per kind (`Alloc2`, not the code) the first type variable and the first const
    variable both get id 0 … -/
theorem per_kind_counters_collide :
    Alloc2.run ⟨0, 0⟩ [.ty, .const] = [(.ty, 0), (.const, 0)] := by decide +kernel

/-- … and `array[?T, ?n]` built from them prints as `array[?T, ?T]`: one name for two variables -/
theorem per_kind_counters_share_a_name :
    let t : Ty := .opaque "array" [.ty (.evar "T" 0 true true), .const (.evar (.num .nat) "n" 0)]
    printStr t = some "array[?T, ?T]" ∧
      evarOccs (printToks t) = [(.ty, 0, "?T"), (.const, 0, "?T")] := by decide +kernel

/-- non-vacuity: the shared allocator gives `?T` and `?n` different ids and they print apart -/
example :
    let t : Ty := .opaque "array" [.ty (.evar "T" 0 true true), .const (.evar (.num .nat) "T" 1)]
    (Alloc.run ⟨0⟩ [.ty, .const] = [(.ty, 0), (.const, 1)]) ∧ printStr t = some "array[?T, ?T'1]" := by decide +kernel

end GuppyVerif.Print
