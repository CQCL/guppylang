import GuppyVerif.Lemmas.C14Closed
import GuppyVerif.Lemmas.C14Flags
import GuppyVerif.Lemmas.C14Subst
import GuppyVerif.Gen.C14TypeDefs
/-! # C14 — Copy/drop classification is structural and matches HUGR bounds

`D` is the table of opaque type definitions and `aff` the list
`AFFINE_EXTENSION_TYS`; both are regenerated from /repo on every run (`Gen/C14TypeDefs.lean`) and
`gen_table_ok` re-checks the hypotheses `TableOk aff D` / `affOk aff` for them.  All theorems hold
for every type (arbitrary nesting; generic structs through their instantiated fields). -/
namespace GuppyVerif.CopyDrop
open GuppyVerif

/-- the regenerated table satisfies the consistency conditions every theorem below assumes -/
theorem gen_table_ok : TableOk Gen.affineExtTys Gen.typeDefs ∧ affOk Gen.affineExtTys = true := by
  refine ⟨tableOk_iff.mp (by decide), by decide⟩

/-- **intrinsic rules** (for the regenerated table): qubits are neither copyable nor droppable, arrays
    are never copyable (but droppable), bools and strings are both; numbers, `None` and function types
    are both whatever they contain. -/
theorem intrinsic_rules :
    (intrinsic Gen.typeDefs .copy "qubit" = false ∧ intrinsic Gen.typeDefs .drop "qubit" = false) ∧
    (intrinsic Gen.typeDefs .copy "array" = false ∧ intrinsic Gen.typeDefs .drop "array" = true) ∧
    (intrinsic Gen.typeDefs .copy "bool" = true ∧ intrinsic Gen.typeDefs .drop "bool" = true) ∧
    (intrinsic Gen.typeDefs .copy "str" = true ∧ intrinsic Gen.typeDefs .drop "str" = true) ∧
    (∀ D k, copyable D (.num k) = true ∧ droppable D (.num k) = true) ∧
    (∀ D p, copyable D (.none p) = true ∧ droppable D (.none p) = true) ∧
    (∀ D ins o ps cs, copyable D (.func ins o ps cs) = true ∧ droppable D (.func ins o ps cs) = true) := by
  refine ⟨by decide, by decide, by decide, by decide, ?_, ?_, ?_⟩ <;> intros <;>
    simp [copyable, droppable, flagG]

/-- **structural rule** for either flag `s`: a tuple has the flag iff all elements have it; a struct iff
    all its fields — the definition's fields *instantiated with the type's arguments*, as
    `StructType.fields` — and all its type arguments have it; an opaque type iff its definition does not
    forbid it and all type arguments have it; variables carry their declared flag. -/
theorem flag_structural (D : List OpaqueDef) (s : Sel) :
    (∀ ts p, flagG D true s [] (.tuple ts p) = ts.all (flagG D true s [])) ∧
    (∀ n as fs fields, Ty.structFields as fs = some fields →
      flagG D true s [] (.struct n as fs) =
        (fields.all (flagG D true s []) && (typeArgs as).all (flagG D true s []))) ∧
    (∀ n as, flagG D true s [] (.opaque n as) =
        (intrinsic D s n && (typeArgs as).all (flagG D true s []))) ∧
    (∀ n i c d, flagG D true s [] (.bvar n i c d) = selFlag s c d) ∧
    (∀ n i c d, flagG D true s [] (.evar n i c d) = selFlag s c d) := by
  refine ⟨?_, ?_, ?_, ?_, ?_⟩
  · intro ts p; simp only [flagG, flagGList_eq_all]
  · intro n as fs fields hf
    have := flagGList_subst D true s fs as [] fields hf
    simp only [List.append_nil] at this
    simp only [flagG, Bool.not_true, Bool.false_or, ← this, flagGList_eq_all, flagGArgs_eq_all]
  · intro n as; simp only [flagG, flagGArgs_eq_all]
  · intro n i c d; simp [flagG]
  · intro n i c d; simp [flagG]

/-- **C14 (copyable is structural)** -/
theorem copyable_structural (D : List OpaqueDef) :
    (∀ ts p, copyable D (.tuple ts p) = ts.all (copyable D)) ∧
    (∀ n as fs fields, Ty.structFields as fs = some fields →
      copyable D (.struct n as fs) = (fields.all (copyable D) && (typeArgs as).all (copyable D))) ∧
    (∀ n as, copyable D (.opaque n as) = (intrinsic D .copy n && (typeArgs as).all (copyable D))) ∧
    (∀ n i c d, copyable D (.bvar n i c d) = c) :=
  let h := flag_structural D .copy
  ⟨h.1, h.2.1, h.2.2.1, h.2.2.2.1⟩

/-- **C14 (droppable is structural)** -/
theorem droppable_structural (D : List OpaqueDef) :
    (∀ ts p, droppable D (.tuple ts p) = ts.all (droppable D)) ∧
    (∀ n as fs fields, Ty.structFields as fs = some fields →
      droppable D (.struct n as fs) = (fields.all (droppable D) && (typeArgs as).all (droppable D))) ∧
    (∀ n as, droppable D (.opaque n as) = (intrinsic D .drop n && (typeArgs as).all (droppable D))) ∧
    (∀ n i c d, droppable D (.bvar n i c d) = d) :=
  let h := flag_structural D .drop
  ⟨h.1, h.2.1, h.2.2.1, h.2.2.2.1⟩

/-- **C14 (`Type.hugr_bound`)**: Guppy's own bound of a type is `Copyable` exactly when the type is
    copyable (whenever it is defined, i.e. no unsolved existential variable among the arguments). -/
theorem hugr_bound_iff_copyable {aff : List String} {D : List OpaqueDef} (hT : TableOk aff D)
    (t : Ty) (b : HBound) (hk : known D t = true) (hb : hugrBound D t = some b) :
    b = .copyable ↔ copyable D t = true :=
  hb_ty D aff hT t b hk hb

/-- **C14 (copyable ⇒ HUGR-copyable, and no drop)**: the HUGR type of a copyable Guppy type is a
    `Copyable` HUGR type and never gets a drop operation. -/
theorem copyable_sound {aff : List String} {D : List OpaqueDef} (hT : TableOk aff D)
    (hA : affOk aff = true) (t : Ty) (h : HTy) (hh : toHugr D t = some h) (hc : copyable D t = true) :
    typeBound h = .copyable ∧ requiresDrop aff h = false :=
  rel_top (closed_copyableSound true hT hA) t h hh hc

theorem copyable_no_drop {aff : List String} {D : List OpaqueDef} (hT : TableOk aff D)
    (hA : affOk aff = true) (t : Ty) (h : HTy) (hh : toHugr D t = some h) (hc : copyable D t = true) :
    requiresDrop aff h = false :=
  (copyable_sound hT hA t h hh hc).2

/-- **C14 (drops)**: whenever the HUGR type of a droppable Guppy type is `Linear` (so the value cannot be
    discarded implicitly in HUGR), `requires_drop` holds and `insert_drops` adds an explicit drop. -/
theorem linear_droppable_requires_drop {aff : List String} {D : List OpaqueDef} (hT : TableOk aff D)
    (t : Ty) (h : HTy) (hh : toHugr D t = some h) (hd : droppable D t = true)
    (hl : typeBound h = .linear) : requiresDrop aff h = true :=
  rel_top (closed_linearNeedsDrop true hT) t h hh hd hl

/-- **C14 (what the HUGR bound reflects)**: the HUGR type is `Copyable` exactly when the type is copyable
    *not counting the type arguments of struct types* (fields only). -/
theorem hugr_copyable_iff_core {aff : List String} {D : List OpaqueDef} (hT : TableOk aff D)
    (hA : affOk aff = true) (t : Ty) (h : HTy) (hh : toHugr D t = some h) :
    typeBound h = .copyable ↔ coreCopyable D t = true :=
  ⟨rel_top (closed_boundImpliesCopyable hT) t h hh, fun hc => (rel_top (closed_copyableSound false hT hA) t h hh hc).1⟩

/-- **C14 (`bound_iff_copyable`, partial)** — full statement: `typeBound (toHugr t) = Copyable ↔ copyable t`
    for all types.  It is false of the code (`bound_iff_copyable_false`); it holds when no struct in the
    type has a phantom parameter (`noPhantom`: wherever all fields of a struct are copyable, so are its
    type arguments). -/
theorem bound_iff_copyable_partial {aff : List String} {D : List OpaqueDef} (hT : TableOk aff D)
    (hA : affOk aff = true) (t : Ty) (h : HTy) (hh : toHugr D t = some h)
    (hnp : noPhantom D .copy t = true) : typeBound h = .copyable ↔ copyable D t = true := by
  rw [hugr_copyable_iff_core hT hA t h hh]
  unfold coreCopyable copyable
  rw [np_flag D .copy t [] hnp]

/-- **C14 (`affine_requires_drop`, partial)** — full statement: `droppable t ∧ ¬copyable t →
    requiresDrop (toHugr t)`; false of the code in general (`affine_requires_drop_false`), true without
    phantom parameters. -/
theorem affine_requires_drop_partial {aff : List String} {D : List OpaqueDef} (hT : TableOk aff D)
    (hA : affOk aff = true) (t : Ty) (h : HTy) (hh : toHugr D t = some h)
    (hnp : noPhantom D .copy t = true) (haff : Affine D t) : requiresDrop aff h = true := by
  apply linear_droppable_requires_drop hT t h hh haff.1
  cases hb : typeBound h with
  | linear => rfl
  | copyable =>
    have := (bound_iff_copyable_partial hT hA t h hh hnp).mp hb
    rw [haff.2] at this
    cases this

/-- **C14 (`to_hugr` is structural)**: a tuple lowers to a `Sum` with the single row of its elements' HUGR
    types; a struct to the single row of the HUGR types of its fields *instantiated with the arguments*
    (`StructType.fields`); a bound variable to `Variable(idx, Copyable iff copyable)`. -/
theorem toHugr_structural (D : List OpaqueDef) :
    (∀ ts p, toHugr D (.tuple ts p) = (toHugrEList D [] ts).map tupleOf) ∧
    (∀ n as fs fields, Ty.structFields as fs = some fields →
      toHugr D (.struct n as fs) = (toHugrEList D [] fields).map tupleOf) ∧
    (∀ n i c d, toHugr D (.bvar n i c d) = some (.var i (flagB c))) := by
  refine ⟨?_, ?_, ?_⟩
  · intro ts p
    simp only [toHugr, toHugrE]
    cases toHugrEList D [] ts <;> rfl
  · intro n as fs fields hf
    have := toHugrEList_subst D fs as [] fields hf
    simp only [List.append_nil] at this
    simp only [toHugr, toHugrE, this]
    cases toHugrEList D (envArgs D [] as) fs <;> rfl
  · intro n i c d
    simp [toHugr, toHugrE, varH]

/-- **C14 (`to_hugr` shapes of the builtin generic types)**: for any table in which the definition `n` has
    the given shape — `Option[T]` is the sum `[[], [T]]`, `array[T, n]` the `borrow_array<n, T>`,
    `frozenarray[T, n]` the `static_array<T>` (defined only for Copyable `T`), `SizedIter[T, n]` the
    underlying `T`. -/
theorem toHugr_shapes {D : List OpaqueDef} {n : String} {d : OpaqueDef} (hl : lookup D n = some d)
    (t : Ty) (c : Const) :
    (d.shape = .option → toHugr D (.opaque n [.ty t]) = (toHugr D t).map optionOf) ∧
    (∀ e r, d.shape = .array e r → toHugr D (.opaque n [.ty t, .const c]) =
      (toHugr D t).bind (fun h => (constArgE [] c).map (fun a => .ext e r [a, .ty h]))) ∧
    (∀ e r, d.shape = .staticArray e r → toHugr D (.opaque n [.ty t, .const c]) =
      (toHugr D t).bind (fun h => if typeBound h = .copyable then some (.ext e r [.ty h]) else none)) ∧
    (d.shape = .underlying → toHugr D (.opaque n [.ty t, .const c]) = toHugr D t) := by
  refine ⟨?_, ?_, ?_, ?_⟩
  · intro hs; simp only [toHugr, toHugrE, hl, hs]; cases toHugrE D [] t <;> rfl
  · intro e r hs; simp only [toHugr, toHugrE, hl, hs]
    cases toHugrE D [] t <;> cases constArgE [] c <;> rfl
  · intro e r hs; simp only [toHugr, toHugrE, hl, hs]; cases toHugrE D [] t <;> rfl
  · intro hs; simp only [toHugr, toHugrE, hl, hs]

/-- the regenerated table gives `Option`, `array`, `frozenarray`, `SizedIter` those shapes, with the HUGR
    extension types `borrow_array` (explicitly Linear) and `static_array` (bound of its element) -/
theorem gen_shapes :
    (∃ d, lookup Gen.typeDefs "Option" = some d ∧ d.shape = .option) ∧
    (∃ d, lookup Gen.typeDefs "array" = some d ∧
      d.shape = .array "collections.borrow_arr.borrow_array" (.explicit .linear)) ∧
    (∃ d, lookup Gen.typeDefs "frozenarray" = some d ∧
      d.shape = .staticArray "collections.static_array.static_array" .joinArgs) ∧
    (∃ d, lookup Gen.typeDefs "SizedIter" = some d ∧ d.shape = .underlying) := by
  refine ⟨?_, ?_, ?_, ?_⟩ <;> simp [lookup, Gen.typeDefs]

/-- `Ph[qubit, 0]` for `@guppy.struct class Ph[T, n: nat]: x: int` -/
def phantomLinear : Ty :=
  .struct "Ph" [.ty (.opaque "qubit" []), .const (.val (.num .nat) (.int 0))] [.num .int]

/-- `Ph[array[int, 0], 0]` -/
def phantomAffine : Ty :=
  .struct "Ph" [.ty (.opaque "array" [.ty (.num .int), .const (.val (.num .nat) (.int 0))]),
    .const (.val (.num .nat) (.int 0))] [.num .int]

/-- the full `bound_iff_copyable` is **false** of the code: a struct with a phantom type parameter
    instantiated with `qubit` is not copyable, yet lowers to the Copyable HUGR type `Tuple(int)`.
    (Replayed on the real classes by the check: known finding `bound:Ph[qubit, 0]`.) -/
theorem bound_iff_copyable_false :
    ∃ t, known Gen.typeDefs t = true ∧ (toHugr Gen.typeDefs t).map typeBound = some .copyable ∧
      copyable Gen.typeDefs t = false :=
  ⟨phantomLinear, by decide, by decide, by decide⟩

/-- the full `affine_requires_drop` is **false** of the code: `Ph[array[int,0],0]` is affine but its HUGR
    type needs no drop.  (Known finding `drop:Ph[array[int, 0], 0]`.) -/
theorem affine_requires_drop_false :
    ∃ t, known Gen.typeDefs t = true ∧ Affine Gen.typeDefs t ∧
      (toHugr Gen.typeDefs t).map (requiresDrop Gen.affineExtTys) = some false :=
  ⟨phantomAffine, by decide, ⟨by decide, by decide⟩, by decide⟩

section Examples
def intT : Ty := .num .int
def arr3 : Ty := .opaque "array" [.ty intT, .const (.val (.num .nat) (.int 3))]
/-- `G1[array[int,3]]` for `class G1[T]: x: T; y: int` -/
def g1arr : Ty := .struct "G1" [.ty arr3] [.bvar "T" 0 false false, intT]
/-- `Option[(G1[array[int,3]], T)]` with an affine type variable -/
def nested : Ty := .opaque "Option" [.ty (.tuple [g1arr, .bvar "T" 0 false true] false)]

-- the struct rule is used with real instantiated fields
example : (Ty.structFields [.ty arr3] [.bvar "T" 0 false false, intT]).map
    (fun fs => fs.map (fun f => (copyable Gen.typeDefs f, droppable Gen.typeDefs f))) =
      some [(false, true), (true, true)] := by decide
-- an affine nested type without phantom parameters: hypotheses of `affine_requires_drop_partial` hold
example : known Gen.typeDefs nested = true ∧ noPhantom Gen.typeDefs .copy nested = true ∧
    Affine Gen.typeDefs nested ∧ (toHugr Gen.typeDefs nested).isSome = true := by
  refine ⟨by decide, by decide, ⟨by decide, by decide⟩, by decide⟩
-- a copyable nested type: hypotheses of `copyable_sound`
example : copyable Gen.typeDefs (.tuple [intT, .opaque "Option" [.ty (.opaque "bool" [])]] false) = true ∧
    (toHugr Gen.typeDefs (.tuple [intT, .opaque "Option" [.ty (.opaque "bool" [])]] false)).isSome = true := by
  refine ⟨by decide, by decide⟩
-- `hugrBound` is defined on it
example : hugrBound Gen.typeDefs nested = some .linear := by decide
-- a droppable type with Linear HUGR type: hypotheses of `linear_droppable_requires_drop`
example : droppable Gen.typeDefs arr3 = true ∧
    (toHugr Gen.typeDefs arr3).map typeBound = some .linear := by
  refine ⟨by decide, by decide⟩
end Examples

end GuppyVerif.CopyDrop
