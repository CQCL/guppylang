import GuppyVerif.Lemmas.C18
/-! # C18 — range() yields Python's sequence

Full statement of the property (FALSE of the code, see `range_overflow_counterexample` and
`range_wrong_on_overflow`, defect D12):

    ∀ start stop step, I64 start → I64 stop → I64 step → step ≠ 0 →
      ∀ fuel ≥ pyLen start stop step,
        (run fuel (range3 start stop step)).1 = pyRange start stop step ∧ terminated

What holds, and is proved here, is the statement under the hypothesis `NoOverflow`
(`start + len*step`, the value `__next__` computes after the last element, fits in 64 bits);
`range_wrong_on_overflow` shows the hypothesis is also necessary: whenever it fails the
iteration yields an extra, wrapped value.  For `step = 1` (one- and two-argument forms, and
the comptime form for `n < 2^63`) the hypothesis always holds and is not assumed. -/
namespace GuppyVerif.Range

/-- **C18 (the specification is Python's range)**: independent reading of `pyRange`, in the words
    of the docstring of `range` in iter.py: the yielded numbers are exactly the `start + i*step`
    that are `< stop` (ascending) resp. `> stop` (descending). -/
theorem pyRange_mem_iff (start stop step x : Int) (hne : step ≠ 0) :
    x ∈ pyRange start stop step ↔
      ∃ i : Nat, x = start + (i : Int) * step ∧ (0 < step → x < stop) ∧ (step < 0 → stop < x) := by
  unfold pyRange
  simp only [List.mem_map, List.mem_range]
  -- for `step ≠ 0` the two implications say `Going stop step x`
  constructor
  · rintro ⟨i, hi, rfl⟩
    by_cases hg : Going stop step start
    · obtain ⟨m, hm, hlast, _⟩ := pyLen_going hne hg
      have := steps_mono (show i ≤ m by omega) step
      have := steps_sign i step
      exact ⟨i, rfl, by unfold Going at *; omega, by unfold Going at *; omega⟩
    · rw [pyLen_not_going hne hg] at hi; omega
  · rintro ⟨i, rfl, hup, hdown⟩
    have hsi := steps_sign i step
    have hg : Going stop step start := by unfold Going; omega
    obtain ⟨m, hm, _, hend⟩ := pyLen_going hne hg
    refine ⟨i, ?_, rfl⟩
    rw [hm]
    apply Classical.byContradiction
    intro hc
    have := steps_mono (show m + 1 ≤ i by omega) step
    rw [show ((m + 1 : Nat) : Int) = (m : Int) + 1 by simp] at this
    exact hend (by unfold Going; omega)

example : (7 : Int) ∈ pyRange 1 9 3 ∧ (3 : Int) ≠ 0 ∧ ¬ ((10 : Int) ∈ pyRange 1 9 3) := by decide

/-- … and they come in order: the `i`-th element is `start + i*step`. -/
theorem pyRange_getElem (start stop step : Int) (i : Nat) (h : i < (pyRange start stop step).length) :
    (pyRange start stop step)[i] = start + (i : Int) * step := by
  simp [pyRange]

example : (pyRange 1 9 3).length = 3 ∧ (pyRange 1 9 3)[2]! = 7 := by decide

/-- **C18 (three-argument form), partial**: for all 64-bit `start`, `stop`, `step ≠ 0` such
    that `start + len*step` does not overflow, driving `range(start, stop, step)` with any
    fuel `≥ len` yields exactly Python's `list(range(start, stop, step))`, and the iterator has
    terminated (`__next__` returns `nothing()` in the final state). -/
theorem range_correct_partial (start stop step : Int) (h1 : I64 start) (h2 : I64 stop)
    (_h3 : I64 step) (hne : step ≠ 0) (hno : NoOverflow start stop step)
    (fuel : Nat) (hf : pyLen start stop step ≤ fuel) :
    (run fuel (range3 start stop step)).1 = pyRange start stop step ∧
      (run fuel (range3 start stop step)).2.next? = none := by
  unfold range3 pyRange
  by_cases hg : Going stop step start
  · obtain ⟨m, hm, hlast, hend⟩ := pyLen_going hne hg
    have hov : I64 (start + ((m : Int) + 1) * step) := by
      rcases hno with h0 | h0
      · omega
      · rw [hm] at h0; simpa using h0
    have hsgn := steps_sign m step
    have hb : I64 (start + (m : Int) * step) := by
      unfold Going at hlast; unfold I64 at h1 h2 ⊢; omega
    obtain ⟨f, rfl⟩ : ∃ f, fuel = m + 1 + f := ⟨fuel - (m + 1), by omega⟩
    rw [run_yield stop step m start f hg hlast h1 hb, wrap_id hov, run_of_none (next?_not_going hend), hm,
      ← arith_eq_map]
    exact ⟨by simp, next?_not_going hend⟩
  · have hn := next?_not_going hg
    rw [run_of_none hn, pyLen_not_going hne hg]
    exact ⟨rfl, hn⟩

/-- non-vacuity: `range(-3, 10, 4)` satisfies every hypothesis; and the conclusion computes. -/
example : I64 (-3) ∧ I64 10 ∧ I64 4 ∧ (4 : Int) ≠ 0 ∧ NoOverflow (-3) 10 4 ∧ pyLen (-3) 10 4 ≤ 5 := by
  decide
example : (run 5 (range3 (-3) 10 4)).1 = [-3, 1, 5, 9] ∧ pyRange (-3) 10 4 = [-3, 1, 5, 9] := by decide
example : (run 9 (range3 7 (-2) (-3))).1 = [7, 4, 1] ∧ pyRange 7 (-2) (-3) = [7, 4, 1] := by decide
/-- the hypothesis can hold right at the boundary: `range(2^63-3, 2^63-1, 2)`, `last+step = 2^63-1` -/
example : NoOverflow 9223372036854775805 9223372036854775807 2 := by decide

/-- **C18, D12 (concrete witness)**: `range(2^63-2, 2^63-1, 2)` is `[2^63-2]` in Python, but
    `__next__` computes `2^63-2 + 2`, which wraps to `-2^63 < stop`: the iteration goes on. -/
theorem range_overflow_counterexample :
    pyRange 9223372036854775806 9223372036854775807 2 = [9223372036854775806] ∧
    (run 3 (range3 9223372036854775806 9223372036854775807 2)).1 =
      [9223372036854775806, -9223372036854775808, -9223372036854775806] ∧
    ¬ NoOverflow 9223372036854775806 9223372036854775807 2 := by
  decide

/-- non-vacuity of the witness: its arguments are legal 64-bit ints and the step is non-zero -/
example : I64 9223372036854775806 ∧ I64 9223372036854775807 ∧ I64 2 ∧ (2 : Int) ≠ 0 := by
  decide

/-- **C18, D12 (the hypothesis is necessary)**: for all 64-bit `start`, `stop`, `step ≠ 0`
    for which `start + len*step` overflows, one more call of `__next__` after Python's `len`
    elements yields an extra value, the wrapped `start + len*step`.  So the iteration never
    equals Python's sequence in exactly these cases. -/
theorem range_wrong_on_overflow (start stop step : Int) (h1 : I64 start) (h2 : I64 stop)
    (h3 : I64 step) (hne : step ≠ 0) (hov : ¬ NoOverflow start stop step) :
    (run (pyLen start stop step + 1) (range3 start stop step)).1 =
      pyRange start stop step ++ [wrap (start + (pyLen start stop step : Int) * step)] := by
  unfold NoOverflow at hov
  unfold range3 pyRange
  by_cases hg : Going stop step start
  · obtain ⟨m, hm, hlast, _⟩ := pyLen_going hne hg
    rw [hm] at hov ⊢
    have hc : ((m + 1 : Nat) : Int) = (m : Int) + 1 := by simp
    rw [hc] at hov ⊢
    have hsgn := steps_sign m step
    have e : ((m : Int) + 1) * step = (m : Int) * step + step := by
      rw [Int.add_mul, Int.one_mul]
    rw [e] at hov ⊢
    have hb : I64 (start + (m : Int) * step) := by
      unfold Going at hlast; unfold I64 at h1 h2 ⊢; omega
    have hn : Going stop step (wrap (start + ((m : Int) * step + step))) := by
      rw [← Int.add_assoc] at hov ⊢
      exact going_wrap_of_overflow h2 h3 hb hlast (fun h => hov (.inr h))
    have := run_yield stop step m start 1 hg hlast h1 hb
    rw [e, run_succ_of_some (next?_going hn) 0] at this
    rw [this, ← arith_eq_map]
    simp [run]
  · exact absurd (Or.inl (pyLen_not_going hne hg)) hov

/-- non-vacuity: the D12 witness satisfies the hypotheses, in both directions -/
example : ¬ NoOverflow 9223372036854775806 9223372036854775807 2 ∧
    ¬ NoOverflow (-9223372036854775807) (-9223372036854775808) (-2) := by
  decide

/-- **C18 (two-argument form)**: `range(start, stop)` yields Python's sequence for ALL 64-bit
    `start`, `stop` (no overflow hypothesis: `last + 1 ≤ stop < 2^63`). -/
theorem range2_correct (start stop : Int) (h1 : I64 start) (h2 : I64 stop)
    (fuel : Nat) (hf : pyLen start stop 1 ≤ fuel) :
    (run fuel (range2 start stop)).1 = pyRange start stop 1 ∧
      (run fuel (range2 start stop)).2.next? = none := by
  have hno : NoOverflow start stop 1 := by
    unfold NoOverflow
    by_cases he : start < stop
    · right
      have : pyLen start stop 1 = (stop - start).toNat := by
        simp [pyLen, he]
      rw [this]
      unfold I64 at *
      omega
    · left; exact pyLen_up_empty (by decide) (Int.not_lt.mp he)
  exact range_correct_partial start stop 1 h1 h2 (by unfold I64; decide) (by decide) hno fuel hf

example : I64 (-2) ∧ I64 3 ∧ pyLen (-2) 3 1 ≤ 5 ∧ (run 5 (range2 (-2) 3)).1 = [-2, -1, 0, 1, 2] := by
  decide
/-- boundary: `range(2^63-2, 2^63-1)` -/
example : (run 2 (range2 9223372036854775806 9223372036854775807)).1 = [9223372036854775806] := by
  decide

/-- **C18 (one-argument form)**: `range(stop)` yields `0, 1, …, stop-1` (Python's sequence)
    for ALL 64-bit `stop`. -/
theorem range1_correct (stop : Int) (h : I64 stop) (fuel : Nat) (hf : pyLen 0 stop 1 ≤ fuel) :
    (run fuel (range1 stop)).1 = pyRange 0 stop 1 ∧ (run fuel (range1 stop)).2.next? = none :=
  range2_correct 0 stop (by unfold I64; decide) h fuel hf

example : I64 4 ∧ pyLen 0 4 1 ≤ 4 ∧ (run 4 (range1 4)).1 = [0, 1, 2, 3] ∧ pyRange 0 4 1 = [0, 1, 2, 3] := by
  decide
example : (run 4 (range1 (-4))).1 = [] ∧ pyRange 0 (-4) 1 = [] := by decide

/-- **C18 (comptime form, static size)**: for every comptime `n < 2^63`, `range(n)` carries the
    size annotation `n` and yields exactly the `n` values `0, …, n-1`, then terminates. -/
theorem range_comptime_size (n : Nat) (hn : (n : Int) < 9223372036854775808)
    (fuel : Nat) (hf : n ≤ fuel) :
    (rangeComptime n).size = n ∧
    (run fuel (rangeComptime n).iter).1 = (List.range n).map (fun (i : Nat) => (i : Int)) ∧
    (run fuel (rangeComptime n).iter).1.length = (rangeComptime n).size ∧
    (run fuel (rangeComptime n).iter).2.next? = none := by
  have hI : I64 (n : Int) := ⟨by omega, hn⟩
  have hlen : pyLen 0 (n : Int) 1 = n := by
    by_cases h0 : (0 : Int) < (n : Int)
    · have h0' : 0 < n := by omega
      simp [pyLen, h0']
    · have : n = 0 := by omega
      subst this; decide
  have key := range1_correct (n : Int) hI fuel (by omega)
  have hit : (rangeComptime n).iter = range1 (n : Int) := by
    unfold rangeComptime range1; rw [wrap_id hI]
  rw [hit]
  have hpy : pyRange 0 (n : Int) 1 = (List.range n).map (fun (i : Nat) => (i : Int)) := by
    unfold pyRange; rw [hlen]; apply List.map_congr_left; intro i _; omega
  refine ⟨rfl, by rw [key.1, hpy], ?_, key.2⟩
  rw [key.1, hpy]; simp [rangeComptime]

example : ((5 : Nat) : Int) < 9223372036854775808 ∧ (run 5 (rangeComptime 5).iter).1 = [0, 1, 2, 3, 4] ∧
    (rangeComptime 5).size = 5 := by decide

/-- **C18 (comptime form, sizes ≥ 2^63)**: FALSE of the code.  `stop: nat` is coerced to `int`
    by the no-op `nat.__int__`, so a comptime `n` with `2^63 ≤ n < 2^64` becomes the negative
    stop `n - 2^64`: the iterator is annotated with size `n` but yields nothing. -/
theorem range_comptime_large_empty (n : Nat) (h1 : 9223372036854775808 ≤ (n : Int))
    (h2 : (n : Int) < 18446744073709551616) (fuel : Nat) :
    (rangeComptime n).size = n ∧ (run fuel (rangeComptime n).iter).1 = [] := by
  refine ⟨rfl, ?_⟩
  have hw : wrap (n : Int) = (n : Int) - 18446744073709551616 := by unfold wrap; omega
  unfold rangeComptime
  rw [hw, run_of_none (next?_not_going (by unfold Going; omega))]

example : (9223372036854775808 : Int) ≤ ((9223372036854775808 : Nat) : Int) ∧
    ((9223372036854775808 : Nat) : Int) < 18446744073709551616 ∧
    (run 3 (rangeComptime 9223372036854775808).iter).1 = [] := by decide

end GuppyVerif.Range
