import GuppyVerif.Lemmas.C01LeavesOnly
import GuppyVerif.Lemmas.C01StoreSub
import GuppyVerif.Lemmas.C01VarIdx
/-! # C01 — wiring discipline of `DFContainer.__getitem__` / `__setitem__` (partial)

The theorems cover the pack/unpack discipline of struct and tuple places in
`compiler/core.py` (model: `Model/DFWiring.lean`; vocabulary: `Spec/C01.lean`), for **all** type
trees, place ids, locals maps and wire supplies — structural induction, no bounds.  The rest of
C01 (whole-program HUGR validity) is *not* a Lean theorem; it is searched by the harness-side
structural validator (`harness/props/c01_validate.py`).

The denotation used is independent of the model: `evalOps` interprets the emitted
`MakeTuple`/`UnpackTuple` ops over abstract values (trees of opaque atoms). -/
namespace GuppyVerif.DFWiring

/-- **C01 (setitem stores leaves)**: after `dfg[p] = w` for a non-return place `p : t`, `locals`
    holds exactly the leaf sub-places of `p` (each with a wire created before the new supply),
    no struct/tuple sub-place (so no stale packed value), nothing else changed except that the
    places enclosing `p` were forgotten (repair 32e45a7), and nothing outside `p` was created. -/
theorem setitem_stores_leaves (t : Ty) (L : Locals) (n : Nat) (p : PlaceId) (w : Wire)
    (hw : w.node < n) :
    LeavesOnly (setitem L n p false w t).2.1 (setitem L n p false w t).1 p t ∧
    n ≤ (setitem L n p false w t).2.1 ∧
    (∀ q, ¬ p <:+ q → q ∉ enclosing p → (setitem L n p false w t).1 q = L q) ∧
    (∀ q ∈ enclosing p, (setitem L n p false w t).1 q = none) := by
  obtain ⟨env1, A⟩ := setitem_post t L n p w (fun x => if x = w then some (unitVal t) else none)
    (unitVal t) (by simp) hw (unitVal_hasShape t)
  exact ⟨A.holds.leavesOnly, A.ran.le, A.frame,
    setitem_enclosing_none t L n p w false⟩

/-- non-vacuity: a struct `{q: qubit, n: int, t: (qubit, int)}` stored at variable `7` -/
example :
    let T : Ty := .node .struct [.leaf false false, .leaf true true,
      .node .tuple [.leaf false false, .leaf true true]]
    let r := setitem Locals.empty 5 [7] false ⟨2, 0⟩ T
    r.2 = (7, [.unpack 5 ⟨2, 0⟩ 3, .unpack 6 ⟨5, 2⟩ 2]) ∧
    (places [7] T).map r.1 = [none, some ⟨5, 0⟩, some ⟨5, 1⟩, none, some ⟨6, 0⟩, some ⟨6, 1⟩] := by
  decide

/-- **C01 (pack ∘ unpack = id)**: store a wire denoting `v` (of the shape of `t`) into place
    `p`, then read `p` back: the lookup succeeds, and under the op semantics of `Spec/C01`
    the emitted `UnpackTuple`s followed by the emitted `MakeTuple`s evaluate successfully and the
    returned wire denotes exactly `v` — for every value, type tree, prior `locals` and supply. -/
theorem pack_unpack_inverse (t : Ty) (L : Locals) (n : Nat) (p : PlaceId) (w : Wire) (env : Env)
    (v : Val) (isRet : Bool) (hv : env w = some v) (hw : w.node < n) (hs : v.HasShape t) :
    ∃ w' L2 n2 ops2,
      getitem (setitem L n p isRet w t).1 (setitem L n p isRet w t).2.1 p t = .ok (w', L2, n2, ops2) ∧
      L2 p = some w' ∧
      ∃ env', evalOps env ((setitem L n p isRet w t).2.2 ++ ops2) = some env' ∧ env' w' = some v := by
  cases isRet with
  | true =>
    refine ⟨w, (popEnclosing L p).set p w, n, [], ?_, by simp, env, ?_, hv⟩
    · cases t <;> simp [setitem, getitem]
    · cases t <;> simp [setitem, evalOps]
  | false =>
    obtain ⟨env1, A⟩ := setitem_post t L n p w env v hv hw hs
    obtain ⟨w', L2, n2, ops2, env2, e, B⟩ := getitem_post A.holds
    exact ⟨w', L2, n2, ops2, e, B.cached, env2, (A.ran.append B.ran).eval, B.val⟩

/-- non-vacuity: the hypotheses are satisfiable and the round trip really emits ops -/
example :
    let T : Ty := .node .struct [.leaf false false, .node .tuple [.leaf false false, .leaf true true]]
    let v : Val := .tup [.atom 1, .tup [.atom 2, .atom 3]]
    let env : Env := fun x => if x = ⟨2, 0⟩ then some v else none
    v.HasShape T ∧ env ⟨2, 0⟩ = some v ∧
    okAnd (getitem (setitem Locals.empty 5 [7] false ⟨2, 0⟩ T).1 7 [7] T) (fun r =>
      decide (r.2.2.2 = [.make 7 [⟨6, 0⟩, ⟨6, 1⟩], .make 8 [⟨5, 0⟩, ⟨7, 0⟩]] ∧ r.1 = ⟨8, 0⟩)) = true := by
  refine ⟨by simp [Val.HasShape, HasShapes], by simp, by decide⟩

/-- **C01 (each leaf consumed once, linear places forgotten)**: read a struct/tuple place that
    is stored as leaves (the state `__setitem__` establishes) whose leaf wires are pairwise
    distinct.  Then `__getitem__` succeeds (no `InternalGuppyError`, no `KeyError`), emits only
    `MakeTuple`s, and
    * every leaf wire is consumed by exactly one `MakeTuple` input;
    * every intermediate `MakeTuple` result is fresh (created at or after the old supply);
    * afterwards every *linear* proper sub-place (leaf or nested struct/tuple) is no longer in
      `locals`, while non-linear leaves keep their wire (as the Python does — this includes
      affine leaves, which `child.ty.linear` does not select);
    * the place itself is cached under the returned wire. -/
theorem linear_leaf_once (k : Kind) (cs : List Ty) (L : Locals) (n : Nat) (p : PlaceId)
    (h : LeavesOnly n L p (.node k cs)) (hnd : (leafWires L p (.node k cs)).Nodup) :
    ∃ w' L2 n2 ops, getitem L n p (.node k cs) = .ok (w', L2, n2, ops) ∧
      L2 p = some w' ∧ n ≤ w'.node ∧
      (∀ op ∈ ops, ∃ u ins, op = Op.make u ins) ∧
      (∀ x ∈ produced ops, n ≤ x.node) ∧
      (∀ s c d x, (Ty.node k cs).at s = some (.leaf c d) → L (sub p s) = some x →
        (consumed ops).count x = 1 ∧
        ((Ty.leaf c d).linear = true → L2 (sub p s) = none) ∧
        ((Ty.leaf c d).linear = false → L2 (sub p s) = some x)) ∧
      (∀ s t', s ≠ [] → (Ty.node k cs).at s = some t' → t'.linear = true → L2 (sub p s) = none) := by
  have hh := LeavesOnly.holds (.node k cs) p h
  obtain ⟨w', L2, n2, ops, _, e, G⟩ := getitem_post hh
  have C : AcctOk L n p _ w' L2 n2 ops := getitem_acct _ L n p unitEnv _ _ hh e
  refine ⟨w', L2, n2, ops, e, G.cached, C.newWire rfl, C.makes, fun x hx => (C.fresh x hx).1, ?_, ?_⟩
  · intro s c d x hat hx
    have hs : s ≠ [] := by rintro rfl; simp [Ty.at] at hat
    exact ⟨getitem_leaf_once hh e hnd hat hx, (C.after s _ hs hat).1,
      fun hlin => by rw [(C.after s _ hs hat).2 hlin rfl]; exact hx⟩
  · intro s t' hs hat hlin
    exact (C.after s t' hs hat).1 hlin

/-- non-vacuity: `{q: qubit, n: int, t: (qubit, int)}` stored as leaves with distinct wires -/
example :
    let T : Ty := .node .struct [.leaf false false, .leaf true true,
      .node .tuple [.leaf false false, .leaf true true]]
    let L := (setitem Locals.empty 5 [7] false ⟨2, 0⟩ T).1
    (leafWires L [7] T).Nodup ∧ leafWires L [7] T = [⟨5, 0⟩, ⟨5, 1⟩, ⟨6, 0⟩, ⟨6, 1⟩] ∧
    okAnd (getitem L 7 [7] T) (fun r =>
      decide (consumed r.2.2.2 = [⟨6, 0⟩, ⟨6, 1⟩, ⟨5, 0⟩, ⟨5, 1⟩, ⟨7, 0⟩] ∧
        (places [7] T).map r.2.1 = [some ⟨8, 0⟩, none, some ⟨5, 1⟩, none, none, some ⟨6, 1⟩])) = true := by
  decide

/-- **C01 (no stale packed value, repair 32e45a7)**: pack a struct (caching its wire), assign a
    new wire to one of its fields, read the struct again: the second read does *not* return the
    cached wire — the enclosing entries are gone after the assignment, for any place and type. -/
theorem setitem_invalidates_enclosing (t : Ty) (L : Locals) (n : Nat) (p : PlaceId) (w : Wire)
    (isRet : Bool) : ∀ q ∈ enclosing p, (setitem L n p isRet w t).1 q = none :=
  setitem_enclosing_none t L n p w isRet

/-- non-vacuity / regression for the defect witness: `s = {q: qubit, y: int}`; pack `s`,
    assign `s.q := ⟨9,0⟩`, pack again: the new MakeTuple consumes the new wire `⟨9,0⟩`
    (before the repair the second read returned the cached `⟨6,0⟩`). -/
example :
    let S : Ty := .node .struct [.leaf false false, .leaf true true]
    let L0 := (setitem Locals.empty 5 [7] false ⟨2, 0⟩ S).1
    okAnd (getitem L0 6 [7] S) (fun r1 =>
      decide (r1.1 = ⟨6, 0⟩) &&
      okAnd (getitem (setitem r1.2.1 10 [0, 7] false ⟨9, 0⟩ (.leaf false false)).1 10 [7] S)
        (fun r2 => decide (r2.2.2.2 = [.make 10 [⟨9, 0⟩, ⟨5, 1⟩]] ∧ r2.1 = ⟨10, 0⟩))) = true := by
  decide

/-- **C01 (DFContainer is a correct store, any script)**: take any sequence of assignments to and
    reads of sub-places of a variable `r : T` that the reference semantics `RefRun` of `Spec/C01`
    accepts (assigned wires are old and carry values of the right shape; every read finds its
    place fully defined — i.e. the sequence respects ownership: a read moves the non-copyable leaves
    out).  Then the model run never fails, and under the op interpreter the wires returned by the
    reads denote exactly the values the reference semantics predicts — whatever mixture of cached
    packed wires, re-assigned fields and moved leaves the script produces.  (This is the statement
    that was false before repair 32e45a7.) -/
theorem store_script_correct (T : Ty) (r : PlaceId) (hr : r ≠ []) (env0 : Env) (n0 : Nat)
    (script : List SOp) (vs : List Val) (h : RefRun T env0 n0 script (blank T) vs) :
    ∃ ws L n ops, runScript T r script Locals.empty n0 = .ok (ws, L, n, ops) ∧
      ∃ env', evalOps env0 ops = some env' ∧ env'.all ws = some vs := by
  obtain ⟨ws, L2, n2, ops, env2, e, R, hall⟩ :=
    runScript_good T r hr env0 n0 script _ vs _ n0 env0 h (blank_good n0 env0 T r) (.refl env0 n0)
  exact ⟨ws, L2, n2, ops, e, env2, R.eval, hall⟩

/-- non-vacuity: the defect-witness script `s = w0; read s; s.q = w1; read s` on
    `s : {q: qubit, y: int}` is accepted by the reference semantics, which predicts that the
    second read sees the new qubit -/
example :
    let T : Ty := .node .struct [.leaf false false, .leaf true true]
    let env0 : Env := fun x =>
      if x = ⟨2, 0⟩ then some (.tup [.atom 1, .atom 2]) else if x = ⟨2, 1⟩ then some (.atom 9) else none
    RefRun T env0 5 [.set [] ⟨2, 0⟩, .get [], .set [0] ⟨2, 1⟩, .get []] (blank T)
      [.tup [.atom 1, .atom 2], .tup [.atom 9, .atom 2]] := by
  intro T env0
  refine RefRun.set (t' := T) (v := .tup [.atom 1, .atom 2]) rfl rfl (by decide)
    (by simp [T, Val.HasShape, HasShapes]) ?_
  refine RefRun.get (t' := T) (pv' := .tup [.val (.atom 1), .val (.atom 2)]) rfl rfl rfl ?_
  refine RefRun.set (t' := .leaf false false) (v := .atom 9) rfl rfl (by decide)
    (by simp [Val.HasShape]) ?_
  refine RefRun.get (t' := T) (pv' := .tup [.val (.atom 9), .val (.atom 2)]) rfl rfl rfl ?_
  exact RefRun.nil _

end GuppyVerif.DFWiring

/-! ## Variable scoping under partial monomorphization (model `Model/DFVarIdx.lean`) -/
namespace GuppyVerif.DFVarIdx

/-- **C01 (body variables are bound by the signature)**: inside a partially monomorphised function
    every Guppy parameter that stays generic is lowered (`type_var_to_hugr` / `const_var_to_hugr`) to a
    HUGR variable whose de Bruijn index is in range of the parameter list that `instantiate_partial`
    gives the `FuncDefn`, and that list has *the same Guppy parameter* at that position (so kind and
    bound agree) — for every parameter list and every choice of monomorphised parameters. -/
theorem var_bound_by_signature (mono : List Bool) (idx : Nat) (h : mono[idx]? = some false) :
    ∃ j, varToHugr (some mono) idx = .var j ∧ j < (remaining mono).length ∧
      (remaining mono)[j]? = some idx := by
  refine ⟨countKept (mono.take idx), by simp [varToHugr, compileVariableIdx, h], ?_, ?_⟩
  · exact (List.getElem?_eq_some_iff.mp (remainingFrom_get mono 0 idx h)).1
  · simpa [remaining] using remainingFrom_get mono 0 idx h

/-- non-vacuity, and the shape the seeded defect breaks: `pick(k: int @comptime, xs: array[int, n])`
    has `mono = [true, false]`; `n` (Guppy index 1) must become HUGR variable 0, the only bound one -/
example : varToHugr (some [true, false]) 1 = .var 0 ∧ remaining [true, false] = [1] ∧
    varToHugr (some [false, true, false, true, false]) 4 = .var 2 ∧
    remaining [false, true, false, true, false] = [0, 2, 4] := by decide

/-- **C01 (distinct generic parameters stay distinct)**: two kept parameters are never lowered to the
    same HUGR variable. -/
theorem var_indices_injective (mono : List Bool) (i k : Nat) (hi : mono[i]? = some false)
    (hk : mono[k]? = some false) (h : varToHugr (some mono) i = varToHugr (some mono) k) : i = k := by
  obtain ⟨j1, e1, _, g1⟩ := var_bound_by_signature mono i hi
  obtain ⟨j2, e2, _, g2⟩ := var_bound_by_signature mono k hk
  rw [e1, e2] at h
  simp only [Lowered.var.injEq] at h
  subst h
  rw [g1] at g2
  exact Option.some.inj g2

example : varToHugr (some [false, true, false]) 0 ≠ varToHugr (some [false, true, false]) 2 := by decide

/-- **C01 (monomorphised parameters leave no variable behind)** -/
theorem mono_param_replaced (mono : List Bool) (idx : Nat) (h : mono[idx]? = some true) :
    varToHugr (some mono) idx = .arg := by
  simp [varToHugr, h]

example : varToHugr (some [true, false]) 0 = .arg := by decide

end GuppyVerif.DFVarIdx
