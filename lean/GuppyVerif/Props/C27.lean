import GuppyVerif.Lemmas.C27PQ
/-! # C27 — Stack and PriorityQueue follow their reference models

The model (`Stack`, `PQ`, `runStack`, `runPQ`, `Model/Coll.lean`) mirrors the Guppy source including
every take/swap/unwrap error branch.  All theorems are for every capacity `cap`, element type `α`, state and script — no bound. -/
namespace GuppyVerif.Coll
variable {α : Type}

/-- **C27 (Stack is a LIFO list)**: for every capacity and every script of push/pop/peek/len/next,
    the results of the model started on `empty_stack()` equal those of the reference LIFO list
    machine — including the three panics and the fact that nothing else ever panics. -/
theorem stack_refines_list (cap : Nat) (ops : List (Op α)) :
    runStack cap (Stack.empty cap) ops = specStack cap [] ops := by
  simpa using runStack_eq_spec cap ops _ _ (StackRep.empty cap)

/-- **C27 (Stack, from any state satisfying the documented invariant)**: if the first `end` cells
    are `some` and the rest `nothing`, the stack behaves as the LIFO list of its stored entries
    (top = last stored). -/
theorem stack_refines_list_inv (cap : Nat) (s : Stack α) (h : Slots cap s.buf s.end_) (ops : List (Op α)) :
    runStack cap s ops = specStack cap (entries s.buf).reverse ops :=
  runStack_eq_spec cap ops s _ h.stackRep

/-- **C27 (invariant, base)**: `empty_priority_queue()` satisfies the invariant. -/
theorem pq_inv_empty (cap : Nat) : PQ.Inv cap (PQ.empty cap : PQ α) :=
  ((PQRep.empty cap).inv (fun j _ hj => absurd hj (by simp))).1

/-- **C27 (push)**: in a state satisfying the invariant (slots + heap order), `push` below capacity
    succeeds, re-establishes the invariant, increments `size` and adds exactly the pushed entry to the
    multiset of stored entries; at capacity it panics with "max size reached". -/
theorem pq_push_spec (cap : Nat) (q : PQ α) (v : α) (p : Int) (h : PQ.Inv cap q) :
    (q.size < cap → ∃ q', q.push cap v p = .ok q' ∧ PQ.Inv cap q' ∧ q'.size = q.size + 1 ∧
        (entries q'.buf).Perm ((p, v) :: entries q.buf)) ∧
    (cap ≤ q.size → q.push cap v p = .error .capacity) := by
  refine ⟨fun hl => ?_, fun hl => PQ.push_of_full hl v p⟩
  obtain ⟨hr, _⟩ := inv_iff.mp h
  obtain ⟨q', _, hp, _⟩ := hr.push_ok (hr.1 ▸ hl) v p
  exact ⟨q', hp, h.of_push hp⟩

/-- **C27 (pop)**: in a state satisfying the invariant, `pop` on a non-empty queue succeeds and returns
    an entry of minimal priority among the stored entries, removes exactly that entry from the multiset,
    decrements `size` and re-establishes the invariant; on an empty queue it panics with "is empty". -/
theorem pq_pop_spec (cap : Nat) (q : PQ α) (h : PQ.Inv cap q) :
    (0 < q.size → ∃ p v q', q.pop = .ok (p, v, q') ∧ PQ.Inv cap q' ∧ q'.size = q.size - 1 ∧
        IsMinOf (p, v) (entries q.buf) ∧ (entries q.buf).Perm ((p, v) :: entries q'.buf)) ∧
    (q.size = 0 → q.pop = .error .empty) := by
  refine ⟨fun hl => ?_, PQ.pop_of_empty⟩
  obtain ⟨hr, _⟩ := inv_iff.mp h
  obtain ⟨r, hr0⟩ := hr.root hl
  obtain ⟨q', _, hp, _⟩ := hr.pop_ok hr0
  exact ⟨r.1, r.2, q', hp, h.of_pop hp⟩

/-- **C27 (peek)**: `peek` on a non-empty queue returns an entry of minimal priority and leaves the
    queue unchanged; on an empty queue it panics with "is empty". -/
theorem pq_peek_spec (cap : Nat) (q : PQ α) (h : PQ.Inv cap q) :
    (0 < q.size → ∃ p v, q.peek = .ok (p, v, q) ∧ IsMinOf (p, v) (entries q.buf)) ∧
    (q.size = 0 → q.peek = .error .empty) := by
  refine ⟨fun hl => ?_, PQ.peek_of_empty⟩
  obtain ⟨hr, _⟩ := inv_iff.mp h
  obtain ⟨r, hr0⟩ := hr.root hl
  exact ⟨r.1, r.2, hr.peek_ok hr0, (h.of_peek (hr.peek_ok hr0)).2⟩

/-- **C27 (`pq_inv`)**: every state reachable from `empty_priority_queue()` by successful
    push/pop/peek operations satisfies the invariant: the first `size` cells are `some`, the others
    `nothing`, and the stored prefix is heap-ordered (induction over the operation history). -/
theorem pq_inv (cap : Nat) (q : PQ α) (h : PQ.Reachable cap q) : PQ.Inv cap q := by
  induction h with
  | empty => exact pq_inv_empty cap
  | push _ hp ih => exact (ih.of_push hp).1
  | pop _ hp ih => exact (ih.of_pop hp).1
  | peek _ hp ih => exact (ih.of_peek hp).1 ▸ ih

/-- **C27 (`pq_pop_min`)**: in every reachable state, whatever `pop` or `peek` returns is a stored
    entry whose priority is minimal among all stored entries. -/
theorem pq_pop_min (cap : Nat) (q q' : PQ α) (p : Int) (v : α) (h : PQ.Reachable cap q)
    (hp : q.pop = .ok (p, v, q') ∨ q.peek = .ok (p, v, q')) : IsMinOf (p, v) (entries q.buf) := by
  have hinv := pq_inv cap q h
  rcases hp with hp | hp
  · exact (hinv.of_pop hp).2.2.1
  · exact (hinv.of_peek hp).2

/-- **C27 (`pq_multiset`)**: in every reachable state a successful `push` adds exactly the pushed
    entry to the multiset of stored entries, a successful `pop` removes exactly the returned one, and
    `peek` changes nothing. -/
theorem pq_multiset (cap : Nat) (q q' : PQ α) (p : Int) (v : α) (h : PQ.Reachable cap q) :
    (q.push cap v p = .ok q' → (entries q'.buf).Perm ((p, v) :: entries q.buf)) ∧
    (q.pop = .ok (p, v, q') → (entries q.buf).Perm ((p, v) :: entries q'.buf)) ∧
    (q.peek = .ok (p, v, q') → q' = q) := by
  have hinv := pq_inv cap q h
  exact ⟨fun hp => (hinv.of_push hp).2.2, fun hp => (hinv.of_pop hp).2.2.2,
    fun hp => (hinv.of_peek hp).1⟩

/-- **C27 (`capacity_panics`)**: with the documented slots invariant, `push` panics iff the
    collection is full, and then with the "max size reached" panic (Stack and PriorityQueue); heap
    order is not needed for this. -/
theorem capacity_panics (cap : Nat) :
    (∀ (s : Stack α) (x : α), Slots cap s.buf s.end_ →
      ((∃ e, s.push cap x = .error e) ↔ cap ≤ s.end_) ∧ (cap ≤ s.end_ → s.push cap x = .error .capacity)) ∧
    (∀ (q : PQ α) (v : α) (p : Int), Slots cap q.buf q.size →
      ((∃ e, q.push cap v p = .error e) ↔ cap ≤ q.size) ∧ (cap ≤ q.size → q.push cap v p = .error .capacity)) := by
  refine ⟨fun s x hs => ⟨Except.exists_error_iff (Stack.push_of_full · x) fun hc => ?_, (Stack.push_of_full · x)⟩,
    fun q v p hs => ⟨Except.exists_error_iff (PQ.push_of_full · v p) fun hc => ?_, (PQ.push_of_full · v p)⟩⟩
  · obtain ⟨s', hp, _⟩ := hs.stackRep.push_ok (hs.stackRep.1 ▸ Nat.lt_of_not_le hc) x
    exact ⟨s', hp⟩
  · obtain ⟨q', _, hp, _⟩ := hs.pqRep.push_ok (hs.pqRep.1 ▸ Nat.lt_of_not_le hc) v p
    exact ⟨q', hp⟩

/-- **C27 (`empty_panics`)**: with the documented slots invariant, `pop` and `peek` panic iff the
    collection is empty, and then with the "is empty" panic (Stack and PriorityQueue). -/
theorem empty_panics (cap : Nat) :
    (∀ (s : Stack α), Slots cap s.buf s.end_ →
      ((∃ e, s.pop = .error e) ↔ s.end_ = 0) ∧ ((∃ e, s.peek = .error e) ↔ s.end_ = 0) ∧
      (s.end_ = 0 → s.pop = .error .empty ∧ s.peek = .error .empty)) ∧
    (∀ (q : PQ α), Slots cap q.buf q.size →
      ((∃ e, q.pop = .error e) ↔ q.size = 0) ∧ ((∃ e, q.peek = .error e) ↔ q.size = 0) ∧
      (q.size = 0 → q.pop = .error .empty ∧ q.peek = .error .empty)) := by
  constructor
  · intro s hs
    have hN : ¬ s.end_ = 0 → (∃ r, s.pop = .ok r) ∧ (∃ r, s.peek = .ok r) := by
      intro h0
      have hrep := hs.stackRep
      rcases List.nil_or_snoc (entries s.buf) with hn | ⟨b, x, hb⟩
      · rw [hn] at hrep; exact absurd hrep.1 h0
      · rw [hb] at hrep
        obtain ⟨⟨s', hp, _, _⟩, hpk⟩ := hrep.pop_ok
        exact ⟨⟨_, hp⟩, ⟨_, hpk⟩⟩
    exact ⟨Except.exists_error_iff Stack.pop_of_empty fun h0 => (hN h0).1,
      Except.exists_error_iff Stack.peek_of_empty fun h0 => (hN h0).2,
      fun h0 => ⟨Stack.pop_of_empty h0, Stack.peek_of_empty h0⟩⟩
  · intro q hs
    have hN : ¬ q.size = 0 → (∃ r, q.pop = .ok r) ∧ (∃ r, q.peek = .ok r) := by
      intro h0
      obtain ⟨r, hr0⟩ := hs.pqRep.root (Nat.pos_of_ne_zero h0)
      obtain ⟨q', _, hp, _⟩ := hs.pqRep.pop_ok hr0
      exact ⟨⟨_, hp⟩, ⟨_, hs.pqRep.peek_ok hr0⟩⟩
    exact ⟨Except.exists_error_iff PQ.pop_of_empty fun h0 => (hN h0).1,
      Except.exists_error_iff PQ.peek_of_empty fun h0 => (hN h0).2,
      fun h0 => ⟨PQ.pop_of_empty h0, PQ.peek_of_empty h0⟩⟩

/-- **C27 (PriorityQueue refines the multiset reference model)**: for every capacity and every
    script, the results of the model started on `empty_priority_queue()` are results the reference
    model allows — a multiset from which pop/peek/next return some entry of minimal priority, pop/next
    remove exactly it, push adds exactly one, with exactly the documented panics (lifting of the one-step
    theorems to all operation sequences by induction over the script). -/
theorem pq_refines_multiset (cap : Nat) (ops : List (Op α)) :
    SpecPQ cap [] ops (runPQ cap (PQ.empty cap) ops) :=
  runPQ_spec cap ops _ [] [] (PQRep.empty cap) (fun j _ hj => absurd hj (by simp)) (List.Perm.refl _)

/-- **C27 (PriorityQueue refines the multiset model from any invariant state)**: the same from any
    state satisfying the invariant, the multiset being the entries stored in the buffer. -/
theorem pq_refines_multiset_inv (cap : Nat) (q : PQ α) (h : PQ.Inv cap q) (ops : List (Op α)) :
    SpecPQ cap (entries q.buf) ops (runPQ cap q ops) := by
  obtain ⟨hr, hh⟩ := inv_iff.mp h
  exact runPQ_spec cap ops q _ _ hr hh (List.Perm.refl _)

/-- **C27 (fuel suffices)**: the fuel bound of the model's loops is never hit in a state with the
    slots invariant (a fortiori in reachable states): the loops of the source terminate there. -/
theorem pq_fuel_suffices (cap : Nat) (q : PQ α) (v : α) (p : Int) (h : Slots cap q.buf q.size) :
    q.push cap v p ≠ .error .fuel ∧ q.pop ≠ .error .fuel :=
  ⟨push_ne_fuel cap q v p, pop_ne_fuel q⟩

/-- **C27 (fuel suffices, unconditionally)**: on ANY state (invariant or not) `push` and `pop` never
    run out of loop fuel: the sift-up index strictly decreases and the sift-down hole index strictly
    increases, so the source's loops terminate within `size + 1` iterations. -/
theorem pq_fuel_unconditional (cap : Nat) (q : PQ α) (v : α) (p : Int) :
    q.push cap v p ≠ .error .fuel ∧ q.pop ≠ .error .fuel :=
  ⟨push_ne_fuel cap q v p, pop_ne_fuel q⟩

/-- **C27 (iteration yields priority order)**: iterating a queue that satisfies the invariant
    (`for e in q`, i.e. `__next__` until `nothing`) yields all stored entries — a permutation of them —
    in non-decreasing priority order, and ends by discarding the empty queue without panic. -/
theorem pq_iter_sorted (cap : Nat) : ∀ (n : Nat) (q : PQ α), PQ.Inv cap q → q.size = n →
    ∃ l, PQ.iterAll (n + 1) q = .ok l ∧ l.Perm (entries q.buf) ∧ l.Pairwise (fun a b => a.1 ≤ b.1) := by
  intro n
  induction n with
  | zero =>
    intro q h hn
    obtain ⟨hr, _⟩ := inv_iff.mp h
    have he : entries q.buf = [] := List.eq_nil_of_length_eq_zero (by rw [← hr.1]; exact hn)
    rw [he] at hr
    refine ⟨[], ?_, by rw [he], List.Pairwise.nil⟩
    rw [iterAll_succ]
    simp [hr.next_empty]
  | succ n ih =>
    intro q h hn
    obtain ⟨p, v, q', hp, hinv', hs', hmin, hperm⟩ := (pq_pop_spec cap q h).1 (by omega)
    obtain ⟨l, hl, hlp, hls⟩ := ih q' hinv' (by omega)
    refine ⟨(p, v) :: l, ?_, ?_, ?_⟩
    · rw [iterAll_succ]
      simp only [next_of_pop hp, hl, Except.ok_bind, Except.pure_eq_ok]
    · exact (hlp.cons _).trans hperm.symm
    · refine List.Pairwise.cons (fun x hx => ?_) hls
      exact hmin.2 x (hperm.mem_iff.mpr (List.mem_cons_of_mem _ (hlp.mem_iff.mp hx)))

/-! ## Non-vacuity: concrete instances -/

/-- the stack script push 1, push 2, peek, pop, pop, pop on capacity 2 (model = list machine) -/
example : runStack 2 (Stack.empty 2) [.push 1 0, .push 2 0, .peek, .pop, .pop, .pop] =
    ([.unit, .unit, .val 0 2, .val 0 2, .val 0 1, .panic .empty] : List (Res Nat)) := by decide

/-- a reachable non-trivial queue state: after pushing priorities 5, 3, 4 the root holds 3 -/
example : ∃ q : PQ Nat, PQ.Reachable 4 q ∧ q.size = 3 ∧ q.peek = .ok (3, 11, q) :=
  ⟨_, .push (v := 12) (p := 4) (.push (v := 11) (p := 3) (.push (v := 10) (p := 5) .empty rfl) rfl) rfl,
    rfl, rfl⟩

/-- a full queue in heap order: popping it sifts the last entry down from the root -/
example : (⟨[some (1, 0), some (3, 1), some (2, 2)], 3⟩ : PQ Nat).pop =
    .ok (1, 0, ⟨[some (2, 2), some (3, 1), none], 2⟩) := rfl

/-- iteration instance: priorities 5, 3, 4 come out as 3, 4, 5 -/
example : PQ.iterAll 4 (⟨[some (3, 11), some (5, 10), some (4, 12), none], 3⟩ : PQ Nat) =
    .ok [(3, 11), (4, 12), (5, 10)] := rfl

example : (⟨[some (1, 0)], 1⟩ : PQ Nat).push 1 7 0 = .error .capacity := rfl

end GuppyVerif.Coll
