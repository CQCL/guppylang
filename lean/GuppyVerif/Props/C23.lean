import GuppyVerif.Lemmas.C23
/-! # C23 — Comptime tracing leaves the user's module untouched

`exec` (Model/MockBuiltins.lean) mirrors `mock_builtins`
(save / update / finally: delete-or-restore) on insertion-ordered dicts and the way
`trace_function` brackets the user's Python function with it; programs are arbitrary trees of
nested traces over any modules, raise points inside bodies, rejected return values (raised
after the mocks were removed) and caught nested compilations. -/
namespace GuppyVerif.MockBuiltins

open Spec

/-- **C23 (one bracket)**: whatever subset of `int`, `float`, `len` the user bound, saving,
    installing the mocks and running the `finally` block gives back exactly the same dict —
    same keys in the same order, same values, absent names absent again — and no `del`
    raises KeyError. -/
theorem mock_bracket_exact (g : Globals) (h : WF g) :
    restore (save g) (updateAll mockDict g) = (g, true) :=
  restore_save g h

/-- **C23 (globals restored)**: for every tree of (nested) traces, every raise point and every
    rejected return value, all modules are exactly what they were before (function equality on
    ordered dicts: order, values and absence). -/
theorem globals_restored (K : Nat) (p : Prog) (σ : Mods) (h : ∀ j, WF (σ j)) :
    (exec K p σ).mods = σ :=
  congrArg Result.mods (exec_eq_nil K p σ h)

/-- **C23 (dynamic extent)**: what any observer sees at any point of any such tree is given by a
    state-free reading: `int/float/len` of module `j` are the mocks exactly while a trace of a
    function of module `j` is in progress, and the user's own bindings (or absent) otherwise;
    exceptions escape exactly as in that reading. -/
theorem view_is_dynamic_extent (K : Nat) (p : Prog) (σ₀ : Mods) (h : ∀ j, WF (σ₀ j)) :
    (exec K p σ₀).trace = (denote K σ₀ [] p).1 ∧ (exec K p σ₀).raised = (denote K σ₀ [] p).2 :=
  have e := exec_eq_nil K p σ₀ h
  ⟨congrArg Result.trace e, congrArg Result.raised e⟩

/-! Module 0 binds `int` (between two other names), module 1 binds nothing
    relevant; nested trace of module 1 inside module 0 inside module 0, the inner one raising,
    the outer one returning a rejected value. -/
def exG0 : Globals :=
  ⟨[.other 0, .int, .other 1], fun n => if n = .other 0 then some (.user 0) else if n = .int then some (.user 1)
      else if n = .other 1 then some (.user 2) else none⟩
def exG1 : Globals := ⟨[.other 0], fun n => if n = .other 0 then some (.user 0) else none⟩
def exMods : Mods := fun j => if j = 0 then exG0 else exG1
def exProg : Prog :=
  .trace 0 (.seq .probe (.seq (.catch (.trace 0 (.trace 1 (.seq .probe .raise) true) true)) .probe)) false

example : WF exG0 ∧ WF exG1 := by
  refine ⟨⟨by decide, ?_⟩, ⟨by decide, ?_⟩⟩ <;> intro n <;> cases n <;> simp [exG0, exG1] <;>
    (rename_i k; by_cases h0 : k = 0 <;> by_cases h1 : k = 1 <;> simp [h0, h1])

example : (exec 2 exProg exMods).raised = true ∧
    ((exec 2 exProg exMods).mods 0).items = exG0.items ∧
    ((exec 2 exProg exMods).mods 1).items = exG1.items ∧
    (exec 2 exProg exMods).trace =
      [[[some (.mock .int), some (.mock .float), some (.mock .len)], [none, none, none]],
       [[some (.mock .int), some (.mock .float), some (.mock .len)],
        [some (.mock .int), some (.mock .float), some (.mock .len)]],
       [[some (.mock .int), some (.mock .float), some (.mock .len)], [none, none, none]]] := by
  decide

/-- inside the bracket the new names sit at the end of the dict, in `mock` literal order -/
example : (updateAll mockDict exG0).order = [.other 0, .int, .other 1, .float, .len] := by decide

end GuppyVerif.MockBuiltins
