import GuppyVerif.Lemmas.C28
/-! # C28 — Emulator configurations are immutable and reproducible

`step true` (Model/EmuConfig.lean) is `EmulatorInstance` after the
repair of D10; `step false` is the original code.  Histories are arbitrary lists of
`newSim` / `newComp` (user builds a simulator / component object), `derive i d` (any `with_*` /
`*_sim` method on any instance created so far), `run i`, `bderive i d` (any `with_*` method on any
builder created so far) and `build i n`.  The behaviour of an instance is `view`: the arguments its
`run()` would hand to `SeleneInstance.run_shots`, simulator object by content
(class, `random_seed`). -/
namespace GuppyVerif.EmuConfig

open Spec

theorem WF_initial (n : Nat) : WF (initial n) := by
  refine ⟨by simp [initial], ?_⟩
  intro c hc; simp [initial] at hc; subst hc; simp [initial, defaultInst]

theorem LogOK_initial (n : Nat) : LogOK (initial n) := by
  intro e he; simp [initial] at he

/-- **C28 (immutability)**: take any history from a fresh instance and builder, stop anywhere
    (`s₁`), continue with any further history (`s₂`): every instance that existed at `s₁` would
    still run with exactly the same arguments on the same `SeleneInstance` (same build arguments). -/
theorem derive_preserves_earlier (n : Nat) (ops₁ ops₂ : List Op) (s₁ s₂ : State)
    (h₁ : runOps true (initial n) ops₁ = some s₁) (h₂ : runOps true s₁ ops₂ = some s₂)
    (j : Nat) (hj : j < s₁.insts.length) :
    view s₂ j = view s₁ j ∧ originArgs s₂ j = originArgs s₁ j ∧ (view s₁ j).isSome = true := by
  obtain ⟨hw₁, _⟩ := runOps_fixed ops₁ (initial n) s₁ (WF_initial n) h₁
  obtain ⟨_, e⟩ := runOps_fixed ops₂ s₁ s₂ hw₁ h₂
  exact ⟨view_stable s₁ s₂ hw₁ e j hj, originArgs_stable s₁ s₂ hw₁ e j hj, view_isSome s₁ hw₁ j hj⟩

/-- **C28 (builder immutability)**: in the same setting every *builder* that existed at `s₁` would
    still pass exactly the same arguments to `selene_sim.build`, and (previous theorem) every
    instance built from it is unchanged — whatever was derived from it, built or run afterwards. -/
theorem builder_derive_preserves_earlier (n : Nat) (ops₁ ops₂ : List Op) (s₁ s₂ : State)
    (h₁ : runOps true (initial n) ops₁ = some s₁) (h₂ : runOps true s₁ ops₂ = some s₂)
    (j : Nat) (hj : j < s₁.builders.length) :
    bview s₂ j = bview s₁ j ∧ (bview s₁ j).isSome = true ∧
    (∀ e ∈ s₁.blog, e ∈ s₂.blog) ∧
    (∀ i, i < s₁.insts.length → view s₂ i = view s₁ i ∧ originArgs s₂ i = originArgs s₁ i) := by
  obtain ⟨hw₁, _⟩ := runOps_fixed ops₁ (initial n) s₁ (WF_initial n) h₁
  obtain ⟨_, e⟩ := runOps_fixed ops₂ s₁ s₂ hw₁ h₂
  refine ⟨bview_stable s₁ s₂ e j hj, ?_, ?_, fun i hi =>
    ⟨view_stable s₁ s₂ hw₁ e i hi, originArgs_stable s₁ s₂ hw₁ e i hi⟩⟩
  · simp [bview, List.getElem?_eq_getElem hj]
  · obtain ⟨x, hx⟩ := e.blog
    intro b hb; rw [hx]; exact List.mem_append_left _ hb

/-- **C28 (reproducibility)**: in any history, all runs of the same instance — whatever was
    derived or run in between — pass identical arguments, equal to what the instance shows at
    the end; with a fixed seed the simulator's effective seed is definite (selene prefers the
    component's own `random_seed`, else `random_seed=`). -/
theorem run_reproducible (n : Nat) (ops : List Op) (s : State)
    (h : runOps true (initial n) ops = some s) (j : Nat) (a b : RunArgs)
    (ha : (j, a) ∈ s.log) (hb : (j, b) ∈ s.log) :
    a = b ∧ view s j = some a ∧ (∀ v, a.seed = some v → a.effSimSeed.isSome = true) := by
  have hl := runOps_logOK ops (initial n) s (WF_initial n) (LogOK_initial n) h
  have h1 := (hl _ ha).2
  have h2 := (hl _ hb).2
  simp only at h1 h2
  refine ⟨Option.some.inj (h1.symm.trans h2), h1, ?_⟩
  intro v hv
  unfold RunArgs.effSimSeed
  cases a.simSeed <;> simp [hv]

/-- **C28 (a derivation is a pure function of the parent's behaviour)**: the new instance shows
    `applyD` of what the parent shows — with `with_simulator`'s object taken by content — so the
    behaviour of every instance is the fold of its derivation path from the base instance. -/
theorem derive_is_pure (s s' : State) (i : Nat) (d : Deriv) (hw : WF s)
    (hs : step true s (.derive i d) = some s') :
    view s' s.insts.length =
      ((view s i).bind fun a => applyD (fun k => s.heap[k]?) (fun k => s.comps[k]?) a d) ∧
    originArgs s' s.insts.length = originArgs s i :=
  ⟨(derive_step_pure s s' i d hw hs).1, (derive_step_pure s s' i d hw hs).2.1⟩

/-- **C28 (builder path, then instance path)**: start anywhere in any history (`s`), follow a builder
    derivation path `bp` from builder `b`, `build(pkg, n)`, then follow an instance derivation path
    `ip` from the built instance — with arbitrary other operations on any builder or instance before
    every step (`junk`).  The final instance runs with `foldD ip (defaults n)` on a `SeleneInstance`
    built with `foldl applyB bp (what b showed)`: a pure function of the two paths. -/
theorem build_then_derive_pure (n₀ : Nat) (ops : List Op) (s s₁ s₂ s₃ sf : State) (b b' n j : Nat)
    (B : BuildArgs) (bp : List (List Op × BDeriv)) (junk : List Op) (ip : List (List Op × Deriv))
    (h₀ : runOps true (initial n₀) ops = some s) (hb : bview s b = some B)
    (h₁ : chainB s b bp = some (s₁, b')) (h₂ : runOps true s₁ junk = some s₂)
    (h₃ : step true s₂ (.build b' n) = some s₃) (h₄ : chainD s₃ s₂.insts.length ip = some (sf, j)) :
    (∃ r, view sf j = some r ∧
      foldD (fun k => sf.heap[k]?) (fun k => sf.comps[k]?) (defaultArgs n) (ip.map (·.2)) = some r) ∧
    originArgs sf j = some (some ((bp.map (·.2)).foldl applyB B)) := by
  obtain ⟨hw, _⟩ := runOps_fixed ops (initial n₀) s (WF_initial n₀) h₀
  have cb := chainB_pure bp s s₁ b b' B hw hb h₁
  obtain ⟨hw₂, e₂⟩ := runOps_fixed junk s₁ s₂ cb.wf h₂
  obtain ⟨hw₃, _⟩ := step_fixed s₂ s₃ _ hw₂ h₃
  obtain ⟨q1, q2⟩ := build_step_pure s₂ s₃ b' n hw₂ h₃
  have cd := chainD_pure ip s₃ sf s₂.insts.length j (defaultArgs n) hw₃ q1 h₄
  refine ⟨cd.shows, ?_⟩
  rw [cd.origin, q2, bview_stable s₁ s₂ e₂ b' cb.lt, cb.shows]; rfl

/-- **D10**: the original `with_seed` (writes `random_seed` of the shared simulator object)
    violates immutability — `a = base.with_seed(1); b = a.with_seed(2)` changes what `a` runs with. -/
theorem d10_original_code_violates :
    ∃ (ops₁ ops₂ : List Op) (s₁ s₂ : State) (j : Nat),
      runOps false (initial 1) ops₁ = some s₁ ∧ runOps false s₁ ops₂ = some s₂ ∧
      j < s₁.insts.length ∧ view s₂ j ≠ view s₁ j :=
  ⟨[.derive 0 (.seed (some 1))], [.derive 1 (.seed (some 2))], _, _, 1, rfl, rfl, by decide, by decide⟩

/-! A history with sibling derivations, a user simulator shared by two instances,
    reseeding, and repeated runs of an early instance. -/
def exOps : List Op :=
  [.bderive 0 (.buildArg 3 4), .derive 0 (.seed (some 1)), .run 1, .derive 1 (.seed (some 2)), .newSim (.custom 7) (some 5),
   .derive 1 (.simulator 3), .derive 3 (.seed none), .derive 1 .stabilizer, .run 1, .derive 2 (.shots 10),
   .run 1, .run 3, .run 4]

example : ((runOps true (initial 2) exOps).map fun s => s.log.map fun e => (e.1, e.2.simKind, e.2.simSeed, e.2.seed)) =
    some [(1, .quest, some 1, some 1), (1, .quest, some 1, some 1), (1, .quest, some 1, some 1),
          (3, .custom 7, some 5, some 1), (4, .custom 7, none, none)] := rfl

/-- a builder path, a build, an instance path, with unrelated operations in between -/
def exChain : Option (Option (Option BuildArgs) × Option (Nat × Option Nat × Option Nat × Nat)) :=
  (chainB (initial 1) 0 [([], .buildArg 1 2), ([.derive 0 (.seed (some 9))], .buildArg 1 3),
      ([.build 1 4], .name (some 5))]).bind fun p =>
    (step true p.1 (.build p.2 2)).bind fun s₃ =>
      (chainD s₃ p.1.insts.length [([.run 0], .shots 7), ([.bderive p.2 (.verbose true)], .seed (some 3))]).map
        fun q => (originArgs q.1 q.2, (view q.1 q.2).map fun a => (a.shots, a.seed, a.simSeed, a.nQubits))

example : exChain =
    some (some (some ⟨some 5, none, false, [(1, 3)]⟩), some (7, some 3, some 3, 2)) := by rfl

/-- a user error model (component 1, own seed 7) and runtime (component 2) shared by differently
    seeded configurations: every run reports the components' own seeds unchanged -/
example :
    ((runOps true (initial 1) [.newComp (some 7), .newComp none, .derive 0 (.errorModel 1), .derive 1 (.runtime 2),
        .derive 2 (.seed (some 1)), .run 3, .derive 2 (.seed (some 2)), .run 3, .run 4]).map fun s =>
      s.log.map fun e => (e.1, e.2.seed, e.2.errorModel, e.2.errorModelSeed, e.2.runtime, e.2.runtimeSeed)) =
    some [(3, some 1, 1, some 7, 2, none), (3, some 1, 1, some 7, 2, none), (4, some 2, 1, some 7, 2, none)] := by
  rfl

end GuppyVerif.EmuConfig
