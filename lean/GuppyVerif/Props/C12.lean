import GuppyVerif.Lemmas.C12GenCallCompl
/-! # C12 — type inference finds an instantiation exactly when one exists

Property theorems about `Model/Unify.lean` (the model of `unify`, `_unify_var`, `_occurs`, `_unify_args`,
`Substituter` in `tys/ty.py`, `tys/subst.py` after the two `fix:` commits for D5 and D16).

Vocabulary (Spec/C12.lean): `Solves θ σ` — the total assignment `θ` satisfies every equation `v ≐ σ(v)`;
`Unifies θ s t`; `FlagEq` — identical up to the ownership flags of function inputs; `Extends`; `Acyclic` —
a rank on variables decreases along bindings (consistent prior); `passes σ n` — `n` `Substituter` passes.
All statements are for every pair of terms and every prior, no size bound; for every environment except where a
theorem assumes `NoLinear E` or speaks of assignments with `LinInv E θ` (the `_partial` ones). -/
namespace GuppyVerif.Unify

/-- **Soundness** (any fuel).  A returned substitution extends the prior, every solution of it solves the
    prior and makes `s` and `t` identical (up to ownership flags), and it is acyclic if the prior was. -/
theorem unify_sound (E : Env) (f : Nat) (s t : Tm) (σ₀ σ : Subst) (h : unify E f s t σ₀ = .ok σ) :
    Extends σ₀ σ ∧ (∀ θ, Solves θ σ → Solves θ σ₀ ∧ Unifies θ s t) ∧ (Acyclic σ₀ → Acyclic σ) := by
  have g := unify_good h
  exact ⟨g.ext, fun θ hθ => ⟨hθ.of_extends g.ext, g.eq θ hθ⟩, g.acyc⟩

/-- **Soundness under full application.**  For a consistent prior, applying the returned substitution
    often enough (any number of passes `n ≥ N`; `N = |σ|` works, which is what the proof takes) makes both sides
    identical up to flags, and the result is a fixpoint: no bound variable is left, one more pass changes nothing. -/
theorem unify_sound_applied (E : Env) (f : Nat) (s t : Tm) (σ₀ σ : Subst) (h₀ : Acyclic σ₀)
    (h : unify E f s t σ₀ = .ok σ) :
    ∃ N, ∀ n, N ≤ n →
      FlagEq (applyN σ n s) (applyN σ n t) ∧
      Saturated σ (applyN σ n s) ∧ Saturated σ (applyN σ n t) ∧
      apply σ (applyN σ n s) = applyN σ n s ∧ apply σ (applyN σ n t) = applyN σ n t := by
  have g := unify_good h
  have ha : Acyclic σ := g.acyc h₀
  refine ⟨σ.length, fun n hn => ?_⟩
  have hs := applyN_len_saturated ha n hn s
  have ht := applyN_len_saturated ha n hn t
  exact ⟨g.flagEq_applyN ha hn, hs, ht, apply_saturated hs, apply_saturated ht⟩

/-- **Soundness with `applyStar`**: on a consistent prior, applying the returned
    substitution exhaustively — `|σ|` `Substituter` passes, which is what `applyStar` does — makes both sides
    identical up to flags and leaves no bound variable. -/
theorem unify_sound_applyStar (E : Env) (f : Nat) (s t : Tm) (σ₀ σ : Subst) (h₀ : Acyclic σ₀)
    (h : unify E f s t σ₀ = .ok σ) :
    FlagEq (applyStar σ s) (applyStar σ t) ∧ Saturated σ (applyStar σ s) ∧ Saturated σ (applyStar σ t) := by
  have g := unify_good h
  have ha : Acyclic σ := g.acyc h₀
  exact ⟨g.flagEq_applyN ha (Nat.le_refl _), applyN_len_saturated ha _ (Nat.le_refl _) s,
    applyN_len_saturated ha _ (Nat.le_refl _) t⟩

/-- The ownership-flag rule at the root: two function types only unify when they have the same
    parameters, the same number of inputs, and no pair of inputs that are both linear carries different
    flags.  (For function types nested deeper the rule is part of the model but only this root statement is
    proved.) -/
theorem unify_flags_respected_partial (E : Env) (f : Nat) (fl₁ fl₂ : List Nat) (p₁ p₂ : Nat) (as bs : List Tm)
    (σ₀ σ : Subst) (h : unify E f (.node (.func fl₁ p₁) as) (.node (.func fl₂ p₂) bs) σ₀ = .ok σ) :
    p₁ = p₂ ∧ fl₁.length = fl₂.length ∧ flagsClash E fl₁ fl₂ as bs = false := by
  cases f with
  | zero => simp [unify] at h
  | succ f =>
    rw [unify_succ] at h
    rcases shape_node E (.func fl₁ p₁) (.func fl₂ p₂) as bs with ⟨ok, e⟩ | ⟨_, e⟩ <;> rw [e] at h
    · have hh := ok.1
      simp only [eraseH, Head.func.injEq] at hh
      exact ⟨hh.2, by simpa using congrArg List.length hh.1, ok.2⟩
    · cases h

/-- **Termination.**  On a consistent (acyclic) prior the recursion of `unify` is finite: some fuel `n`
    yields a proper outcome (a substitution or `None`), and every larger fuel yields the same outcome.
    (Proved by induction on the fuel: a lexicographic measure — unbound variables of the finite universe, ranks,
    sizes — is weighted into one number that the fuel must exceed; `unify_terminates_explicit` has the closed
    formula.) -/
theorem unify_terminates (E : Env) (s t : Tm) (σ₀ : Subst) (h₀ : Acyclic σ₀) :
    ∃ n, unify E n s t σ₀ ≠ .oof ∧ ∀ m, n ≤ m → unify E m s t σ₀ = unify E n s t σ₀ :=
  unify_stabilises E s t σ₀ h₀

/-- **Termination with an explicit fuel.**  `fuelBound s t σ₀` — a polynomial in the number of variables, the
    number of bindings and the total size of the terms in play (see `Model/Unify.lean`) — bounds the recursion
    depth of `unify` on every consistent prior: with that fuel, or more, the outcome is a substitution or `None`,
    and it is the same outcome.  The model driver runs with exactly this fuel. -/
theorem unify_terminates_explicit (E : Env) (s t : Tm) (σ₀ : Subst) (h₀ : Acyclic σ₀) (n : Nat)
    (hn : fuelBound s t σ₀ ≤ n) :
    unify E n s t σ₀ ≠ .oof ∧ unify E n s t σ₀ = unify E (fuelBound s t σ₀) s t σ₀ :=
  ⟨unify_fuelBound E s t σ₀ h₀ n hn,
   unify_mono E hn s t σ₀ (unify_fuelBound E s t σ₀ h₀ _ (Nat.le_refl _))⟩

/-- Fuel only decides whether an outcome is reached, never which one. -/
theorem unify_fuel_irrelevant (E : Env) (s t : Tm) (σ₀ : Subst) (n m : Nat)
    (hn : unify E n s t σ₀ ≠ .oof) (hm : unify E m s t σ₀ ≠ .oof) :
    unify E n s t σ₀ = unify E m s t σ₀ := by
  rw [← unify_mono E (Nat.le_max_left n m) s t σ₀ hn, ← unify_mono E (Nat.le_max_right n m) s t σ₀ hm]

/-- **Existence ⇐ success** (no side conditions): when `unify` returns a substitution on a consistent
    prior, an assignment exists that solves the prior and makes both sides identical (up to flags) — namely
    enough passes of the result. -/
theorem unify_success_gives_unifier (E : Env) (f : Nat) (s t : Tm) (σ₀ σ : Subst) (h₀ : Acyclic σ₀)
    (h : unify E f s t σ₀ = .ok σ) : ∃ θ, Solves θ σ₀ ∧ Unifies θ s t := by
  have g := unify_good h
  have hθ := SolvesX.solves (passes_len_solves (g.acyc h₀) (Nat.le_refl _))
  exact ⟨passes σ σ.length, hθ.of_extends g.ext, g.eq _ hθ⟩

/-- **Completeness** — full statement of the property: *if some assignment solves the consistent prior and
    makes `s` and `t` identical, `unify` returns a substitution.*  Proved here for well-sorted inputs
    (`Tm.wf`, `WfSubst`: what Python's static types guarantee) and under `NoLinear E`, i.e. when no type is
    linear so that the ownership-flag rule never fires.  The gap: with linear inputs the code applies the
    flag rule to the types *as written* (a variable is linear iff declared so), which is neither sound nor
    complete for "identical after instantiation"; see notes/C12.md. -/
theorem unify_complete_partial (E : Env) (hE : NoLinear E) (s t : Tm) (σ₀ : Subst)
    (hs : s.wf = true) (ht : t.wf = true) (hw : WfSubst σ₀) (h₀ : Acyclic σ₀)
    (θ : V → Tm) (hθ : Solves θ σ₀) (hu : Unifies θ s t) :
    ∃ n σ, ∀ m, n ≤ m → unify E m s t σ₀ = .ok σ :=
  unify_ok_of_not_fail E s t σ₀ h₀ fun n =>
    (unify_complBy (Reading.flags hE θ) n s t σ₀ hs ht hw (solves_iff_solvesBy.mp hθ) hu).ne_fail

/-- **Most general** (same hypotheses): every assignment that solves the prior and unifies `s` and `t`
    also solves the returned substitution, and factors through it: `θ = θ ∘ σᵏ` up to flags for every number
    of passes `k` — in particular through the full application of `σ`. -/
theorem unify_mgu_partial (E : Env) (hE : NoLinear E) (f : Nat) (s t : Tm) (σ₀ σ : Subst)
    (hs : s.wf = true) (ht : t.wf = true) (hw : WfSubst σ₀) (h : unify E f s t σ₀ = .ok σ)
    (θ : V → Tm) (hθ : Solves θ σ₀) (hu : Unifies θ s t) :
    Solves θ σ ∧ ∀ k x, FlagEq (inst θ (applyN σ k x)) (inst θ x) := by
  have hsol := (unify_complBy (Reading.flags hE θ) f s t σ₀ hs ht hw (solves_iff_solvesBy.mp hθ) hu).solves h
  exact ⟨solves_iff_solvesBy.mpr hsol, SolvesBy.applyN erase_inst_congr hsol⟩

/-- **Exactly when** (same hypotheses): `unify` succeeds iff a unifier respecting the prior exists. -/
theorem unify_iff_partial (E : Env) (hE : NoLinear E) (s t : Tm) (σ₀ : Subst)
    (hs : s.wf = true) (ht : t.wf = true) (hw : WfSubst σ₀) (h₀ : Acyclic σ₀) :
    (∃ n σ, unify E n s t σ₀ = .ok σ) ↔ ∃ θ, Solves θ σ₀ ∧ Unifies θ s t := by
  constructor
  · rintro ⟨n, σ, h⟩; exact unify_success_gives_unifier E n s t σ₀ σ h₀ h
  · rintro ⟨θ, hθ, hu⟩
    obtain ⟨n, σ, h⟩ := unify_complete_partial E hE s t σ₀ hs ht hw h₀ θ hθ hu
    exact ⟨n, σ, h n (Nat.le_refl _)⟩

/-- **Completeness for exact unifiers, every environment.**  If an assignment solves the consistent
    well-sorted prior and makes `s` and `t` literally identical (ownership flags included), `unify` returns
    a substitution — whatever is linear.  (Partial w.r.t. the property: the premise asks for identity including
    the flags of non-linear inputs, which the property would let differ.) -/
theorem unify_complete_exact_partial (E : Env) (s t : Tm) (σ₀ : Subst)
    (hs : s.wf = true) (ht : t.wf = true) (hw : WfSubst σ₀) (h₀ : Acyclic σ₀)
    (θ : V → Tm) (hθ : SolvesX θ σ₀) (hu : UnifiesX θ s t) :
    ∃ n σ, ∀ m, n ≤ m → unify E m s t σ₀ = .ok σ :=
  unify_ok_of_not_fail E s t σ₀ h₀ fun n =>
    (unify_complBy (Reading.exact E θ) n s t σ₀ hs ht hw (solvesX_iff_solvesBy.mp hθ) hu).ne_fail

/-- **Most general for exact unifiers, every environment**: such an assignment solves the returned
    substitution exactly and is unchanged by pre-composing any number of passes of it: `θ = θ ∘ σᵏ`. -/
theorem unify_mgu_exact_partial (E : Env) (f : Nat) (s t : Tm) (σ₀ σ : Subst)
    (hs : s.wf = true) (ht : t.wf = true) (hw : WfSubst σ₀) (h : unify E f s t σ₀ = .ok σ)
    (θ : V → Tm) (hθ : SolvesX θ σ₀) (hu : UnifiesX θ s t) :
    SolvesX θ σ ∧ ∀ k x, inst θ (applyN σ k x) = inst θ x := by
  have hsol := (unify_complBy (Reading.exact E θ) f s t σ₀ hs ht hw (solvesX_iff_solvesBy.mp hθ) hu).solves h
  exact ⟨solvesX_iff_solvesBy.mpr hsol, SolvesBy.applyN (N := id) inst_congr hsol⟩

/-! ### the literal reading of the flag clause, for assignments that keep linearity

`LinEq E` is the property's own "identical, respecting that linear inputs must agree on ownership flags".
For assignments `θ` with `LinInv E θ` (instantiating does not change which types are linear — e.g. every
variable is mapped to a type with the variable's declared copy/drop capabilities, `linInv_of_bounds`) the code
is sound, complete and most general with respect to it.  Without `LinInv` it is not: see the two `…_false`
theorems below. -/

theorem unify_sound_lin_partial (E : Env) (f : Nat) (s t : Tm) (σ₀ σ : Subst) (h : unify E f s t σ₀ = .ok σ)
    (θ : V → Tm) (hθ : LinInv E θ) (hsol : SolvesL E θ σ) : SolvesL E θ σ₀ ∧ UnifiesL E θ s t := by
  have hsol := solvesL_iff_solvesBy.mp hsol
  obtain ⟨e, hs⟩ := (unify_ok_run h).sound (Descends.lin hθ)
  exact ⟨solvesL_iff_solvesBy.mpr (hsol.of_extends e), hs hsol⟩

theorem unify_complete_lin_partial (E : Env) (s t : Tm) (σ₀ : Subst)
    (hs : s.wf = true) (ht : t.wf = true) (hw : WfSubst σ₀) (h₀ : Acyclic σ₀)
    (θ : V → Tm) (hθ : LinInv E θ) (hsol : SolvesL E θ σ₀) (hu : UnifiesL E θ s t) :
    ∃ n σ, ∀ m, n ≤ m → unify E m s t σ₀ = .ok σ :=
  unify_ok_of_not_fail E s t σ₀ h₀ fun n =>
    (unify_complBy (Reading.lin hθ) n s t σ₀ hs ht hw (solvesL_iff_solvesBy.mp hsol) hu).ne_fail

/-- most general, literal reading: every linearity-keeping unifier that respects the prior solves the result -/
theorem unify_mgu_lin_partial (E : Env) (f : Nat) (s t : Tm) (σ₀ σ : Subst)
    (hs : s.wf = true) (ht : t.wf = true) (hw : WfSubst σ₀) (h : unify E f s t σ₀ = .ok σ)
    (θ : V → Tm) (hθ : LinInv E θ) (hsol : SolvesL E θ σ₀) (hu : UnifiesL E θ s t) : SolvesL E θ σ :=
  solvesL_iff_solvesBy.mpr
    ((unify_complBy (Reading.lin hθ) f s t σ₀ hs ht hw (solvesL_iff_solvesBy.mp hsol) hu).solves h)

/-- non-vacuity: `Q` (definition 4) and variable 4 linear; `θ(?4) = Q`, every other variable ↦ `int`;
    `(?4 @owned) -> None` against `(Q @owned) -> None` -/
example : let E : Env := { vNoCopy := [4], vNoDrop := [4], dNoCopy := [4], dNoDrop := [4] }
    let θ : V → Tm := fun v => if v = 4 then .node (.opaque 4) [] else .atom (.num 2)
    LinInv E θ ∧ SolvesL E θ [] ∧
      UnifiesL E θ (.node (.func [2] 0) [.targ (.var 4), .targ (.atom .none)])
        (.node (.func [2] 0) [.targ (.node (.opaque 4) []), .targ (.atom .none)]) := by
  intro E θ
  refine ⟨linInv_of_bounds ?_ ?_, fun _ _ h => by simp [lookup] at h, rfl⟩
  · intro v
    by_cases e : v = 4
    · subst e; rfl
    · simp [θ, e, E, copyable]
  · intro v
    by_cases e : v = 4
    · subst e; rfl
    · simp [θ, e, E, droppable]

/-! ### the literal reading of the ownership-flag clause is false of the code (known findings)

The code evaluates linearity on the types as written, so for assignments that change which inputs are linear it is
neither complete nor sound with respect to `LinEq`.  Both witnesses are replayed on the real code by the check
(`corpus/c12/k01_flag_rule_literal.json`, reported as KNOWN-FINDING). -/

/-- not complete: `(?T @owned) -> None` against `(?T) -> None` with `?T` (variable 4) declared linear is
    rejected for every fuel, although `T := int` makes both sides `LinEq`-identical (`int` is not linear). -/
theorem unify_complete_linear_flags_false :
    ∃ (E : Env) (s t : Tm) (θ : V → Tm), s.wf = true ∧ t.wf = true ∧
      UnifiesL E θ s t ∧ ∀ n σ, unify E n s t [] ≠ .ok σ := by
  refine ⟨{ vNoCopy := [4], vNoDrop := [4] },
    .node (.func [2] 0) [.targ (.var 4), .targ (.atom .none)],
    .node (.func [0] 0) [.targ (.var 4), .targ (.atom .none)],
    fun _ => .atom (.num 2), rfl, rfl, rfl, ?_⟩
  intro n σ
  cases n with
  | zero => simp [unify]
  | succ n =>
    have h1 : unify { vNoCopy := [4], vNoDrop := [4] } 1
        (.node (.func [2] 0) [.targ (.var 4), .targ (.atom .none)])
        (.node (.func [0] 0) [.targ (.var 4), .targ (.atom .none)]) [] = .fail := rfl
    rw [unify_mono _ (Nat.succ_le_succ (Nat.zero_le n)) _ _ _ (by rw [h1]; intro h; cases h), h1]
    intro h; cases h

/-- not sound: `(?T @owned) -> None` against `(Q) -> None` with `?T` (variable 0) declared copyable and `Q`
    (definition 4) linear succeeds with `T := Q`; after applying the result the linear input `Q` carries
    different flags on the two sides.  (`check_inst` rejects `T := Q` later; `unify` itself does not.) -/
theorem unify_sound_linear_flags_false :
    ∃ (E : Env) (s t : Tm) (σ : Subst), s.wf = true ∧ t.wf = true ∧ unify E 3 s t [] = .ok σ ∧
      ¬ LinEq E (applyStar σ s) (applyStar σ t) :=
  ⟨{ dNoCopy := [4], dNoDrop := [4] },
    .node (.func [2] 0) [.targ (.var 0), .targ (.atom .none)],
    .node (.func [0] 0) [.targ (.node (.opaque 4) []), .targ (.atom .none)],
    [(0, .node (.opaque 4) [])], rfl, rfl, rfl, by
      intro h
      have : norm { dNoCopy := [4], dNoDrop := [4] } (.node (.func [2] 0) [.targ (.node (.opaque 4) []), .targ (.atom .none)])
           = norm { dNoCopy := [4], dNoDrop := [4] } (.node (.func [0] 0) [.targ (.node (.opaque 4) []), .targ (.atom .none)]) := h
      simp [norm, normH, normFlags, normList, linear, copyable, droppable, copyableArgs, droppableArgs] at this⟩

/-! ### the corollary for generic function values (`check_type_against`, parametrised case) -/

/-- **Generic call, soundness.**  When `check_type_against` accepts a generic function value `act = forall
    params. body` (no inference variables in `body`) against an expected type `exp`, the returned instantiation
    `ins` has one variable-free entry per parameter, and ONE pass of the returned substitution `σ'` (this is how
    every caller applies it) makes `exp` identical (up to flags) to `body[params := ins]`. -/
theorem generic_call_sound (E : Env) (fuel p0 : Nat) (exp : Tm) (fresh : List V) (fl : List Nat) (p : Nat)
    (args ins : List Tm) (σ' : Subst) (hact : ∀ a ∈ args, a.vars = [])
    (h : checkAgainst E fuel p0 exp fresh (.node (.func fl p) args) = .ok ins σ') :
    FlagEq (apply σ' exp) (.node (.func fl p0) (instBList ins args)) ∧
      ins.length = fresh.length ∧ ∀ t ∈ ins, t.vars = [] :=
  checkAgainst_sound hact h

/-- non-vacuity, and D18: `forall T. T -> T` against `(?8) -> int` gives `T := int` and the *resolved*
    solution `?8 := int` (before the fix the solution of `?8` was the callee's internal variable `?2000`) -/
example : checkAgainst {} 9 0 (.node (.func [0] 0) [.targ (.var 8), .targ (.atom (.num 2))]) [2000]
    (.node (.func [0] 1) [.targ (.atom (.bvar 0)), .targ (.atom (.bvar 0))])
    = .ok [.atom (.num 2)] [(8, .atom (.num 2))] := by rfl

/-- **Generic call, exactly when** (closed expected type).  A generic function value `forall params. body`
    whose parameters all occur in its signature is accepted against a variable-free expected type `exp` exactly
    when some instantiation `ρ` of the parameters makes the signature identical to `exp` (up to flags).
    Partial: proved where the ownership-flag rule cannot fire (`NoLinear E`), for well-sorted inputs.  For expected
    types that still contain inference variables the code additionally demands that the principal instantiation is
    variable-free; that form is `checkAgainst_iff` (Lemmas/C12CheckAgainst), of which this is the variable-free case. -/
theorem generic_call_closed_iff_partial (E : Env) (hE : NoLinear E) (p0 : Nat) (exp : Tm) (fresh : List V)
    (fl : List Nat) (p : Nat) (args : List Tm)
    (hexp : exp.vars = []) (hexpwf : exp.wf = true) (hact : ∀ a ∈ args, a.vars = []) (hactwf : wfArgs args = true)
    (hfresh : fresh.Nodup)
    (hocc : ∀ f ∈ fresh, f ∈ (Tm.node (.func fl p0) (instBList (fresh.map .var) args)).vars) :
    (∃ n ins σ', checkAgainst E n p0 exp fresh (.node (.func fl p) args) = .ok ins σ') ↔
      ∃ ρ : List Tm, ρ.length = fresh.length ∧ FlagEq exp (.node (.func fl p0) (instBList ρ args)) := by
  constructor
  · rintro ⟨n, ins, σ', h⟩
    obtain ⟨h1, h2, _⟩ := checkAgainst_sound hact h
    rw [apply_closed hexp] at h1
    exact ⟨ins, h2, h1⟩
  · rintro ⟨ρ, hl, hfit⟩
    refine (checkAgainst_iff E hE p0 exp fresh fl p args hexpwf hactwf).mpr
      ⟨⟨asFun (fresh.zip ρ), ?_⟩, fun θ hθ f hf => hθ.closes hexp f (hocc f hf)⟩
    -- `fresh[i] ↦ ρ[i]` turns the unquantified type into the one instantiated by `ρ`
    have e := inst_instB (asFun (fresh.zip ρ)) fresh (.node (.func fl p0) args)
      (by simpa [Tm.vars, varsList_eq] using hact)
    rw [map_asFun_zip fresh ρ hfresh hl] at e
    simp only [instB] at e
    rwa [Unifies, inst_closed hexp, e]

/-- non-vacuity of the hypotheses: `forall T. (T, T) -> T` against `(int, int) -> int` -/
example : NoLinear {} ∧
    (Tm.node (.func [0, 0] 0) [.targ (.atom (.num 2)), .targ (.atom (.num 2)), .targ (.atom (.num 2))]).vars = [] ∧
    wfArgs [.targ (.atom (.bvar 0)), .targ (.atom (.bvar 0)), .targ (.atom (.bvar 0))] = true ∧
    [2000].Nodup ∧
    (∀ f ∈ [2000], f ∈ (Tm.node (.func [0, 0] 0) (instBList ([2000].map .var)
        [.targ (.atom (.bvar 0)), .targ (.atom (.bvar 0)), .targ (.atom (.bvar 0))])).vars) ∧
    checkAgainst {} 9 0
      (.node (.func [0, 0] 0) [.targ (.atom (.num 2)), .targ (.atom (.num 2)), .targ (.atom (.num 2))]) [2000]
      (.node (.func [0, 0] 1) [.targ (.atom (.bvar 0)), .targ (.atom (.bvar 0)), .targ (.atom (.bvar 0))])
      = .ok [.atom (.num 2)] [] :=
  ⟨noLinear_default, rfl, rfl, by decide, by decide, rfl⟩

/-! ### generic CALLS: `synthesize_call` / `check_call` on first-order arguments (Model/GenCall.lean)

Fragment: the declared signature has no inference variables; every argument expression is `Ex.Closed` — its
synthesised type (variables, literals, monomorphic function names, previously checked nested calls: `Ex.val`;
tuple literals: `Ex.tup`) has no inference variables; no numeric coercions, no `@comptime`/`inout` inputs. -/

/-- **Generic call, soundness (synthesis position).**  If `synthesize_call` accepts, the returned instantiation
    `ins` has one variable-free entry per parameter, respects the copy/drop bounds (`check_inst`), makes every
    declared input type identical (up to flags) to the synthesised type of the corresponding argument — tuple
    literals included, whatever order the components were solved in — and the returned type is the declared
    return type under that same instantiation. -/
theorem generic_call_synth_sound (E : Env) (sg : Sig) (fresh : List V) (es : List Ex) (ins : List Tm) (ret : Tm)
    (hin : ∀ a ∈ sg.inputs, a.vars = []) (hout : sg.out.vars = []) (hes : ∀ e ∈ es, e.Closed)
    (h : synthCall E sg fresh es = .accept ins ret) :
    es.length = sg.inputs.length ∧ CallOk E sg fresh es ins ret := by
  unfold synthCall at h
  split at h
  · cases h
  · rename_i hl
    exact ⟨by simpa using hl, (finishCall_sound E sg fresh es [] ins ret hin hout hes closedImgs_nil h).1⟩

/-- **Generic call, soundness (checking position, closed expected type `ty`)**: as above, and the expected type
    is identical (up to flags) to the instantiated return type — also when the instantiation could only be found
    from the expected type (return-only type variables). -/
theorem generic_call_check_sound (E : Env) (sg : Sig) (fresh fresh₂ : List V) (es : List Ex) (ty : Tm)
    (ins : List Tm) (ret : Tm) (hlen : fresh₂.length = fresh.length)
    (hin : ∀ a ∈ sg.inputs, a.vars = []) (hout : sg.out.vars = []) (hes : ∀ e ∈ es, e.Closed) (hty : ty.vars = [])
    (h : checkCall E sg fresh fresh₂ es ty = .accept ins ret) :
    es.length = sg.inputs.length ∧ ins.length = fresh.length ∧ (∀ t ∈ ins, t.vars = []) ∧
      boundsOk E sg.bounds ins = true ∧ All2 (fun e p => FlagEq (instB ins p) e.synth) es sg.inputs ∧
      ret = instB ins sg.out ∧ FlagEq ty ret := by
  obtain ⟨hl, ok, hr⟩ := checkCall_sound E sg fresh fresh₂ es ty ins ret hlen hin hout hes hty h
  exact ⟨hl, ok.len, ok.closed, ok.bounds, ok.fits, ok.ret, hr⟩

/-- **Generic call, exactly when** (synthesis position; arbitrary argument expressions: synthesised closed types
    and arbitrarily nested tuple literals).  `synthesize_call` accepts ⇔ some instantiation `ρ` of the quantified
    parameters, respecting their copy/drop bounds, makes every declared input type identical (up to flags) to the
    (synthesised) type of the corresponding argument; and the instantiation it returns is that `ρ` (up to flags), the
    returned type being the declared return type under it.  The threaded substitution stays most general after every
    component (`Agree`), so later components remain unifiable whenever a global solution exists.
    Remaining gaps (hence `_partial`): `NoLinear E` (needed only because `unify`'s flag rule is evaluated on types as
    written, D17), every parameter occurs in some input (in synthesis position a return-only parameter is rejected
    by the code; see `generic_call_check_iff_partial`), well-sorted closed inputs, no numeric coercions in the model. -/
theorem generic_call_iff_partial (E : Env) (hE : NoLinear E) (sg : Sig) (fresh : List V) (es : List Ex)
    (hin : ∀ p ∈ sg.inputs, p.vars = [] ∧ p.wf = true) (hout : sg.out.vars = [])
    (hes : ∀ e ∈ es, e.Closed ∧ e.synth.wf = true) (hfresh : fresh.Nodup)
    (hocc : ∀ f ∈ fresh, ∃ p ∈ sg.inputs, f ∈ (instB (fresh.map Tm.var) p).vars) :
    ((∃ ins ret, synthCall E sg fresh es = .accept ins ret) ↔
      ∃ ρ : List Tm, ρ.length = fresh.length ∧ boundsOk E sg.bounds ρ = true ∧
        All2 (fun e p => FlagEq (instB ρ p) e.synth) es sg.inputs) ∧
    (∀ ρ : List Tm, ρ.length = fresh.length → boundsOk E sg.bounds ρ = true →
        All2 (fun e p => FlagEq (instB ρ p) e.synth) es sg.inputs →
        ∃ ins, synthCall E sg fresh es = .accept ins (instB ins sg.out) ∧ All2 FlagEq ins ρ) := by
  have compl := fun ρ hl hb hf => synthCall_complete_ex E hE sg fresh es ρ hin hout hes hfresh hl hocc hf hb
  refine ⟨⟨?_, ?_⟩, compl⟩
  · rintro ⟨ins, ret, h⟩
    obtain ⟨_, ok⟩ := generic_call_synth_sound E sg fresh es ins ret (fun a ha => (hin a ha).1) hout
      (fun e he => (hes e he).1) h
    exact ⟨ins, ok.len, ok.bounds, ok.fits⟩
  · rintro ⟨ρ, hl, hb, hf⟩
    obtain ⟨ins, h, _⟩ := compl ρ hl hb hf
    exact ⟨ins, _, h⟩

/-- **Generic call, exactly when** (checking position, closed expected type `ty`): `check_call` accepts ⇔ some
    instantiation within the bounds makes every input fit its argument AND the declared return type fit `ty`; the
    returned instantiation is that one.  Here a parameter only has to occur in some input *or in the return type*
    (return-only type variables are solved from the expected type by the second path of `check_call`).
    Gaps: `NoLinear E`, well-sorted closed inputs, no coercions. -/
theorem generic_call_check_iff_partial (E : Env) (hE : NoLinear E) (sg : Sig) (fresh fresh₂ : List V) (es : List Ex)
    (ty : Tm) (hin : ∀ p ∈ sg.inputs, p.vars = [] ∧ p.wf = true) (hout : sg.out.vars = []) (houtw : sg.out.wf = true)
    (hes : ∀ e ∈ es, e.Closed ∧ e.synth.wf = true) (hty : ty.vars = []) (htyw : ty.wf = true)
    (hf1 : fresh.Nodup) (hf2 : fresh₂.Nodup) (hlen : fresh₂.length = fresh.length)
    (hocc : ∀ f ∈ fresh₂, (∃ p ∈ sg.inputs, f ∈ (instB (fresh₂.map Tm.var) p).vars) ∨
        f ∈ (instB (fresh₂.map Tm.var) sg.out).vars) :
    ((∃ ins ret, checkCall E sg fresh fresh₂ es ty = .accept ins ret) ↔
      ∃ ρ : List Tm, ρ.length = fresh.length ∧ boundsOk E sg.bounds ρ = true ∧
        All2 (fun e p => FlagEq (instB ρ p) e.synth) es sg.inputs ∧ FlagEq ty (instB ρ sg.out)) ∧
    (∀ ρ : List Tm, ρ.length = fresh.length → boundsOk E sg.bounds ρ = true →
        All2 (fun e p => FlagEq (instB ρ p) e.synth) es sg.inputs → FlagEq ty (instB ρ sg.out) →
        ∃ ins, checkCall E sg fresh fresh₂ es ty = .accept ins (instB ins sg.out) ∧ All2 FlagEq ins ρ) := by
  have compl := fun ρ hl hb hf hr => checkCall_complete E hE sg fresh fresh₂ es ty ρ hin hout houtw hes hty htyw
    hf1 hf2 hl (by rw [hl, hlen]) hocc hf hr hb
  refine ⟨⟨?_, ?_⟩, compl⟩
  · rintro ⟨ins, ret, h⟩
    obtain ⟨_, ok, hr⟩ := checkCall_sound E sg fresh fresh₂ es ty ins ret hlen
      (fun a ha => (hin a ha).1) hout (fun e he => (hes e he).1) hty h
    exact ⟨ins, ok.len, ok.bounds, ok.fits, ok.ret ▸ hr⟩
  · rintro ⟨ρ, hl, hb, hf, hr⟩
    obtain ⟨ins, h, _⟩ := compl ρ hl hb hf hr
    exact ⟨ins, _, h⟩

/-- non-vacuity of `generic_call_check_iff_partial`: `mk : forall T. (int) -> T` against expected `bool` (return-only
    type variable, solved from the expected type); nested tuple literal for `generic_call_iff_partial`:
    `f : forall T. ((T, (T, int))) -> T` on `((x: bool, (y: bool, 1)))` -/
example : checkCall {} ⟨[.atom (.num 2)], .atom (.bvar 0), [(true, true)]⟩ [2000] [3000] [.val (.atom (.num 2))]
    (.node (.opaque 0) []) = .accept [.node (.opaque 0) []] (.node (.opaque 0) []) := by rfl

example : synthCall {} ⟨[.node .tuple [.targ (.atom (.bvar 0)), .targ (.node .tuple [.targ (.atom (.bvar 0)), .targ (.atom (.num 2))])]],
      .atom (.bvar 0), [(true, true)]⟩ [2000]
    [.tup [.val (.node (.opaque 0) []), .tup [.val (.node (.opaque 0) []), .val (.atom (.num 2))]]]
    = .accept [.node (.opaque 0) []] (.node (.opaque 0) []) := by rfl

/-- non-vacuity of `generic_call_iff_partial`: `pair : forall T U. (T, Option[U], T) -> U` on `(int, Option[bool], int)` -/
example : NoLinear {} ∧ [2000, 2002].Nodup ∧
    (∀ f ∈ [2000, 2002], ∃ p ∈ [Tm.atom (.bvar 0), .node (.opaque 3) [.targ (.atom (.bvar 1))], .atom (.bvar 0)],
        f ∈ (instB ([2000, 2002].map Tm.var) p).vars) ∧
    synthCall {} ⟨[.atom (.bvar 0), .node (.opaque 3) [.targ (.atom (.bvar 1))], .atom (.bvar 0)], .atom (.bvar 1),
        [(true, true), (true, true)]⟩ [2000, 2002]
      ([.atom (.num 2), .node (.opaque 3) [.targ (.node (.opaque 0) [])], .atom (.num 2)].map Ex.val)
      = .accept [.atom (.num 2), .node (.opaque 0) []] (.node (.opaque 0) []) :=
  ⟨noLinear_default, by decide, by decide, rfl⟩

/-- non-vacuity: `first : forall T. (T, T) -> T` on the tuple literal `(x: int, y: int)` is accepted with `T := int`;
    on `(x: int, y: bool)` it is rejected -/
example : synthCall {} ⟨[.node .tuple [.targ (.atom (.bvar 0)), .targ (.atom (.bvar 0))]], .atom (.bvar 0), [(true, true)]⟩
    [2000] [.tup [.val (.atom (.num 2)), .val (.atom (.num 2))]] = .accept [.atom (.num 2)] (.atom (.num 2)) := by rfl

example : synthCall {} ⟨[.node .tuple [.targ (.atom (.bvar 0)), .targ (.atom (.bvar 0))]], .atom (.bvar 0), [(true, true)]⟩
    [2000] [.tup [.val (.atom (.num 2)), .val (.node (.opaque 0) [])]] = .mismatch := by rfl

/-! ### concrete runs, and hypotheses that can be met -/

/-- the hypotheses of the completeness theorems are satisfiable: default environment, `(?2)` against `(int)` -/
example : NoLinear {} ∧ (Tm.node .tuple [.targ (.var 2)]).wf = true ∧ WfSubst [] ∧ Acyclic [] ∧
    Solves (fun _ => .atom (.num 2)) [] ∧
    Unifies (fun _ => .atom (.num 2)) (.node .tuple [.targ (.var 2)]) (.node .tuple [.targ (.atom (.num 2))]) :=
  ⟨noLinear_default, rfl, wfSubst_nil, acyclic_nil, solves_nil _, rfl⟩

/-- the explicit bound on the concrete run below (actual recursion depth there: 5) -/
example : fuelBound (.node .tuple [.targ (.var 2), .targ (.var 0)])
    (.node .tuple [.targ (.node .tuple [.targ (.atom (.num 2))]), .targ (.var 4)])
    [(4, .node .tuple [.targ (.var 6)])] = 2091 := by decide

/-- acyclicity cannot be dropped: on the cyclic substitution the unrepaired code used to return
    (`{?0 ↦ (?2), ?2 ↦ (?0)}`, D5) a further `unify(?0, ?2, σ)` never reaches an outcome -/
example : unify {} 25 (.var 0) (.var 2)
    [(0, .node .tuple [.targ (.var 2)]), (2, .node .tuple [.targ (.var 0)])] = .oof := by rfl

/-- a concrete successful run with a non-empty acyclic prior: `unify((?2, ?0), ((int), ?4), {?4 ↦ (?6)})` -/
example : unify {} 5 (.node .tuple [.targ (.var 2), .targ (.var 0)])
    (.node .tuple [.targ (.node .tuple [.targ (.atom (.num 2))]), .targ (.var 4)])
    [(4, .node .tuple [.targ (.var 6)])]
    = .ok [(0, .node .tuple [.targ (.var 6)]), (2, .node .tuple [.targ (.atom (.num 2))]),
           (4, .node .tuple [.targ (.var 6)])] := by rfl

example : Acyclic [(4, .node .tuple [.targ (.var 6)])] :=
  acyclic_nil.cons fun y hy hr => by
    simp only [Tm.vars, varsList, List.append_nil, List.mem_singleton] at hy
    subst hy
    cases hr with | step hl => cases hl

/-- D5 (the witness that produced a cyclic result before the fix): now rejected -/
example : unify {} 9 (.node .tuple [.targ (.var 2), .targ (.var 0)])
    (.node .tuple [.targ (.node .tuple [.targ (.var 0)]), .targ (.node .tuple [.targ (.var 2)])]) [] = .fail := by rfl

/-- D16: `ConstValue(bool, True)` against `ConstValue(nat, 1)` (same value code, different type code) -/
example : unify {} 9 (.atom (.cval 3 1)) (.atom (.cval 0 1)) [] = .fail := by rfl

/-- the flag rule fires: `(Q @owned) -> None` against `(Q) -> None` with `Q` linear (definition 4) -/
example : unify { dNoCopy := [4], dNoDrop := [4] } 9
    (.node (.func [2] 0) [.targ (.node (.opaque 4) []), .targ (.atom .none)])
    (.node (.func [0] 0) [.targ (.node (.opaque 4) []), .targ (.atom .none)]) [] = .fail := by rfl

/-- hypotheses of the exact theorems, in an environment where `Q` (definition 4) is linear:
    `(?2 @owned) -> None` against `(Q @owned) -> None` with `θ(?2) = Q` -/
example : SolvesX (fun _ => .node (.opaque 4) []) [] ∧
    UnifiesX (fun _ => .node (.opaque 4) [])
      (.node (.func [2] 0) [.targ (.var 2), .targ (.atom .none)])
      (.node (.func [2] 0) [.targ (.node (.opaque 4) []), .targ (.atom .none)]) :=
  ⟨fun _ _ h => by simp [lookup] at h, rfl⟩

end GuppyVerif.Unify
