import GuppyVerif.Lemmas.C24
/-! # C24 — Unitary contexts reject non-unitary quantum operations

Model: `Model/Unitary.lean` (the repaired `BBUnitaryChecker`,
`check_invalid_under_dagger`, the dagger pre-check of `check_modified_block`, flag parsing and
metadata).  Specification vocabulary: `Spec/C24.lean` (occurrence relations over the syntax
tree; flag inclusion by quantifying over the three flag kinds). -/
namespace GuppyVerif.Unitary

/-- **C24 (main)**: for every way of obtaining the context flags (annotation or `with`
    block), every flag set and every block — any nesting of calls inside arguments, any
    nesting of `if` / `while` / `with` — the block is rejected **iff** some expression position
    *anywhere* in it (statement, assigned value, assignment target, `if` / `while` condition,
    control argument, at any depth) contains a call (itself at any argument depth, or inside an
    index expression of a subscripted place at any depth) that passes a
    qubit-containing argument to a callee whose flags do not include every flag required at
    that position — the context's flags plus those of every enclosing `with` block —
    (barrier / state_result nodes are opaque) or, where dagger is required, a subscripted
    place; or a loop or an assignment stands where dagger is required. -/
theorem rejected_iff (k : Kind) (F : Flags) (b : Block) :
    check k F b ≠ .ok ↔ Violates F b := by
  rw [check_ne_ok_iff_rejects, mainB]

/-- **C24 (otherwise accepted)**: acceptance does not depend on whether the flags came from
    a decorator or from a `with` block. -/
theorem accept_kind_irrelevant (F : Flags) (b : Block) :
    check .fn F b = .ok ↔ check .withBlock F b = .ok := by
  rw [check_ok_iff, check_ok_iff]

/-- **C24 (nested blocks add requirements)**: a nested `with` block is acceptable in a
    context requiring `F` iff its control arguments are fine for `F` and its body is
    acceptable for `F` together with the block's own flags. -/
theorem nested_with_iff (k : Kind) (F G : Flags) (cargs : Args) (b : Block) :
    check k F (.cons (.withBlock cargs G b) .nil) = .ok ↔
      (¬ ∃ a, Args.Mem a cargs ∧ BadE F a) ∧ check .withBlock (F.or G) b = .ok := by
  rw [check_ok_iff, check_ok_iff, violates_cons_iff, vs_with_iff]
  simp only [violates_nil, or_false, not_or]

/-- **C24 (early rejection is justified)**: a rejection before CFG checking happens only
    in a daggered context and names the kind of construct that does occur. -/
theorem pre_sound (k : Kind) (F : Flags) (b : Block) (e : Err) (h : check k F b = .pre e) :
    F.dagger = true ∧ ((e = .loop ∧ ∃ F', LoopAtB F b F') ∨ (e = .assign ∧ ∃ F', AssignAtB F b F')) := by
  unfold check at h
  split at h
  · rename_i e' hne
    cases h
    have hd : F.dagger = true := ((prepass_ne_none k F b).mp (by rw [hne]; simp)).1
    refine ⟨hd, ?_⟩
    cases k
    · simp only [prepass, prepassFn, hd, Bool.not_true, Bool.false_eq_true, ↓reduceIte] at hne
      exact (prepassFn_go_some e b hne).imp (fun x => ⟨x.1, loopAt_of_hasLoopB F b x.2⟩)
        (fun x => ⟨x.1, assignAt_of_hasAssignB F b x.2⟩)
    · simp only [prepass, prepassWith, hd, Bool.not_true, Bool.false_eq_true, ↓reduceIte] at hne
      split at hne
      · cases hne; exact .inl ⟨rfl, loopAt_of_hasLoopB F b ‹_›⟩
      · split at hne
        · cases hne; exact .inr ⟨rfl, assignAt_of_hasAssignB F b (shallow_deepB b ‹_›)⟩
        · cases hne
  · split at h <;> cases h

/-- **C24 (flags of a decorated function)**: `@guppy(unitary=u, control=c, dagger=d, power=p)`
    requires a flag iff `unitary` or that flag's keyword was given. -/
theorem parseKwargs_has (u c d p : Bool) (k : FlagKind) :
    (parseKwargs u c d p).has k =
      (u || match k with | .control => c | .dagger => d | .power => p) := by
  cases u <;> cases c <;> cases d <;> cases p <;> cases k <;> rfl

/-- **C24 (metadata)**: the value recorded under `"unitary"` on the compiled function
    determines the flags: reading it back gives the same flag set, and it is below 8. -/
theorem metadata_roundtrip (F : Flags) : Flags.ofNat F.toNat = F ∧ F.toNat < 8 := by
  rcases F with ⟨a, b, c⟩
  cases a <;> cases b <;> cases c <;> decide

/-- D7a: a call in an `if` condition, dagger context, callee without flags: rejected. -/
example : check .fn ⟨false, true, false⟩
    (.cons (.ite (.call Flags.noFlags (.cons (.place true .nil) .nil) false) .nil .nil) .nil)
    = .bb [.call ⟨false, true, false⟩] := by decide

/-- D7b: `g(q, f(r))` with `g` unitary and `f` without flags, control context: rejected
    because of the nested call in the *second* argument. -/
example : check .fn ⟨true, false, false⟩
    (.cons (.expr (.call Flags.unitary
      (.cons (.place true .nil)
        (.cons (.call Flags.noFlags (.cons (.place true .nil) .nil) false) .nil)) false)) .nil)
    = .bb [.call ⟨true, false, false⟩] := by decide

/-- an accepted block: callee has all required flags, classical call to a flagless callee,
    barrier on a subscripted qubit (opaque) -/
example : check .withBlock ⟨true, true, false⟩
    (.cons (.expr (.call ⟨true, true, false⟩ (.cons (.place true .nil) .nil) false))
      (.cons (.expr (.call Flags.noFlags (.cons .leaf .nil) false))
        (.cons (.expr (.exempt (.cons (.place true (.cons .leaf .nil)) .nil))) .nil))) = .ok := by decide

/-- nested: `@guppy(dagger=True)` function, `with control(c): if f(q): pass` with `f` control-only:
    rejected, the call in the nested condition lacks the dagger flag of the outer context -/
example : check .fn ⟨false, true, false⟩
    (.cons (.withBlock (.cons (.place true .nil) .nil) ⟨true, false, false⟩
      (.cons (.ite (.call ⟨true, false, false⟩ (.cons (.place true .nil) .nil) false) .nil .nil) .nil)) .nil)
    = .bb [.call ⟨false, true, false⟩] := by decide

/-- `unit(qs[nonunit(q)])` under `@guppy(control=True)` — the non-unitary call
    sits in the index expression of a subscripted place passed as argument: rejected -/
example : check .fn ⟨true, false, false⟩
    (.cons (.expr (.call Flags.unitary
      (.cons (.place true (.cons (.call Flags.noFlags (.cons (.place true .nil) .nil) false) .nil)) .nil) false)) .nil)
    = .bb [.call ⟨true, false, false⟩] := by decide

/-- … and in the index of an assignment target: `xs[nonunit(q)] = 1` -/
example : check .fn ⟨true, false, false⟩
    (.cons (.assign (.place false (.cons (.call Flags.noFlags (.cons (.place true .nil) .nil) false) .nil)) (some .leaf)) .nil)
    = .bb [.call ⟨true, false, false⟩] := by decide

/-- loop under dagger -/
example : check .fn ⟨false, true, false⟩ (.cons (.while .leaf .nil) .nil) = .pre .loop := by decide

/-- the specification side is inhabited independently of the checker -/
example : Violates ⟨false, true, false⟩ (.cons (.while .leaf .nil) .nil) :=
  .inr ⟨_, rfl, .inl (.head .here)⟩

end GuppyVerif.Unitary
