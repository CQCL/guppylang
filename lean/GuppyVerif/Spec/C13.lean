import GuppyVerif.Model.Instantiate
/-! # C13 — specification vocabulary (independent of the model's algorithms)

  * `fillP a b` / `fill a b`: merge two instantiation steps — the entries of `b` are put, in order, into
    the `None` slots of `a` (`none` when `b` does not have exactly one entry per `None` slot).
  * `argClosed`: the argument contains no bound variable and no parametrized (rank-2) function type.
  * `tyScoped n`: every bound variable index occurring in the type is `< n`; `sigScoped f`: the signature
    `f` is closed (body below the number of parameters, type of the i-th parameter below `i`).
  * `keptIdx m`: the positions of `m` holding `None`, in increasing order.
  * `OccTy j t` (`OccConst j c`): the bound variable with index `j` occurs in `t` (as `bound_vars` sees it: not under a
    quantifier; a const variable counts together with the variables of its type annotation). -/
namespace GuppyVerif.Instantiate
open GuppyVerif

/-- put the entries of `b` into the `None` slots of `a`, in order -/
def fillP : PInst → PInst → Option PInst
  | [], [] => some []
  | [], _ :: _ => none
  | some v :: a, b => (fillP a b).map (some v :: ·)
  | none :: a, x :: b => (fillP a b).map (x :: ·)
  | none :: _, [] => none

/-- the same for a complete second step -/
def fill : PInst → List Arg → Option (List Arg)
  | [], [] => some []
  | [], _ :: _ => none
  | some v :: a, b => (fill a b).map (v :: ·)
  | none :: a, x :: b => (fill a b).map (x :: ·)
  | none :: _, [] => none

/-! ## closed arguments -/
mutual
def tyClosed : Ty → Bool
  | .num _ => true
  | .none _ => true
  | .evar _ _ _ _ => true
  | .bvar _ _ _ _ => false
  | .tuple ts _ => tyClosedL ts
  | .func ins o ps cs => ps.isEmpty && inClosedL ins && tyClosed o && constClosedL cs
  | .opaque _ as => argClosedL as
  | .struct _ as _ => argClosedL as
def tyClosedL : List Ty → Bool
  | [] => true
  | t :: ts => tyClosed t && tyClosedL ts
def inClosed : FuncIn → Bool
  | .mk t _ => tyClosed t
def inClosedL : List FuncIn → Bool
  | [] => true
  | t :: ts => inClosed t && inClosedL ts
def argClosed : Arg → Bool
  | .ty t => tyClosed t
  | .const c => constClosed c
def argClosedL : List Arg → Bool
  | [] => true
  | t :: ts => argClosed t && argClosedL ts
def constClosed : Const → Bool
  | .val t _ => tyClosed t
  | .bvar _ _ _ => false
  | .evar t _ _ => tyClosed t
def constClosedL : List Const → Bool
  | [] => true
  | t :: ts => constClosed t && constClosedL ts
end

/-- every given entry of a partial instantiation is closed -/
def pinstClosed (a : PInst) : Prop := ∀ v, some v ∈ a → argClosed v = true

/-! ## scoping -/
mutual
def tyScoped (n : Nat) : Ty → Bool
  | .bvar _ i _ _ => decide (i < n)
  | .tuple ts _ => tyScopedL n ts
  | .func ins o _ cs => inScopedL n ins && tyScoped n o && constScopedL n cs
  | .opaque _ as => argScopedL n as
  | .struct _ as _ => argScopedL n as
  | _ => true
def tyScopedL (n : Nat) : List Ty → Bool
  | [] => true
  | t :: ts => tyScoped n t && tyScopedL n ts
def inScoped (n : Nat) : FuncIn → Bool
  | .mk t _ => tyScoped n t
def inScopedL (n : Nat) : List FuncIn → Bool
  | [] => true
  | t :: ts => inScoped n t && inScopedL n ts
def argScoped (n : Nat) : Arg → Bool
  | .ty t => tyScoped n t
  | .const c => constScoped n c
def argScopedL (n : Nat) : List Arg → Bool
  | [] => true
  | t :: ts => argScoped n t && argScopedL n ts
def constScoped (n : Nat) : Const → Bool
  | .val t _ => tyScoped n t
  | .bvar t _ i => decide (i < n) && tyScoped n t
  | .evar t _ _ => tyScoped n t
def constScopedL (n : Nat) : List Const → Bool
  | [] => true
  | t :: ts => constScoped n t && constScopedL n ts
end

/-- the type of the parameter at position `k + i` only mentions parameters at positions `< k + i` -/
def paramsScoped : Nat → List Param → Bool
  | _, [] => true
  | k, .ty _ _ _ _ :: ps => paramsScoped (k + 1) ps
  | k, .const _ _ t _ :: ps => tyScoped k t && paramsScoped (k + 1) ps

/-- a closed signature -/
def sigScoped : Ty → Bool
  | .func ins o ps cs =>
      inScopedL ps.length ins && tyScoped ps.length o && constScopedL ps.length cs && paramsScoped 0 ps
  | _ => false

/-! ## un-monomorphized positions -/

/-- positions `i` (offset by `k`) with `m[i] = None`, increasing -/
def keptFrom : Nat → PInst → List Nat
  | _, [] => []
  | k, none :: m => k :: keptFrom (k + 1) m
  | k, some _ :: m => keptFrom (k + 1) m

def keptIdx (m : PInst) : List Nat := keptFrom 0 m

/-! ## occurrence of a bound variable (what `bound_vars` collects) -/
mutual
inductive OccTy : Nat → Ty → Prop
  | bvar (n i c d) : OccTy i (.bvar n i c d)
  | tuple {j ts p t} : t ∈ ts → OccTy j t → OccTy j (.tuple ts p)
  | funcIn {j ins o cs t f} : FuncIn.mk t f ∈ ins → OccTy j t → OccTy j (.func ins o [] cs)
  | funcOut {j ins o cs} : OccTy j o → OccTy j (.func ins o [] cs)
  | funcC {j ins o cs c} : c ∈ cs → OccConst j c → OccTy j (.func ins o [] cs)
  | opaqueT {j n as t} : Arg.ty t ∈ as → OccTy j t → OccTy j (.opaque n as)
  | opaqueC {j n as c} : Arg.const c ∈ as → OccConst j c → OccTy j (.opaque n as)
  | structT {j n as fs t} : Arg.ty t ∈ as → OccTy j t → OccTy j (.struct n as fs)
  | structC {j n as fs c} : Arg.const c ∈ as → OccConst j c → OccTy j (.struct n as fs)
inductive OccConst : Nat → Const → Prop
  | self (t n i) : OccConst i (.bvar t n i)
  | bvarTy {j t n i} : OccTy j t → OccConst j (.bvar t n i)
  | valTy {j t v} : OccTy j t → OccConst j (.val t v)
  | evarTy {j t n i} : OccTy j t → OccConst j (.evar t n i)
end

/-- parameters are numbered by position (what every real signature satisfies) -/
def paramIdxOk : Nat → List Param → Bool
  | _, [] => true
  | k, .ty i _ _ _ :: ps => i == k && paramIdxOk (k + 1) ps
  | k, .const i _ _ _ :: ps => i == k && paramIdxOk (k + 1) ps

end GuppyVerif.Instantiate
