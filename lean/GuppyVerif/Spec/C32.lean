import GuppyVerif.Model.C32Coverage
/-! # C32 — specification vocabulary

`semanticFields` is the fixed list, written from Python 3.12's abstract grammar
(https://docs.python.org/3.12/library/ast.html#abstract-grammar), of the (node kind, field)
pairs whose content changes what a Python program means.  Everything the grammar has that is *not*
in this list is in `nonSemanticFields`, with the reason:

* `type_comment` — only populated by `ast.parse(type_comments=True)`, never affects execution;
* `ctx` (Load/Store/Del) — determined by the node's position, redundant;
* `Constant.kind` — the `u` prefix of a string literal, no runtime meaning;
* `AnnAssign.simple` — whether the target was written without parentheses, no runtime meaning
  for the targets Guppy accepts.

`grammar_classified` (Props) proves the two lists cover the regenerated grammar, so a new grammar
field cannot go unnoticed.  The names are constructors of the *generated* enumerations, so a kind or
field that disappears from the grammar makes this file fail to compile. -/
namespace GuppyVerif.C32

def semanticFields : List (Kind × Field) := [
  (.AnnAssign, .f_annotation), (.AnnAssign, .f_target), (.AnnAssign, .f_value), (.Assert, .f_msg), (.Assert,
  .f_test), (.Assign, .f_targets), (.Assign, .f_value), (.AsyncFor, .f_body), (.AsyncFor, .f_iter), (.AsyncFor,
  .f_orelse), (.AsyncFor, .f_target), (.AsyncFunctionDef, .f_args), (.AsyncFunctionDef, .f_body),
  (.AsyncFunctionDef, .f_decorator_list), (.AsyncFunctionDef, .f_name), (.AsyncFunctionDef, .f_returns),
  (.AsyncFunctionDef, .f_type_params), (.AsyncWith, .f_body), (.AsyncWith, .f_items), (.Attribute, .f_attr),
  (.Attribute, .f_value), (.AugAssign, .f_op), (.AugAssign, .f_target), (.AugAssign, .f_value), (.Await,
  .f_value), (.BinOp, .f_left), (.BinOp, .f_op), (.BinOp, .f_right), (.BoolOp, .f_op), (.BoolOp, .f_values),
  (.Call, .f_args), (.Call, .f_func), (.Call, .f_keywords), (.ClassDef, .f_bases), (.ClassDef, .f_body),
  (.ClassDef, .f_decorator_list), (.ClassDef, .f_keywords), (.ClassDef, .f_name), (.ClassDef, .f_type_params),
  (.Compare, .f_comparators), (.Compare, .f_left), (.Compare, .f_ops), (.Constant, .f_value), (.Delete,
  .f_targets), (.Dict, .f_keys), (.Dict, .f_values), (.DictComp, .f_generators), (.DictComp, .f_key),
  (.DictComp, .f_value), (.ExceptHandler, .f_body), (.ExceptHandler, .f_name), (.ExceptHandler, .f_type),
  (.Expr, .f_value), (.For, .f_body), (.For, .f_iter), (.For, .f_orelse), (.For, .f_target), (.FormattedValue,
  .f_conversion), (.FormattedValue, .f_format_spec), (.FormattedValue, .f_value), (.FunctionDef, .f_args),
  (.FunctionDef, .f_body), (.FunctionDef, .f_decorator_list), (.FunctionDef, .f_name), (.FunctionDef,
  .f_returns), (.FunctionDef, .f_type_params), (.GeneratorExp, .f_elt), (.GeneratorExp, .f_generators),
  (.Global, .f_names), (.If, .f_body), (.If, .f_orelse), (.If, .f_test), (.IfExp, .f_body), (.IfExp, .f_orelse),
  (.IfExp, .f_test), (.Import, .f_names), (.ImportFrom, .f_level), (.ImportFrom, .f_module), (.ImportFrom,
  .f_names), (.JoinedStr, .f_values), (.Lambda, .f_args), (.Lambda, .f_body), (.List, .f_elts), (.ListComp,
  .f_elt), (.ListComp, .f_generators), (.Match, .f_cases), (.Match, .f_subject), (.MatchAs, .f_name), (.MatchAs,
  .f_pattern), (.MatchClass, .f_cls), (.MatchClass, .f_kwd_attrs), (.MatchClass, .f_kwd_patterns), (.MatchClass,
  .f_patterns), (.MatchMapping, .f_keys), (.MatchMapping, .f_patterns), (.MatchMapping, .f_rest), (.MatchOr,
  .f_patterns), (.MatchSequence, .f_patterns), (.MatchSingleton, .f_value), (.MatchStar, .f_name), (.MatchValue,
  .f_value), (.Name, .f_id), (.NamedExpr, .f_target), (.NamedExpr, .f_value), (.Nonlocal, .f_names),
  (.ParamSpec, .f_name), (.Raise, .f_cause), (.Raise, .f_exc), (.Return, .f_value), (.Set, .f_elts), (.SetComp,
  .f_elt), (.SetComp, .f_generators), (.Slice, .f_lower), (.Slice, .f_step), (.Slice, .f_upper), (.Starred,
  .f_value), (.Subscript, .f_slice), (.Subscript, .f_value), (.Try, .f_body), (.Try, .f_finalbody), (.Try,
  .f_handlers), (.Try, .f_orelse), (.TryStar, .f_body), (.TryStar, .f_finalbody), (.TryStar, .f_handlers),
  (.TryStar, .f_orelse), (.Tuple, .f_elts), (.TypeAlias, .f_name), (.TypeAlias, .f_type_params), (.TypeAlias,
  .f_value), (.TypeVar, .f_bound), (.TypeVar, .f_name), (.TypeVarTuple, .f_name), (.UnaryOp, .f_op), (.UnaryOp,
  .f_operand), (.While, .f_body), (.While, .f_orelse), (.While, .f_test), (.With, .f_body), (.With, .f_items),
  (.Yield, .f_value), (.YieldFrom, .f_value), (.alias, .f_asname), (.alias, .f_name), (.arg, .f_annotation),
  (.arg, .f_arg), (.arguments, .f_args), (.arguments, .f_defaults), (.arguments, .f_kw_defaults), (.arguments,
  .f_kwarg), (.arguments, .f_kwonlyargs), (.arguments, .f_posonlyargs), (.arguments, .f_vararg),
  (.comprehension, .f_ifs), (.comprehension, .f_is_async), (.comprehension, .f_iter), (.comprehension,
  .f_target), (.keyword, .f_arg), (.keyword, .f_value), (.match_case, .f_body), (.match_case, .f_guard),
  (.match_case, .f_pattern), (.withitem, .f_context_expr), (.withitem, .f_optional_vars)]

def nonSemanticFields : List (Kind × Field) := [
  (.AnnAssign, .f_simple), (.Assign, .f_type_comment), (.AsyncFor, .f_type_comment),
  (.AsyncFunctionDef, .f_type_comment), (.AsyncWith, .f_type_comment), (.Attribute, .f_ctx),
  (.Constant, .f_kind), (.For, .f_type_comment), (.FunctionDef, .f_type_comment), (.List, .f_ctx),
  (.Name, .f_ctx), (.Starred, .f_ctx), (.Subscript, .f_ctx), (.Tuple, .f_ctx), (.With, .f_type_comment),
  (.arg, .f_type_comment)]

/-- A list equation, so order matters: `c32_extract.py` emits the grammar `sorted` by (kind, field), as the two lists are. -/
theorem grammar_split :
    (grammar.map fun r => (r.kind, r.field)).partition (nonSemanticFields.contains ·) =
      (nonSemanticFields, semanticFields) := by
  decide +kernel

theorem mem_grammar_iff (p : Kind × Field) :
    p ∈ grammar.map (fun r => (r.kind, r.field)) ↔ p ∈ semanticFields ∨ p ∈ nonSemanticFields := by
  rw [List.mem_partition (p := (nonSemanticFields.contains ·)), grammar_split, or_comm]

/-- Grammar facts linking two fields of one node: the second can only be populated when the first is
    (`kw_defaults` has exactly one entry per keyword-only parameter), so rejecting a populated
    first field rejects every populated second field. -/
def grammarGuard : Kind → Field → Option (Kind × Field)
  | .arguments, .f_kw_defaults => some (.arguments, .f_kwonlyargs)
  | _, _ => none

/-- depth of the longest chain of dispatcher-less kinds in the grammar
    (`arg ← arguments ← FunctionDef`, `pattern ← match_case ← Match`), plus slack (out of fuel `disp` answers `.ignored`, which fails `Covered`) -/
def fuel : Nat := 6

/-- The property, for one table: the field is looked at by some stage, or the node / the field /
    every way to reach the node is rejected with a user error — it is not silently dropped. -/
def Covered (T : Tables) (k : Kind) (f : Field) : Prop :=
  disp T fuel k f ≠ .ignored ∨
    ∃ g, grammarGuard k f = some g ∧ (disp T fuel g.1 g.2).blocked = true

/-- Statement kinds whose visitor must hand the statement on to the checker (they carry an expression to be
    evaluated / a definition, and are not turned into control flow by the builder). -/
def valueStatements : List Kind := [.Assign, .AugAssign, .AnnAssign, .Return, .Expr, .FunctionDef, .With]

/-- A value-bearing statement is recorded in its basic block — unconditionally, or dropped only under a
    condition that includes "the value is a compiler temporary" (`is_tmp_var`: the result variable of a
    desugared branching expression, whose evaluation has already been emitted). -/
def recordedOK (recs : List (Kind × RecordHow)) (k : Kind) : Bool :=
  match recs.lookup k with
  | some .always => true
  | some (.guarded atoms) => atoms.contains .tmpVar && !atoms.contains .unanalysable
  | _ => false

/-- A stage that looks at a list-typed field (statement lists, `targets`, `elts`, `args`, `ifs`, …) consumes the whole
    list somewhere — not just one element by constant index or its truth value (`gen.ifs[0]` under `if gen.ifs:` would
    lower the first `if` guard of a comprehension and drop the others). -/
def listReadOK (rs : List (Stage × Kind × Field × ListRead)) (r : Stage × Kind × Field × ListRead) : Bool :=
  rs.any fun q => q.1 = r.1 ∧ q.2.1 = r.2.1 ∧ q.2.2.1 = r.2.2.1 ∧ q.2.2.2 = .whole

/-- executable form of `Covered` -/
def coveredB (T : Tables) (k : Kind) (f : Field) : Bool :=
  decide (disp T fuel k f ≠ .ignored) ||
    match grammarGuard k f with
    | some g => (disp T fuel g.1 g.2).blocked
    | none => false

theorem coveredB_iff (T : Tables) (k : Kind) (f : Field) : coveredB T k f = true ↔ Covered T k f := by
  unfold coveredB Covered
  cases grammarGuard k f with
  | none => simp
  | some g => simp

instance (T : Tables) (k : Kind) (f : Field) : Decidable (Covered T k f) :=
  decidable_of_iff _ (coveredB_iff T k f)

end GuppyVerif.C32
