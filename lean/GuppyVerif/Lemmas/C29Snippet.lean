import GuppyVerif.Lemmas.C29
/-! `render_snippet` and `render_diagnostic`. A rendered row is a record `Parsed` written by `showRow` and read back by
    `parseLine`; every function of the model is given by one equation (`wrap_eq`, `renderLabel_eq`, `prepare_eq`,
    `renderSnippet_eq` over the explicit rows `snippetRows`, `renderDiagnostic_eq`), and what the output shows (`Shows`) is
    read off the right-hand sides. -/
namespace GuppyVerif.Render

theorem digitChar_toNat : ∀ d : Nat, d < 10 → (Char.ofNat (48 + d)).toNat = 48 + d := by decide

theorem digitChar_ne : ∀ d : Nat, d < 10 → Char.ofNat (48 + d) ≠ '|' ∧ Char.ofNat (48 + d) ≠ ' ' := by decide

theorem decVal_concat (a : Str) (c : Char) : decVal (a ++ [c]) = 10 * decVal a + (c.toNat - 48) := by
  simp [decVal, List.foldl_append]

theorem decVal_digits (n : Nat) : decVal (digits n) = n := by
  fun_induction digits n with
  | case1 n h => simp [decVal, digitChar_toNat n h]
  | case2 n h ih => rw [decVal_concat, ih, digitChar_toNat _ (Nat.mod_lt _ (by omega))]; omega

theorem digits_ne_nil (n : Nat) : digits n ≠ [] := by
  rw [digits]; split <;> simp

theorem digits_chars (n : Nat) : ∀ c ∈ digits n, c ≠ '|' ∧ c ≠ ' ' := by
  fun_induction digits n with
  | case1 n h => exact List.forall_mem_singleton.mpr (digitChar_ne n h)
  | case2 n h ih =>
    exact List.forall_mem_append.mpr ⟨ih, List.forall_mem_singleton.mpr (digitChar_ne _ (Nat.mod_lt _ (by omega)))⟩

theorem parseLine_gutter (k : Nat) (g body : Str) (hg : ∀ c ∈ g, c ≠ '|' ∧ c ≠ ' ') :
    parseLine (List.replicate k ' ' ++ g ++ [' ', '|', ' '] ++ body)
      = ⟨if g.isEmpty then none else some (decVal g), body⟩ := by
  have hl : List.replicate k ' ' ++ g ++ [' ', '|', ' '] ++ body
      = (List.replicate k ' ' ++ g ++ [' ']) ++ '|' :: ' ' :: body := by simp
  have htw : (List.replicate k ' ' ++ g ++ [' ', '|', ' '] ++ body).takeWhile (· != '|')
      = List.replicate k ' ' ++ g ++ [' '] := by
    rw [hl, List.takeWhile_append_of_pos, List.takeWhile_cons_of_neg (by decide), List.append_nil]
    intro c hc
    simp only [List.mem_append, List.mem_replicate, List.mem_singleton] at hc
    rcases hc with (⟨_, rfl⟩ | hc) | rfl
    · decide
    · simpa using (hg c hc).1
    · decide
  have hf : (List.replicate k ' ' ++ g ++ [' ']).filter (· != ' ') = g := by
    rw [List.filter_append, List.filter_append, List.filter_replicate,
      List.filter_eq_self.mpr fun c hc => by simpa using (hg c hc).2]
    simp
  unfold parseLine
  simp only [htw, hf]
  exact congrArg _ (List.drop_left' (by simp +arith))

def showRow (ll : Nat) (p : Parsed) : Str := renderLine ll p.body p.num

theorem parseLine_showRow (ll : Nat) (p : Parsed) : parseLine (showRow ll p) = p := by
  obtain ⟨num, body⟩ := p
  cases num with
  | none => exact parseLine_gutter _ [] _ nofun
  | some n =>
    have hne : (digits n).isEmpty = false := by simpa using digits_ne_nil n
    rw [showRow, renderLine, parseLine_gutter _ _ _ (digits_chars n), hne, decVal_digits]
    rfl

def Parsed.entry (p : Parsed) : Option (Nat × Str) := p.num.map (·, p.body)

theorem numbered_showRows (ll : Nat) (rows : List Parsed) :
    numbered (rows.map (showRow ll)) = rows.filterMap Parsed.entry := by
  unfold numbered
  rw [List.filterMap_map]
  congr 1
  funext p
  simp only [Function.comp_apply, parseLine_showRow, Parsed.entry]
  cases p.num <;> rfl

theorem markerUnder_showRows (ll : Nat) {rows pre rest : List Parsed} {k : Nat} {body : Str} {a b : Nat} {hl : Char}
    {tail : Str} (h : rows = pre ++ ⟨some k, body⟩ :: ⟨none, highlight hl a b ++ tail⟩ :: rest) :
    MarkerUnder (rows.map (showRow ll)) k body a (b - a) hl tail :=
  ⟨pre.map (showRow ll), showRow ll _, showRow ll _, rest.map (showRow ll), by rw [h, List.map_append]; rfl,
    parseLine_showRow _ _, parseLine_showRow _ _⟩

theorem take_drop_eq_lines (src : List Str) (a b : Nat) (hab : a ≤ b) (hb : b ≤ src.length) :
    (src.take b).drop a = (List.range' (a + 1) (b - a)).map (srcLine src) := by
  apply List.ext_getElem
  · simp [List.length_drop, List.length_take]; omega
  · intro i h1 h2
    simp only [List.length_drop, List.length_take] at h1
    have : a + i < src.length := by omega
    simp [srcLine, List.getD_eq_getElem?_getD, Nat.add_right_comm a 1 i, this]

theorem minList_eq_min? (l : List Nat) : minList l = l.min? := by
  induction l with
  | nil => rfl
  | cons x xs ih =>
    rw [minList, ih, List.min?_cons]
    cases xs.min? with
    | none => rfl
    | some m => simp only [Option.elim]; congr 1; split <;> omega

theorem orEmptyLine_eq_cons : ∀ ls : List Str, ∃ a b, orEmptyLine ls = a :: b
  | [] => ⟨[], [], rfl⟩
  | a :: b => ⟨a, b, rfl⟩

theorem wrapLines_eq_cons (text : Str) (w : Nat) : ∃ f r, wrapLines text w = f :: r := by
  obtain ⟨p, ps, h⟩ := orEmptyLine_eq_cons (splitlines text)
  obtain ⟨a, b, h2⟩ := orEmptyLine_eq_cons (textwrap w p)
  exact ⟨a, b ++ _, by rw [wrapLines, h, List.flatMap_cons, h2]; rfl⟩

/-- the indents `diagnostic.wrap` puts before the first and the later lines -/
def indent (ii si : Str) : List Str → List Str
  | [] => []
  | f :: r => (ii ++ f) :: r.map (si ++ ·)

theorem wrap_eq (text : Str) (w : Nat) (ii si : Str) : wrap text w ii si = .ok (indent ii si (wrapLines text w)) := by
  obtain ⟨f, r, h⟩ := wrapLines_eq_cons text w
  rw [wrap, h]
  rfl

/-- the bodies of the rows `renderLabel` makes: the highlight `H`, followed by a blank and the wrapped label if there is one -/
def labelBodies (H : Str) (label : Option Str) : List Str :=
  match truthy label with
  | none => [H]
  | some l => indent (H ++ [' ']) (List.replicate (H.length + 1) ' ') (wrapLines l MAX_LABEL_LINE_LEN)

theorem renderLabel_eq (ll : Nat) (H : Str) (label : Option Str) :
    renderLabel ll H label = .ok ((labelBodies H label).map (renderLine ll · none)) := by
  unfold renderLabel labelBodies
  split
  · rename_i c cs
    obtain ⟨f, r, h⟩ := wrapLines_eq_cons (c :: cs) MAX_LABEL_LINE_LEN
    simp [wrap_eq, truthy, h, indent]
  · rename_i hne
    have : truthy label = none := by
      unfold truthy; split
      · exact absurd rfl (hne _ _)
      · rfl
    rw [this]; rfl

theorem labelBodies_head (label : Option Str) :
    ∃ tail, (tail = [] ∨ ∃ t, tail = ' ' :: t) ∧ ∀ H, ∃ more, labelBodies H label = (H ++ tail) :: more := by
  unfold labelBodies
  split
  · exact ⟨[], .inl rfl, fun H => ⟨[], by simp⟩⟩
  · rename_i l _
    obtain ⟨f, r, h⟩ := wrapLines_eq_cons l MAX_LABEL_LINE_LEN
    exact ⟨' ' :: f, .inr ⟨f, rfl⟩, fun H => ⟨r.map (List.replicate (H.length + 1) ' ' ++ ·), by simp [h, indent]⟩⟩

/-! ### `prepare` -/

theorem ctxLines_lt (s : Span) (pfx : Nat) (h : 1 ≤ s.start.line) : ctxLines s pfx < s.start.line := by
  unfold ctxLines; omega

theorem block_eq (src : List Str) (s : Span) (pfx : Nat) (hin : InSource src s)
    (hle : s.start.line ≤ s.stop.line) :
    block src s pfx = (List.range' (s.start.line - ctxLines s pfx)
      (ctxLines s pfx + (s.stop.line - s.start.line + 1))).map (srcLine src) := by
  have hc := ctxLines_lt s pfx hin.1
  unfold block
  rw [take_drop_eq_lines src _ _ (by omega) hin.2.1]
  congr 2 <;> omega

theorem block_ne_nil (src : List Str) (s : Span) (pfx : Nat) (hin : InSource src s)
    (hle : s.start.line ≤ s.stop.line) : block src s pfx ≠ [] := by
  rw [block_eq src s pfx hin hle]
  intro h
  have := congrArg List.length h
  simp at this

theorem removed_le_leadingWs (src : List Str) (s : Span) (pfx : Nat) (hin : InSource src s)
    (hle : s.start.line ≤ s.stop.line) (k : Nat) (h1 : s.start.line - ctxLines s pfx ≤ k)
    (h2 : k ≤ s.stop.line) : removed src s pfx ≤ leadingWs (srcLine src k) := by
  unfold removed
  cases hm : minList ((block src s pfx).map leadingWs) with
  | none => exact Nat.zero_le _
  | some lw =>
    have hc := ctxLines_lt s pfx hin.1
    have mk : leadingWs (srcLine src k) ∈ (block src s pfx).map leadingWs := by
      rw [block_eq src s pfx hin hle]
      exact List.mem_map_of_mem (List.mem_map_of_mem (List.mem_range'_1.mpr ⟨h1, by omega⟩))
    have := (List.min?_eq_some_iff.mp ((minList_eq_min? _).symm.trans hm)).2 _ mk
    simp only
    split <;> omega

theorem Span.Valid.le {s : Span} (h : s.Valid) : s.start.line ≤ s.stop.line := by
  rcases h with h | h <;> omega

/-- `removed` computes over `block` what `prepare` computes as `remove` over the same slice (`hb`), so `ShiftSafe`
    says that neither assertion of `shift_left` fires. -/
theorem prepare_eq (src : List Str) (s : Span) (pfx : Nat) (hin : InSource src s) (hv : s.Valid) :
    prepare src s pfx =
      if ShiftSafe src s pfx then
        .ok ⟨ctxLines s pfx, removed src s pfx, (block src s pfx).map (·.drop (removed src s pfx)),
          ⟨⟨s.start.line, s.start.col - removed src s pfx⟩, ⟨s.stop.line, s.stop.col - removed src s pfx⟩⟩⟩
      else .error .assertion := by
  have hne := block_ne_nil src s pfx hin hv.le
  obtain ⟨lw, hm⟩ : ∃ lw, minList (List.map leadingWs (block src s pfx)) = some lw := by
    rw [minList_eq_min?, ← Option.isSome_iff_exists, List.isSome_min?_iff]
    simpa using hne
  have hb : pySlice src (s.start.line - min pfx (s.start.line - 1) - 1) s.stop.line = block src s pfx := rfl
  unfold prepare ShiftSafe removed
  simp only [hb, hm, MAX_LEADING_WHITESPACE, OPTIMAL_LEADING_WHITESPACE, ctxLines]
  by_cases hlw : lw > 12
  · simp only [if_pos hlw]
    by_cases h1 : s.start.col < lw - 4
    · rw [if_pos h1, if_neg (by omega)]
    · by_cases h2 : s.stop.col < lw - 4
      · rw [if_neg h1, if_pos h2, if_neg (by omega)]
      · rw [if_neg h1, if_neg h2, if_pos (by omega)]
  · simp [hlw]

/-! ### the rows of a snippet -/

def tline (src : List Str) (r k : Nat) : Str := (srcLine src k).drop r

theorem getLast_map_range' (F : Nat → Str) (a n : Nat) (h : (List.range' a (n + 1)).map F ≠ []) :
    ((List.range' a (n + 1)).map F).getLast h = F (a + n) := by
  rw [List.getLast_map, List.getLast_range']
  congr 1

def lastHighlight (s : Span) (hl : Char) (r : Nat) : Str :=
  if s.start.line = s.stop.line then highlight hl (s.start.col - r) (s.stop.col - r)
  else highlight hl 0 (s.stop.col - r)

theorem highlight_eq (hl : Char) (a b : Nat) :
    highlight hl a b = List.replicate a ' ' ++ List.replicate (b - a) hl := rfl

def ctxNums (s : Span) (pfx : Nat) : List Nat := List.range' (s.start.line - ctxLines s pfx) (ctxLines s pfx)

theorem shown_eq (s : Span) (pfx : Nat) (h1 : 1 ≤ s.start.line) :
    shown s pfx = ctxNums s pfx ++ s.start.line :: (if s.start.line = s.stop.line then [] else [s.stop.line]) := by
  have hc := ctxLines_lt s pfx h1
  unfold shown ctxNums
  rw [List.range_eq_range', List.map_add_range', List.range'_concat, List.append_assoc, Nat.add_zero, Nat.one_mul,
    Nat.sub_add_cancel (Nat.le_of_lt hc)]
  rfl

def numRow (src : List Str) (r k : Nat) : Parsed := ⟨some k, tline src r k⟩
def plain (b : Str) : Parsed := ⟨none, b⟩

def spanRows (src : List Str) (s : Span) (hl : Char) (r : Nat) : List Parsed :=
  (if s.start.line = s.stop.line then []
    else numRow src r s.start.line :: plain (highlight hl (s.start.col - r) (tline src r s.start.line).length) ::
      (if s.stop.line = s.start.line + 1 then [] else [plain ['.', '.', '.']])) ++ [numRow src r s.stop.line]

/-- blank row, context rows, span rows, then the marker row of the last span line with the label -/
def snippetRows (src : List Str) (s : Span) (hl : Char) (pfx r : Nat) (label : Option Str) : List Parsed :=
  plain [] :: (ctxNums s pfx).map (numRow src r) ++ spanRows src s hl r ++
    (labelBodies (lastHighlight s hl r) label).map plain

/-- what `render_snippet` returns -/
def snippetOut (src : List Str) (s : Span) (label : Option Str) (maxLn : Nat) (prim : Bool) (pfx : Nat) : List Str :=
  (snippetRows src s (if prim then '^' else '-') pfx (removed src s pfx) label).map (showRow (digits maxLn).length)

theorem renderPrefix_nums (ll L pl : Nat) (g : Nat → Str) (n i : Nat) :
    renderPrefix ll L pl ((List.range' (L - pl + i) n).map g) i
      = (List.range' (L - pl + i) n).map (fun k => renderLine ll (g k) (some k)) := by
  induction n generalizing i with
  | zero => rfl
  | succ n ih => simp only [List.range'_succ, List.map_cons, renderPrefix]; exact congrArg _ (ih (i + 1))

/-- `[first, *middle, last] = span_lines`, after the context rows -/
theorem block_rows (src : List Str) (s : Span) (pfx r : Nat) (hin : InSource src s)
    (hle : s.start.line ≤ s.stop.line) :
    (block src s pfx).map (·.drop r) =
      (ctxNums s pfx).map (tline src r) ++
        (if s.start.line = s.stop.line then [tline src r s.stop.line]
          else tline src r s.start.line ::
            (List.range' (s.start.line + 1) (s.stop.line - s.start.line - 1)).map (tline src r) ++
              [tline src r s.stop.line]) := by
  have hfirst := Nat.sub_add_cancel (Nat.le_of_lt (ctxLines_lt s pfx hin.1))
  have hall : (block src s pfx).map (·.drop r)
      = (ctxNums s pfx).map (tline src r) ++ (List.range' s.start.line (s.stop.line - s.start.line + 1)).map (tline src r) := by
    rw [block_eq src s pfx hin hle, ← List.range'_append_1, hfirst, List.map_append, List.map_append, List.map_map,
      List.map_map]
    rfl
  rw [hall]
  by_cases hsingle : s.start.line = s.stop.line
  · rw [if_pos hsingle, ← hsingle, Nat.sub_self]; rfl
  · obtain ⟨d, hd⟩ := Nat.exists_eq_add_of_lt (Nat.lt_of_le_of_ne hle hsingle)
    rw [if_neg hsingle, hd, Nat.add_assoc, Nat.add_sub_cancel_left, Nat.add_sub_cancel, List.range'_succ,
      List.range'_1_concat, List.map_cons, List.map_append, List.cons_append, List.map_singleton, Nat.add_assoc,
      Nat.add_comm 1 d]

theorem renderSnippet_eq (src : List Str) (s : Span) (label : Option Str) (maxLn : Nat) (prim : Bool)
    (pfx : Nat) (hin : InSource src s) (hv : s.Valid) :
    renderSnippet src s label maxLn prim pfx =
      if ShiftSafe src s pfx then .ok (snippetOut src s label maxLn prim pfx) else .error .assertion := by
  unfold renderSnippet snippetOut
  rw [prepare_eq src s pfx hin hv]
  by_cases hsafe : ShiftSafe src s pfx
  case neg => rw [if_neg hsafe, if_neg hsafe]; rfl
  rw [if_pos hsafe, if_pos hsafe]
  generalize hr : removed src s pfx = r at *
  generalize hhl : (if prim then '^' else '-') = hl
  generalize hll : (digits maxLn).length = ll
  have hall := block_rows src s pfx r hin hv.le
  generalize hmid : (List.range' (s.start.line + 1) (s.stop.line - s.start.line - 1)).map (tline src r) = mid at hall
  have hlen : ((ctxNums s pfx).map (tline src r)).length = ctxLines s pfx := by simp [ctxNums]
  have hpre : renderPrefix ll s.start.line (ctxLines s pfx) ((ctxNums s pfx).map (tline src r)) 0
      = (ctxNums s pfx).map (fun k => renderLine ll (tline src r k) (some k)) :=
    renderPrefix_nums ll s.start.line (ctxLines s pfx) (tline src r) (ctxLines s pfx) 0
  simp only [bind, Except.bind, hall]
  rw [List.take_left' hlen, List.drop_left' hlen, hpre]
  by_cases hsingle : s.start.line = s.stop.line
  · simp [hsingle, renderLabel_eq, snippetRows, spanRows, lastHighlight, showRow, plain, numRow, Function.comp_def]
  · have hcol : ¬ (tline src r s.start.line).length < s.start.col - r := by
      have h1 := hin.2.2.1
      have h2 := hsafe.1
      simp only [tline, List.length_drop]
      omega
    replace hmid : mid = [] ↔ s.stop.line = s.start.line + 1 := by
      have := hv.le
      rw [← hmid, List.map_eq_nil_iff, List.range'_eq_nil_iff]
      omega
    cases mid with
    | nil =>
      simp [hcol, renderLabel_eq, hmid.mp rfl, snippetRows, spanRows, lastHighlight, showRow, plain, numRow,
        Function.comp_def]
    | cons x xs =>
      have : ¬ s.stop.line = s.start.line + 1 := fun h => nomatch hmid.mpr h
      have e1 : (x :: (xs ++ [tline src r s.stop.line])).dropLast = x :: xs := by
        rw [← List.cons_append, List.dropLast_concat]
      have e2 h : (x :: (xs ++ [tline src r s.stop.line])).getLast h = tline src r s.stop.line := by
        simp only [← List.cons_append, List.getLast_concat]
      simp [hsingle, hcol, renderLabel_eq, this, e1, e2, snippetRows, spanRows, lastHighlight, showRow, plain, numRow,
        Function.comp_def]

theorem entries_numRow (src : List Str) (r : Nat) (ks : List Nat) :
    (ks.map (numRow src r)).filterMap Parsed.entry = ks.map fun k => (k, tline src r k) := by
  induction ks with
  | nil => rfl
  | cons k ks ih => rw [List.map_cons, List.filterMap_cons, ih]; rfl

theorem entries_plain (bs : List Str) : (bs.map plain).filterMap Parsed.entry = [] := by
  induction bs with
  | nil => rfl
  | cons b bs ih => rw [List.map_cons, List.filterMap_cons, ih]; rfl

theorem entries_snippetRows (src : List Str) (s : Span) (hl : Char) (pfx r : Nat) (label : Option Str)
    (h1 : 1 ≤ s.start.line) :
    (snippetRows src s hl pfx r label).filterMap Parsed.entry = (shown s pfx).map fun k => (k, tline src r k) := by
  have e1 (k : Nat) : (numRow src r k).entry = some (k, tline src r k) := rfl
  have e2 (b : Str) : (plain b).entry = none := rfl
  rw [shown_eq s pfx h1, snippetRows, spanRows]
  simp only [List.filterMap_append, List.filterMap_cons, List.filterMap_nil, entries_numRow, entries_plain, e1, e2,
    List.append_nil, List.map_append]
  split
  · rename_i h; rw [h]; rfl
  · split <;> rfl

theorem snippetRows_last (src : List Str) (s : Span) (hl : Char) (pfx r : Nat) (label : Option Str) :
    ∃ tail, (tail = [] ∨ ∃ t, tail = ' ' :: t) ∧ ∃ pre more, snippetRows src s hl pfx r label =
      pre ++ numRow src r s.stop.line :: plain (lastHighlight s hl r ++ tail) :: more := by
  obtain ⟨tail, htail, hlab⟩ := labelBodies_head label
  obtain ⟨more, hm⟩ := hlab (lastHighlight s hl r)
  refine ⟨tail, htail, plain [] :: (ctxNums s pfx).map (numRow src r) ++ (spanRows src s hl r).dropLast,
    more.map plain, ?_⟩
  rw [snippetRows, hm, spanRows, List.dropLast_concat, ← List.append_assoc, List.append_assoc]
  rfl

theorem snippetRows_first (src : List Str) (s : Span) (hl : Char) (pfx r : Nat) (label : Option Str)
    (h : s.start.line ≠ s.stop.line) :
    ∃ pre rest, snippetRows src s hl pfx r label = pre ++ numRow src r s.start.line ::
      plain (highlight hl (s.start.col - r) (tline src r s.start.line).length) :: rest := by
  refine ⟨plain [] :: (ctxNums s pfx).map (numRow src r),
    (if s.stop.line = s.start.line + 1 then [] else [plain ['.', '.', '.']]) ++
      ([numRow src r s.stop.line] ++ (labelBodies (lastHighlight s hl r) label).map plain), ?_⟩
  rw [snippetRows, spanRows, if_neg h, List.append_assoc, List.append_assoc]
  rfl

/-! ### content -/

theorem sublist_renderLine (ll : Nat) (b : Str) (n : Option Nat) : b.Sublist (renderLine ll b n) := by
  unfold renderLine; exact List.sublist_append_right _ _

/-- the visible characters of `t` appear, in order, in the rows `out` -/
abbrev Shows (out : List Str) (t : Str) : Prop := (vis t).Sublist out.flatten

theorem Shows.left {a : List Str} {t : Str} (h : Shows a t) (b : List Str) : Shows (a ++ b) t := by
  unfold Shows; rw [List.flatten_append]; exact h.trans (List.sublist_append_left _ _)

theorem Shows.right {b : List Str} {t : Str} (h : Shows b t) (a : List Str) : Shows (a ++ b) t := by
  unfold Shows; rw [List.flatten_append]; exact h.trans (List.sublist_append_right _ _)

theorem Shows.head {a t : Str} (h : (vis t).Sublist a) (b : List Str) : Shows (a :: b) t :=
  h.trans (List.sublist_append_left _ _)

theorem Shows.cons {b : List Str} {t : Str} (h : Shows b t) (a : Str) : Shows (a :: b) t :=
  h.trans (List.sublist_append_right _ _)

theorem Shows.flatMap {α} {f : α → List Str} {t : Str} {x : α} {xs : List α} (hx : x ∈ xs) (h : Shows (f x) t) :
    Shows (xs.flatMap f) t := by
  obtain ⟨a, b, rfl⟩ := List.append_of_mem hx
  rw [List.flatMap_append, List.flatMap_cons]
  exact (h.left _).right _

theorem Shows.map {ls : List Str} {t : Str} (h : Shows ls t) {f : Str → Str} (hf : ∀ x : Str, x.Sublist (f x)) :
    Shows (ls.map f) t := h.trans (List.flatten_sublist_map hf ls)

theorem Shows.indent {ls : List Str} {t : Str} (h : Shows ls t) (ii si : Str) : Shows (indent ii si ls) t := by
  refine h.trans ?_
  cases ls with
  | nil => exact .slnil
  | cons x xs =>
    exact List.Sublist.append (List.sublist_append_right _ _)
      (List.flatten_sublist_map (fun _ => List.sublist_append_right _ _) xs)

theorem Shows.of_append {out : List Str} {a t : Str} (h : Shows out (a ++ t)) : Shows out t := by
  unfold Shows at *; rw [vis_append] at h; exact (List.sublist_append_right _ _).trans h

theorem shows_wrapLines (text : Str) (w : Nat) : Shows (wrapLines text w) text := by
  unfold Shows; rw [← vis_wrapLines text w]; exact List.filter_sublist

theorem shows_snippet (src : List Str) (s : Span) (label : Option Str) (maxLn : Nat) (prim : Bool) (pfx : Nat)
    (l : Str) (hl : truthy label = some l) : Shows (snippetOut src s label maxLn prim pfx) l := by
  rw [snippetOut, snippetRows, List.map_append, labelBodies, hl, List.map_map]
  exact (((shows_wrapLines l _).indent _ _).map fun b => sublist_renderLine _ b none).right _

/-! ### `render_diagnostic` -/

def childMessage (c : SubDiag) : List Str :=
  match truthy c.message with
  | some m => [] :: indent [] [] (wrapLines (levelStr c.level ++ [':', ' '] ++ m) MAX_MESSAGE_LINE_LEN)
  | none => []

theorem renderChildMessages_eq (cs : List SubDiag) : renderChildMessages cs = .ok (cs.flatMap childMessage) := by
  induction cs with
  | nil => rfl
  | cons c cs ih =>
    unfold renderChildMessages
    rw [List.flatMap_cons, childMessage]
    cases truthy c.message <;> simp only [ih, wrap_eq, Except.ok_bind] <;> rfl

def childSnippet (src : List Str) (maxLn : Nat) (c : SubDiag) : List Str :=
  match c.span with
  | some sp => snippetOut src sp c.label maxLn false 0
  | none => []

theorem renderChildSnippets_eq (src : List Str) (maxLn : Nat) (cs : List SubDiag)
    (hok : ∀ c ∈ cs, ∀ sp, c.span = some sp → InSource src sp ∧ sp.Valid ∧ ShiftSafe src sp 0) :
    renderChildSnippets src maxLn cs = .ok (cs.flatMap (childSnippet src maxLn)) := by
  induction cs with
  | nil => rfl
  | cons c cs ih =>
    have ih := ih fun c' hc' => hok c' (List.mem_cons_of_mem _ hc')
    unfold renderChildSnippets
    rw [List.flatMap_cons, childSnippet]
    cases hsp : c.span with
    | none => exact ih
    | some sp =>
      obtain ⟨hin, hv, hsafe⟩ := hok c List.mem_cons_self sp hsp
      simp only [ih, renderSnippet_eq src sp c.label maxLn false 0 hin hv, if_pos hsafe, Except.ok_bind]

/-- everything before the children's messages: the wrapped message or title; or the title line, the main snippet,
    the children's snippets and the message -/
def headRows (file : Str) (src : List Str) (d : Diag) : List Str :=
  match d.span with
  | none => indent [] [] (wrapLines (levelStr d.level ++ [':', ' '] ++ (truthy d.message).getD d.title) MAX_MESSAGE_LINE_LEN)
  | some span =>
    let maxLn := maxList ((span :: d.children.filterMap (·.span)).map (·.stop.line))
    (levelStr d.level ++ [':', ' '] ++ d.title ++ " (at ".toList ++ file ++ [':']
        ++ digits span.start.line ++ [':'] ++ digits span.start.col ++ [')']) ::
      snippetOut src span d.label maxLn true PREFIX_CONTEXT_LINES ++ d.children.flatMap (childSnippet src maxLn) ++
      (match truthy d.message with
        | some m => [] :: indent [] [] (wrapLines m MAX_MESSAGE_LINE_LEN)
        | none => [])

theorem renderDiagnostic_eq (file : Str) (src : List Str) (d : Diag) (hd : DiagOK src d) :
    renderDiagnostic file src d = .ok (headRows file src d ++ d.children.flatMap childMessage) := by
  unfold renderDiagnostic headRows
  cases hsp : d.span with
  | none => simp only [wrap_eq, renderChildMessages_eq, Except.ok_bind]
  | some sp =>
    obtain ⟨⟨hin, hv, hsafe⟩, hch⟩ := hd sp hsp
    simp only [renderSnippet_eq src sp _ _ _ _ hin hv, if_pos hsafe, renderChildSnippets_eq src _ _ hch,
      renderChildMessages_eq, Except.ok_bind]
    cases truthy d.message <;> simp only [wrap_eq] <;> rfl

theorem renderDiagnostic_shows (file : Str) (src : List Str) (d : Diag) :
    ∀ t ∈ diagTexts d, Shows (headRows file src d ++ d.children.flatMap childMessage) t := by
  intro t ht
  unfold diagTexts at ht
  unfold headRows
  rcases List.mem_append.mp ht with ht | ht
  · refine Shows.left ?_ _
    cases hsp : d.span with
    | none =>
      simp only [hsp, List.mem_singleton] at ht
      subst ht
      exact (shows_wrapLines _ _).of_append.indent _ _
    | some sp =>
      simp only [hsp, List.mem_append, List.mem_singleton, List.mem_flatMap, Option.mem_toList] at ht
      dsimp only
      rcases ht with ((rfl | hl) | hm) | ⟨c, hc, hcl⟩
      · refine ((Shows.head ?_ _).left _).left _
        simp only [List.append_assoc]
        exact ((List.filter_sublist.trans (List.sublist_append_left _ _)).trans (List.sublist_append_right _ _)).trans
          (List.sublist_append_right _ _)
      · exact (((shows_snippet src sp d.label _ true _ t hl).cons _).left _).left _
      · rw [hm]; exact (((shows_wrapLines _ _).indent _ _).cons []).right _
      · cases hcs : c.span with
        | none => simp [hcs] at hcl
        | some csp =>
          simp only [hcs, Option.mem_toList] at hcl
          refine ((Shows.flatMap hc ?_).right _).left _
          rw [childSnippet, hcs]
          exact shows_snippet src csp c.label _ false 0 t hcl
  · obtain ⟨c, hc, hm⟩ := List.mem_flatMap.mp ht
    refine (Shows.flatMap hc ?_).right _
    rw [childMessage, Option.mem_toList.mp hm]
    exact ((shows_wrapLines _ _).of_append.indent _ _).cons []

end GuppyVerif.Render
