import GuppyVerif.Lemmas.C03State
/-! # C03: shape and predecessors of the blocks the builder creates

One relation `Grow σ σ'` between builder states carries both: blocks stay well shaped (`okB`) and every block created
in between has a predecessor (`HP`), edges only being added (`EMono`).  A block is closed by exactly one `link` or
`branchOn`, which is why the steps that add real edges ask for an open block. -/
namespace GuppyVerif.Builder
open GuppyVerif.Surface

def okB (B : Block) : Prop := B.succs.length ≤ 2 ∧ (B.succs.length = 2 → B.pred ≠ none)

def AllOk (σ : BState) : Prop := ∀ i, okB (σ.blk i)

theorem okB_empty : okB {} := ⟨by decide, by intro h; cases h⟩

theorem okB_le_one {B : Block} (h : B.succs.length ≤ 1) : okB B := ⟨by omega, fun h' => by omega⟩

theorem allOk_newBB {σ : BState} (h : AllOk σ) : AllOk (newBB σ).2 := fun i => by rw [blk_newBB]; exact h i

theorem allOk_upd {σ : BState} (h : AllOk σ) (j : Nat) (f : Block → Block)
    (hf : okB (σ.blk j) → okB (f (σ.blk j))) : AllOk (σ.upd j f) := by
  intro i
  by_cases hij : i = j
  · subst hij
    by_cases hl : i < σ.len
    · rw [blk_upd_same _ _ _ hl]; exact hf (h i)
    · rw [empty_of_ge _ (by simp only [len_upd]; omega)]; exact okB_empty
  · rw [blk_upd_other _ _ _ _ hij]; exact h i

theorem allOk_addStmt {σ : BState} (h : AllOk σ) (b : Nat) (s : BStmt) : AllOk (addStmt b s σ) :=
  allOk_upd h b _ id
theorem allOk_dummyLink {σ : BState} (h : AllOk σ) (a b : Nat) : AllOk (dummyLink a b σ) :=
  allOk_upd h a _ id
theorem allOk_flags {σ : BState} (h : AllOk σ) (v w : Bool) : AllOk { σ with bad := v, internal := w } := h

theorem allOk_link {σ : BState} (h : AllOk σ) {a : Nat} (t : Nat) (ho : (σ.blk a).succs = []) : AllOk (link a t σ) :=
  allOk_upd h a _ fun _ => by rw [ho]; exact ⟨by simp, by intro h; simp at h⟩

theorem allOk_branchOn {σ : BState} (h : AllOk σ) {b : Nat} (p : Expr) (t f : Nat) (ho : (σ.blk b).succs = []) :
    AllOk (branchOn b p t f σ) := by
  rw [branchOn_eq_upd]
  exact allOk_upd h b _ fun _ => by rw [ho]; exact ⟨by simp, by intro _; simp⟩

/-- block `i` has a predecessor over a real or a dummy edge -/
def HP (σ : BState) (i : Nat) : Prop := ∃ j, i ∈ (σ.blk j).succs ∨ i ∈ (σ.blk j).dsuccs

structure EMono (σ σ' : BState) : Prop where
  s : ∀ j i, i ∈ (σ.blk j).succs → i ∈ (σ'.blk j).succs
  d : ∀ j i, i ∈ (σ.blk j).dsuccs → i ∈ (σ'.blk j).dsuccs
  int : σ.internal = true → σ'.internal = true

theorem EMono.refl (σ : BState) : EMono σ σ := ⟨fun _ _ h => h, fun _ _ h => h, fun h => h⟩

theorem EMono.trans {σ σ1 σ2 : BState} (h1 : EMono σ σ1) (h2 : EMono σ1 σ2) : EMono σ σ2 :=
  ⟨fun j i h => h2.s j i (h1.s j i h), fun j i h => h2.d j i (h1.d j i h), fun h => h2.int (h1.int h)⟩

theorem HP.mono {σ σ' : BState} {i : Nat} (h : EMono σ σ') : HP σ i → HP σ' i := by
  rintro ⟨j, hj | hj⟩
  · exact ⟨j, Or.inl (h.s j i hj)⟩
  · exact ⟨j, Or.inr (h.d j i hj)⟩

theorem emono_upd (σ : BState) (k : Nat) (f : Block → Block)
    (hs : ∀ (B : Block) i, i ∈ B.succs → i ∈ (f B).succs)
    (hd : ∀ (B : Block) i, i ∈ B.dsuccs → i ∈ (f B).dsuccs) : EMono σ (σ.upd k f) := by
  have key : ∀ j, (∀ i, i ∈ (σ.blk j).succs → i ∈ ((σ.upd k f).blk j).succs) ∧
      ∀ i, i ∈ (σ.blk j).dsuccs → i ∈ ((σ.upd k f).blk j).dsuccs := by
    intro j
    by_cases hjk : j = k
    · subst hjk
      by_cases hl : j < σ.len
      · rw [blk_upd_same _ _ _ hl]; exact ⟨hs _, hd _⟩
      · rw [empty_of_ge σ (Nat.le_of_not_lt hl)]; exact ⟨fun _ h => (List.not_mem_nil h).elim, fun _ h => (List.not_mem_nil h).elim⟩
    · rw [blk_upd_other _ _ _ _ hjk]; exact ⟨fun _ h => h, fun _ h => h⟩
  exact ⟨fun j => (key j).1, fun j => (key j).2, fun h => h⟩

theorem emono_link (a b : Nat) (σ : BState) : EMono σ (link a b σ) :=
  emono_upd σ a _ (fun _ _ h => List.mem_append.mpr (Or.inl h)) (fun _ _ h => h)
theorem emono_dummyLink (a b : Nat) (σ : BState) : EMono σ (dummyLink a b σ) :=
  emono_upd σ a _ (fun _ _ h => h) (fun _ _ h => List.mem_append.mpr (Or.inl h))
theorem emono_addStmt (b : Nat) (s : BStmt) (σ : BState) : EMono σ (addStmt b s σ) :=
  emono_upd σ b _ (fun _ _ h => h) (fun _ _ h => h)
theorem emono_branchOn (b : Nat) (p : Expr) (t f : Nat) (σ : BState) : EMono σ (branchOn b p t f σ) :=
  ((emono_upd σ b (fun B => { B with pred := some p }) (fun _ _ h => h) (fun _ _ h => h)).trans
    (emono_link _ _ _)).trans (emono_link _ _ _)

theorem emono_newBB (σ : BState) : EMono σ (newBB σ).2 :=
  ⟨fun j i h => by rw [blk_newBB]; exact h, fun j i h => by rw [blk_newBB]; exact h, fun h => h⟩

theorem hp_link (a b : Nat) (σ : BState) (h : a < σ.len) : HP (link a b σ) b :=
  ⟨a, Or.inl (by rw [blk_link_same _ _ _ h]; simp)⟩
theorem hp_dummyLink (a b : Nat) (σ : BState) (h : a < σ.len) : HP (dummyLink a b σ) b :=
  ⟨a, Or.inr (by rw [blk_dummyLink_same _ _ _ h]; simp)⟩
theorem hp_branchOn (b : Nat) (p : Expr) (t f : Nat) (σ : BState) (h : b < σ.len) :
    HP (branchOn b p t f σ) t ∧ HP (branchOn b p t f σ) f :=
  ⟨⟨b, Or.inl (by rw [blk_branchOn_same _ _ _ _ _ h]; simp)⟩, ⟨b, Or.inl (by rw [blk_branchOn_same _ _ _ _ _ h]; simp)⟩⟩

structure Grow (σ σ' : BState) : Prop where
  mono : EMono σ σ'
  new : ∀ i, σ.len ≤ i → i < σ'.len → HP σ' i
  ok : AllOk σ → AllOk σ'

theorem Grow.refl (σ : BState) : Grow σ σ := ⟨EMono.refl σ, fun i h1 h2 => absurd h2 (by omega), id⟩

theorem Grow.trans {σ σ1 σ2 : BState} (h1 : Grow σ σ1) (h2 : Grow σ1 σ2) : Grow σ σ2 := by
  refine ⟨h1.mono.trans h2.mono, ?_, h2.ok ∘ h1.ok⟩
  intro i hi hi2
  by_cases h : i < σ1.len
  · exact (h1.new i hi h).mono h2.mono
  · exact h2.new i (Nat.le_of_not_lt h) hi2

theorem Grow.of_same {σ σ' : BState} (h : EMono σ σ') (hl : σ'.len = σ.len) (hok : AllOk σ → AllOk σ') : Grow σ σ' :=
  ⟨h, fun i h1 h2 => absurd h2 (by omega), hok⟩

/-- a block created with `newBB` that receives a predecessor later -/
theorem Grow.after_newBB {σ σ' : BState} {n : Nat} (hn : σ.len = n) (h : Grow (newBB σ).2 σ') (hx : HP σ' n) :
    Grow σ σ' := by
  subst hn
  refine ⟨(emono_newBB σ).trans h.mono, ?_, h.ok ∘ allOk_newBB⟩
  intro i hi hi2
  by_cases hi' : i = σ.len
  · subst hi'; exact hx
  · exact h.new i (by simp only [len_newBB]; omega) hi2

theorem grow_addStmt (b : Nat) (s : BStmt) (σ : BState) : Grow σ (addStmt b s σ) :=
  .of_same (emono_addStmt b s σ) (by simp) (allOk_addStmt · b s)
theorem grow_dummyLink (a b : Nat) (σ : BState) : Grow σ (dummyLink a b σ) :=
  .of_same (emono_dummyLink a b σ) (by simp) (allOk_dummyLink · a b)
theorem grow_freshTmp (σ : BState) : Grow σ (freshTmp σ).2 :=
  .of_same ⟨fun _ _ h => h, fun _ _ h => h, fun h => h⟩ rfl id
theorem grow_internal (σ : BState) : Grow σ { σ with internal := true } :=
  .of_same ⟨fun _ _ h => h, fun _ _ h => h, fun _ => rfl⟩ rfl id
theorem grow_bad (σ : BState) : Grow σ { σ with bad := true } :=
  .of_same ⟨fun _ _ h => h, fun _ _ h => h, fun h => h⟩ rfl id
theorem grow_link {σ : BState} {a : Nat} (t : Nat) (ho : (σ.blk a).succs = []) : Grow σ (link a t σ) :=
  .of_same (emono_link a t σ) (by simp) (allOk_link · t ho)
theorem grow_branchOn {σ : BState} {b : Nat} (p : Expr) (t f : Nat) (ho : (σ.blk b).succs = []) :
    Grow σ (branchOn b p t f σ) :=
  .of_same (emono_branchOn b p t f σ) (by simp) (allOk_branchOn · p t f ho)

theorem grow_newBB2 {σ : BState} {p q : Nat} (hp : p < σ.len) (hpq : p ≠ q)
    (hpo : (σ.blk p).succs = []) (hqo : (σ.blk q).succs = []) : Grow σ (newBB2 p q σ).2 := by
  simp only [newBB2, fst_newBB]
  have g1 : Grow (newBB σ).2 (link p σ.len (newBB σ).2) := grow_link _ (by rw [blk_newBB]; exact hpo)
  have g2 : Grow (link p σ.len (newBB σ).2) (link q σ.len (link p σ.len (newBB σ).2)) :=
    grow_link _ (by rw [blk_link_other _ _ _ _ (Ne.symm hpq), blk_newBB]; exact hqo)
  exact Grow.after_newBB rfl (g1.trans g2)
    ((hp_link p σ.len (newBB σ).2 (by simp only [len_newBB]; omega)).mono g2.mono)

/-- one of the jump targets has a predecessor (or `break` / `continue` occurred outside a loop) -/
def JHP (σ : BState) (J : Jumps) : Prop :=
  HP σ J.ret ∨ (∃ t, J.brk = some t ∧ HP σ t) ∨ (∃ t, J.cont = some t ∧ HP σ t) ∨ σ.internal = true

theorem JHP.of_ret {σ : BState} {J : Jumps} (h : HP σ J.ret) : JHP σ J := .inl h
theorem JHP.of_brk {σ : BState} {J : Jumps} {t : Nat} (ht : J.brk = some t) (h : HP σ t) : JHP σ J := .inr (.inl ⟨t, ht, h⟩)
theorem JHP.of_cont {σ : BState} {J : Jumps} {t : Nat} (ht : J.cont = some t) (h : HP σ t) : JHP σ J :=
  .inr (.inr (.inl ⟨t, ht, h⟩))
theorem JHP.of_internal {σ : BState} {J : Jumps} (h : σ.internal = true) : JHP σ J := .inr (.inr (.inr h))

theorem JHP.mono {σ σ' : BState} {J : Jumps} (h : EMono σ σ') : JHP σ J → JHP σ' J := by
  rintro (h1 | ⟨t, h1, h2⟩ | ⟨t, h1, h2⟩ | h1)
  · exact Or.inl (h1.mono h)
  · exact Or.inr (Or.inl ⟨t, h1, h2.mono h⟩)
  · exact Or.inr (Or.inr (Or.inl ⟨t, h1, h2.mono h⟩))
  · exact Or.inr (Or.inr (Or.inr (h.int h1)))

end GuppyVerif.Builder
