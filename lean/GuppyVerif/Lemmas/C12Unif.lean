import GuppyVerif.Lemmas.C12
/-! The shape of one step of `unify` (`shape`, `_unify_var`, the loop of `_unify_args`) and, the fuel forgotten, the
    derivations `Unif`, which every finished run is (`unify_run`) and over which statements about outcomes are proved by
    induction. -/
namespace GuppyVerif.Unify

/-- which branch `unify(s, t, ·)` takes; depends on `s`, `t` (and `E` for the flag rule) only -/
inductive Shape where
  | same                                  -- returns `subst` unchanged
  | fail                                  -- returns `None`
  | viaVar (v : V) (t : Tm)               -- `_unify_var(v, t, subst)`
  | viaArgs (as bs : List Tm)             -- `_unify_args`

def shape (E : Env) (s t : Tm) : Shape :=
  match s, t with
  | .var a, .var b => if a = b then .same else .viaVar a (.var b)
  | .var a, t => .viaVar a t
  | s, .var b => .viaVar b s
  | .atom a, .atom b => if atomEq a b then .same else .fail
  | .node h₁ as, .node h₂ bs =>
    match h₁, h₂ with
    | .func fl₁ p₁, .func fl₂ p₂ =>
      if p₁ = p₂ then
        if fl₁.length ≠ fl₂.length then .fail
        else if flagsClash E fl₁ fl₂ as bs then .fail
        else .viaArgs as bs
      else .fail
    | .tuple, .tuple => .viaArgs as bs
    | .opaque d₁, .opaque d₂ => if d₁ = d₂ then .viaArgs as bs else .fail
    | .struct d₁, .struct d₂ => if d₁ = d₂ then .viaArgs as bs else .fail
    | _, _ => .fail
  | _, _ => .fail

def runShape (u : Tm → Tm → Subst → Res) (occ : Subst → V → Tm → Option Bool) (σ : Subst) : Shape → Res
  | .same => .ok σ
  | .fail => .fail
  | .viaVar v t => unifyVarWith u occ v t σ
  | .viaArgs as bs => unifyArgsWith u as bs σ

theorem unifyStep_eq (E : Env) (u : Tm → Tm → Subst → Res) (occ : Subst → V → Tm → Option Bool)
    (s t : Tm) (σ : Subst) : unifyStep E u occ s t σ = runShape u occ σ (shape E s t) := by
  cases s <;> cases t <;> try rfl
  · simp only [unifyStep, shape]; split <;> rfl
  · simp only [unifyStep, shape]; split <;> rfl
  · rename_i h₁ as h₂ bs
    cases h₁ <;> cases h₂ <;> try rfl
    all_goals simp only [unifyStep, shape]; repeat' split
    all_goals rfl

theorem unify_succ (E : Env) (n : Nat) (s t : Tm) (σ : Subst) :
    unify E (n + 1) s t σ = runShape (unify E n) (occurs n) σ (shape E s t) := by
  simp only [unify]; exact unifyStep_eq ..

theorem atomEq_iff {a b : Atom} : atomEq a b = true ↔ a = b := by
  cases a <;> cases b <;> simp [atomEq, and_comm]

def headsOk (E : Env) (h₁ h₂ : Head) (as bs : List Tm) : Prop :=
  eraseH h₁ = eraseH h₂ ∧
    match h₁, h₂ with
    | .func f₁ _, .func f₂ _ => flagsClash E f₁ f₂ as bs = false
    | _, _ => True

theorem shape_node (E : Env) (h₁ h₂ : Head) (as bs : List Tm) :
    (headsOk E h₁ h₂ as bs ∧ shape E (.node h₁ as) (.node h₂ bs) = .viaArgs as bs) ∨
    (¬ headsOk E h₁ h₂ as bs ∧ shape E (.node h₁ as) (.node h₂ bs) = .fail) := by
  cases h₁ <;> cases h₂ <;> try exact .inr ⟨fun h => Head.noConfusion h.1, rfl⟩
  case func.func fl₁ p₁ fl₂ p₂ =>
    by_cases hp : p₁ = p₂ <;> by_cases hl : fl₁.length = fl₂.length <;>
      cases hc : flagsClash E fl₁ fl₂ as bs <;> simp [shape, headsOk, eraseH, hp, hl, hc]
  case tuple.tuple => exact .inl ⟨⟨rfl, trivial⟩, rfl⟩
  all_goals rename_i d₁ d₂; by_cases hd : d₁ = d₂ <;> simp [shape, headsOk, eraseH, hd]

theorem shape_spec (E : Env) (s t : Tm) :
    match shape E s t with
    | .same => s = t
    | .fail => True
    | .viaVar v t' => t' ≠ .var v ∧ ((s = .var v ∧ t = t') ∨ (t = .var v ∧ s = t'))
    | .viaArgs as bs => ∃ h₁ h₂, s = .node h₁ as ∧ t = .node h₂ bs ∧ headsOk E h₁ h₂ as bs := by
  cases s <;> cases t <;> simp only [shape]
  case var.var a b =>
    by_cases e : a = b
    · simp only [if_pos e]; rw [e]
    · simpa only [if_neg e, Tm.var.injEq, and_self, true_or, and_true, ne_eq] using Ne.symm e
  case atom.atom a b =>
    by_cases e : atomEq a b = true
    · simp only [if_pos e]; rw [atomEq_iff.mp e]
    · simp only [if_neg e]
  case node.node h₁ as h₂ bs =>
    rcases shape_node E h₁ h₂ as bs with ⟨ok, e⟩ | ⟨_, e⟩ <;> simp only [shape] at e <;> rw [e]
    · exact ⟨h₁, h₂, rfl, rfl, ok⟩
    · trivial
  all_goals simp

theorem shape_same {E : Env} {s t : Tm} (h : shape E s t = .same) : s = t := by
  have := shape_spec E s t; rw [h] at this; exact this

theorem shape_viaVar {E : Env} {s t : Tm} {v : V} {t' : Tm} (h : shape E s t = .viaVar v t') :
    t' ≠ .var v ∧ ((s = .var v ∧ t = t') ∨ (t = .var v ∧ s = t')) := by
  have := shape_spec E s t; rw [h] at this; exact this

theorem shape_viaArgs {E : Env} {s t : Tm} {as bs : List Tm} (h : shape E s t = .viaArgs as bs) :
    ∃ h₁ h₂, s = .node h₁ as ∧ t = .node h₂ bs ∧ headsOk E h₁ h₂ as bs := by
  have := shape_spec E s t; rw [h] at this; exact this

/-- the last step of `_unify_var`: the occurs check, then the new binding in front -/
def bindRes (occ : Subst → V → Tm → Option Bool) (v : V) (t : Tm) (σ : Subst) : Res :=
  match occ σ v t with
  | none => .oof
  | some true => .fail
  | some false => .ok ((v, t) :: σ)

section
variable {u : Tm → Tm → Subst → Res} {occ : Subst → V → Tm → Option Bool} {v : V} {t : Tm} {σ : Subst}

theorem unifyVarWith_left {sv : Tm} (hv : lookup σ v = some sv) : unifyVarWith u occ v t σ = u sv t σ := by
  simp only [unifyVarWith, hv]

theorem unifyVarWith_right {w : V} {tw : Tm} (hv : lookup σ v = none) (hw : lookup σ w = some tw) :
    unifyVarWith u occ v (.var w) σ = u (.var v) tw σ := by
  simp only [unifyVarWith, hv, hw]

theorem unifyVarWith_bind (hv : lookup σ v = none) (hf : ∀ w, t = .var w → lookup σ w = none) :
    unifyVarWith u occ v t σ = bindRes occ v t σ := by
  cases t with
  | var w => simp only [unifyVarWith, hv, hf w rfl]; rfl
  | _ => simp only [unifyVarWith, hv]; rfl

theorem unifyVarWith_cases {P : Res → Prop}
    (left : ∀ sv, lookup σ v = some sv → P (u sv t σ))
    (right : ∀ w tw, lookup σ v = none → t = .var w → lookup σ w = some tw → P (u (.var v) tw σ))
    (bind : lookup σ v = none → (∀ w, t = .var w → lookup σ w = none) → P (bindRes occ v t σ)) :
    P (unifyVarWith u occ v t σ) := by
  cases hv : lookup σ v with
  | some sv => rw [unifyVarWith_left hv]; exact left sv hv
  | none =>
    have free : (∀ w, t = .var w → lookup σ w = none) → P (unifyVarWith u occ v t σ) :=
      fun hf => unifyVarWith_bind (u := u) (occ := occ) hv hf ▸ bind hv hf
    cases t with
    | var w =>
      cases hw : lookup σ w with
      | some tw => rw [unifyVarWith_right hv hw]; exact right w tw hv rfl hw
      | none => exact free (by rintro _ ⟨⟩; exact hw)
    | _ => exact free nofun
end

inductive Payload : Tm → Tm → Tm → Tm → Prop
  | targ (x y : Tm) : Payload (.targ x) (.targ y) x y
  | carg (x y : Tm) : Payload (.carg x) (.carg y) x y

theorem Payload.congr {a b x y : Tm} (hp : Payload a b x y) {f : Tm → Tm} {fh : Head → List Tm → Head} (hf : Hom f fh) :
    f a = f b ↔ f x = f y := by
  cases hp <;> simp [hf.targ, hf.carg]

theorem Payload.vars_eq {a b x y : Tm} (hp : Payload a b x y) : a.vars = x.vars ∧ b.vars = y.vars := by
  cases hp <;> simp [Tm.vars]

theorem Payload.size_eq {a b x y : Tm} (hp : Payload a b x y) : a.size = 1 + x.size ∧ b.size = 1 + y.size := by
  cases hp <;> simp [Tm.size]

theorem Payload.wf {a b x y : Tm} {as bs : List Tm} (hp : Payload a b x y) (ha : wfArgs (a :: as) = true)
    (hb : wfArgs (b :: bs) = true) : (x.wf = true ∧ wfArgs as = true) ∧ (y.wf = true ∧ wfArgs bs = true) := by
  cases hp <;> simpa [wfArgs] using And.intro ha hb

theorem Payload.of_wf {a b : Tm} {as bs : List Tm} {θ : V → Tm} (ha : wfArgs (a :: as) = true)
    (hb : wfArgs (b :: bs) = true) (h : FlagEq (inst θ a) (inst θ b)) : ∃ x y, Payload a b x y := by
  cases a <;> cases b <;> simp [wfArgs, FlagEq, inst, erase] at ha hb h
  · exact ⟨_, _, .targ _ _⟩
  · exact ⟨_, _, .carg _ _⟩

def Res.andThen : Res → (Subst → Res) → Res
  | .ok σ, k => k σ
  | r, _ => r

theorem loop_cons (a b : Tm) (as bs : List Tm) :
    (∃ x y, Payload a b x y ∧
      ∀ u σ, unifyArgsLoop u (a :: as) (b :: bs) σ = (u x y σ).andThen (unifyArgsLoop u as bs)) ∨
    ((∀ x y, ¬ Payload a b x y) ∧ ∀ u σ, unifyArgsLoop u (a :: as) (b :: bs) σ = .fail) := by
  cases a with
  | targ x =>
    cases b with
    | targ y => exact .inl ⟨x, y, .targ x y, fun u σ => by simp only [unifyArgsLoop]; cases u x y σ <;> rfl⟩
    | _ => exact .inr ⟨nofun, fun _ _ => rfl⟩
  | carg x =>
    cases b with
    | carg y => exact .inl ⟨x, y, .carg x y, fun u σ => by simp only [unifyArgsLoop]; cases u x y σ <;> rfl⟩
    | _ => exact .inr ⟨nofun, fun _ _ => rfl⟩
  | _ => exact .inr ⟨nofun, fun _ _ => rfl⟩

mutual
/-- every finished run of `unify(s, t, σ)` with outcome `r` (`fail` or `ok`) is a derivation (`unify_run`); not conversely:
    `same` applies to any pair of equal terms.  The occurs check appears as `Reach`, which it decides. -/
inductive Unif (E : Env) : Tm → Tm → Subst → Res → Prop
  | same (s : Tm) (σ : Subst) : Unif E s s σ (.ok σ)
  | clash {s t : Tm} (σ : Subst) : shape E s t = .fail → Unif E s t σ .fail
  | swap {s : Tm} {v : V} {σ : Subst} {r : Res} : Unif E (.var v) s σ r → Unif E s (.var v) σ r
  | left {v : V} {sv t : Tm} {σ : Subst} {r : Res} :
      lookup σ v = some sv → Unif E sv t σ r → Unif E (.var v) t σ r
  | right {v w : V} {tw : Tm} {σ : Subst} {r : Res} :
      lookup σ w = some tw → Unif E (.var v) tw σ r → Unif E (.var v) (.var w) σ r
  | occurs {v y : V} {t : Tm} {σ : Subst} : t ≠ .var v → (∀ w, t = .var w → lookup σ w = none) →
      y ∈ t.vars → Reach σ y v → Unif E (.var v) t σ .fail
  | bind {v : V} {t : Tm} {σ : Subst} : lookup σ v = none → (∀ y ∈ t.vars, ¬ Reach σ y v) →
      Unif E (.var v) t σ (.ok ((v, t) :: σ))
  | arity {h₁ h₂ : Head} {as bs : List Tm} (σ : Subst) : as.length ≠ bs.length →
      Unif E (.node h₁ as) (.node h₂ bs) σ .fail
  | args {h₁ h₂ : Head} {as bs : List Tm} {σ : Subst} {r : Res} : headsOk E h₁ h₂ as bs →
      UnifArgs E as bs σ r → Unif E (.node h₁ as) (.node h₂ bs) σ r
inductive UnifArgs (E : Env) : List Tm → List Tm → Subst → Res → Prop
  | nil (σ : Subst) : UnifArgs E [] [] σ (.ok σ)
  | cons {a b x y : Tm} {as bs : List Tm} {σ σ₁ : Subst} {r : Res} : Payload a b x y →
      Unif E x y σ (.ok σ₁) → UnifArgs E as bs σ₁ r → UnifArgs E (a :: as) (b :: bs) σ r
  | head {a b x y : Tm} {as bs : List Tm} {σ : Subst} : Payload a b x y → Unif E x y σ .fail →
      UnifArgs E (a :: as) (b :: bs) σ .fail
  | sort {a b : Tm} {as bs : List Tm} (σ : Subst) : (∀ x y, ¬ Payload a b x y) →
      UnifArgs E (a :: as) (b :: bs) σ .fail
end

theorem loop_run {E : Env} {u : Tm → Tm → Subst → Res}
    (hu : ∀ x y σ, u x y σ ≠ .oof → Unif E x y σ (u x y σ)) :
    ∀ as bs σ, as.length = bs.length → unifyArgsLoop u as bs σ ≠ .oof →
      UnifArgs E as bs σ (unifyArgsLoop u as bs σ)
  | [], [], σ, _, _ => .nil σ
  | a :: as, b :: bs, σ, hl, hn => by
    rcases loop_cons a b as bs with ⟨x, y, hp, e⟩ | ⟨hp, e⟩
    · rw [e] at hn ⊢
      have hx := hu x y σ
      cases hr : u x y σ with
      | oof => rw [hr] at hn; exact absurd rfl hn
      | fail => rw [hr] at hx; exact .head hp (hx nofun)
      | ok σ₁ =>
        rw [hr] at hx hn
        exact .cons hp (hx nofun) (loop_run hu as bs σ₁ (by simpa using hl) hn)
    · rw [e]; exact .sort σ hp

theorem unify_run (E : Env) : ∀ n s t σ, unify E n s t σ ≠ .oof → Unif E s t σ (unify E n s t σ) := by
  intro n
  induction n with
  | zero => intro s t σ h; exact absurd rfl h
  | succ n ih =>
    intro s t σ h
    rw [unify_succ] at h ⊢
    cases hsh : shape E s t with
    | same => obtain rfl := shape_same hsh; exact .same s σ
    | fail => exact .clash σ hsh
    | viaVar v t' =>
      rw [hsh] at h
      obtain ⟨hne, hc⟩ := shape_viaVar hsh
      have run : Unif E (.var v) t' σ (unifyVarWith (unify E n) (occurs n) v t' σ) := by
        revert h
        refine unifyVarWith_cases (P := fun r => r ≠ .oof → Unif E (.var v) t' σ r) ?_ ?_ ?_
        · exact fun sv hv hr => .left hv (ih _ _ _ hr)
        · rintro w tw - rfl hw hr; exact .right hw (ih _ _ _ hr)
        · intro hv hfree
          unfold bindRes
          cases ho : occurs n σ v t' with
          | none => exact fun hr => absurd rfl hr
          | some b =>
            cases b with
            | true => obtain ⟨y, hy, hr⟩ := occurs_true n t' ho; exact fun _ => .occurs hne hfree hy hr
            | false => exact fun _ => .bind hv (occurs_false n t' ho)
      rcases hc with ⟨rfl, rfl⟩ | ⟨rfl, rfl⟩
      · exact run
      · exact .swap run
    | viaArgs as bs =>
      rw [hsh] at h
      obtain ⟨h₁, h₂, rfl, rfl, ok⟩ := shape_viaArgs hsh
      simp only [runShape, unifyArgsWith] at h ⊢
      split
      · rename_i hl; exact .arity σ hl
      · rename_i hl
        rw [if_neg hl] at h
        exact .args ok (loop_run ih as bs σ (Decidable.not_not.mp hl) h)

/-- `Unif.rec` for successful runs (the three failing constructors discharged) -/
theorem Unif.ok_rec {E : Env} {P : Tm → Tm → Subst → Subst → Prop}
    {Q : List Tm → List Tm → Subst → Subst → Prop}
    (same : ∀ {s σ}, P s s σ σ)
    (swap : ∀ {s v σ σ'}, P (.var v) s σ σ' → P s (.var v) σ σ')
    (left : ∀ {v sv t σ σ'}, lookup σ v = some sv → P sv t σ σ' → P (.var v) t σ σ')
    (right : ∀ {v w tw σ σ'}, lookup σ w = some tw → P (.var v) tw σ σ' → P (.var v) (.var w) σ σ')
    (bind : ∀ {v t σ}, lookup σ v = none → (∀ y ∈ t.vars, ¬ Reach σ y v) → P (.var v) t σ ((v, t) :: σ))
    (args : ∀ {h₁ h₂ as bs σ σ'}, headsOk E h₁ h₂ as bs → Q as bs σ σ' → P (.node h₁ as) (.node h₂ bs) σ σ')
    (nil : ∀ {σ}, Q [] [] σ σ)
    (cons : ∀ {a b x y as bs σ σ₁ σ'}, Payload a b x y → P x y σ σ₁ → Q as bs σ₁ σ' →
      Q (a :: as) (b :: bs) σ σ')
    {s t : Tm} {σ σ' : Subst} (h : Unif E s t σ (.ok σ')) : P s t σ σ' := by
  refine Unif.rec (motive_1 := fun s t σ r _ => ∀ σ', r = .ok σ' → P s t σ σ')
    (motive_2 := fun as bs σ r _ => ∀ σ', r = .ok σ' → Q as bs σ σ')
    ?_ ?_ ?_ ?_ ?_ ?_ ?_ ?_ ?_ ?_ ?_ ?_ ?_ h σ' rfl
  · rintro s σ _ ⟨⟩; exact same
  · intros; contradiction
  · exact fun _ ih σ' e => swap (ih σ' e)
  · exact fun hv _ ih σ' e => left hv (ih σ' e)
  · exact fun hw _ ih σ' e => right hw (ih σ' e)
  · intros; contradiction
  · rintro v t σ hv hr _ ⟨⟩; exact bind hv hr
  · intros; contradiction
  · exact fun ok _ ih σ' e => args ok (ih σ' e)
  · rintro σ _ ⟨⟩; exact nil
  · exact fun hp _ _ ih₁ ih₂ σ' e => cons hp (ih₁ _ rfl) (ih₂ σ' e)
  · intros; contradiction
  · intros; contradiction

theorem unify_ok_run {E : Env} {n : Nat} {s t : Tm} {σ σ' : Subst} (h : unify E n s t σ = .ok σ') :
    Unif E s t σ (.ok σ') :=
  h ▸ unify_run E n s t σ (by rw [h]; nofun)

theorem Unif.acyclic {E : Env} {s t : Tm} {σ σ' : Subst} (h : Unif E s t σ (.ok σ')) : Acyclic σ → Acyclic σ' :=
  Unif.ok_rec (P := fun _ _ σ σ' => Acyclic σ → Acyclic σ') (Q := fun _ _ σ σ' => Acyclic σ → Acyclic σ')
    (same := id) (swap := id) (left := fun _ g => g) (right := fun _ g => g) (bind := fun _ hr ha => ha.cons hr)
    (args := fun _ q => q) (nil := id) (cons := fun _ g q ha => q (g ha)) h

/-- a successful run binds only variables of the terms and images in play -/
theorem Unif.keys {E : Env} {P : V → Prop} {s t : Tm} {σ σ' : Subst} (h : Unif E s t σ (.ok σ')) :
    (∀ y ∈ s.vars, P y) → (∀ y ∈ t.vars, P y) → (∀ v u, lookup σ v = some u → ∀ y ∈ u.vars, P y) →
      (∀ v u, lookup σ' v = some u → ∀ y ∈ u.vars, P y) ∧ ∀ v, lookup σ' v ≠ none → lookup σ v ≠ none ∨ P v := by
  refine Unif.ok_rec
    (P := fun s t σ σ' => (∀ y ∈ s.vars, P y) → (∀ y ∈ t.vars, P y) → (∀ v u, lookup σ v = some u → ∀ y ∈ u.vars, P y) →
      (∀ v u, lookup σ' v = some u → ∀ y ∈ u.vars, P y) ∧ ∀ v, lookup σ' v ≠ none → lookup σ v ≠ none ∨ P v)
    (Q := fun as bs σ σ' => (∀ y ∈ varsList as, P y) → (∀ y ∈ varsList bs, P y) →
      (∀ v u, lookup σ v = some u → ∀ y ∈ u.vars, P y) →
      (∀ v u, lookup σ' v = some u → ∀ y ∈ u.vars, P y) ∧ ∀ v, lookup σ' v ≠ none → lookup σ v ≠ none ∨ P v)
    (same := fun _ _ hi => ⟨hi, fun _ => .inl⟩) (swap := fun g hs ht => g ht hs)
    (left := fun hv g _ ht hi => g (hi _ _ hv) ht hi) (right := fun hw g hs _ hi => g hs (hi _ _ hw) hi)
    (bind := ?bind) (args := fun _ q => q) (nil := fun _ _ hi => ⟨hi, fun _ => .inl⟩) (cons := ?cons) h
  case bind =>
    intro v t σ _ _ hv ht hi
    refine ⟨fun x w hx => ?_, fun x hx => ?_⟩
    · rcases lookup_cons_some hx with ⟨_, rfl⟩ | hx
      · exact ht
      · exact hi x w hx
    · by_cases e : x = v
      · exact .inr (e ▸ hv v (by simp [Tm.vars]))
      · rw [lookup_cons, if_neg (Ne.symm e)] at hx; exact .inl hx
  case cons =>
    intro a b x y as bs σ σ₁ σ' hp g q ha hb hi
    simp only [varsList, List.mem_append, hp.vars_eq.1, hp.vars_eq.2] at ha hb
    obtain ⟨hi₁, k₁⟩ := g (fun y hy => ha y (.inl hy)) (fun y hy => hb y (.inl hy)) hi
    obtain ⟨hi₂, k₂⟩ := q (fun y hy => ha y (.inr hy)) (fun y hy => hb y (.inr hy)) hi₁
    exact ⟨hi₂, fun v hv => (k₂ v hv).elim (k₁ v) .inr⟩

end GuppyVerif.Unify
