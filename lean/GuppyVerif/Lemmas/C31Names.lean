import GuppyVerif.Lemmas.Basic
import GuppyVerif.Spec.C31
import Std.Data.String.ToNat
/-! Names of variable occurrences: `Inv` (printer state under `_fresh_name`), `Step` (what printing a
    piece does to the state, which `Good` occurrences it produces), `good_iff`. -/
namespace GuppyVerif.Print

/-! ## Strings: `d'k` determines `d` and `k` when `d` has no quote -/
theorem indexed_toList (d : String) (k : Nat) :
    (indexed d k).toList = d.toList ++ '\'' :: (Nat.repr k).toList := by
  simp [indexed, String.toList_append]

theorem indexed_inj (d e : String) (k j : Nat) (hd : NoQuote d) (he : NoQuote e)
    (h : indexed d k = indexed e j) : d = e ∧ k = j := by
  have h' := congrArg String.toList h
  rw [indexed_toList, indexed_toList] at h'
  obtain ⟨h1, h2⟩ := List.split_at_first '\'' _ _ _ _ hd he h'
  exact ⟨String.toList_inj.mp h1, Nat.repr_inj.mp (String.toList_inj.mp h2)⟩

theorem indexed_ne (d e : String) (k : Nat) (he : NoQuote e) : indexed d k ≠ e := by
  intro h
  have : '\'' ∈ e.toList := by rw [← h, indexed_toList]; simp
  exact he this

theorem digit_ne_qmark (k : Nat) : '?' ∉ (Nat.repr k).toList := by
  intro h
  rw [Nat.toList_repr] at h
  have := Nat.isDigit_of_mem_toDigits (by decide) (by decide) h
  simp [Char.isDigit] at this

/-- the `k`-th name issued for display name `d`: `d`, `d'1`, `d'2`, … -/
def mkName (d : String) (k : Nat) : String := if k = 0 then d else indexed d k

theorem mkName_inj (d e : String) (k j : Nat) (hd : NoQuote d) (he : NoQuote e)
    (h : mkName d k = mkName e j) : d = e ∧ k = j := by
  unfold mkName at h
  by_cases hk : k = 0 <;> by_cases hj : j = 0 <;> simp only [hk, hj, ↓reduceIte] at h
  · exact ⟨h, by omega⟩
  · exact absurd h.symm (indexed_ne e d j hd)
  · exact absurd h (indexed_ne d e k he)
  · exact indexed_inj d e k j hd he h

theorem mkName_no_qmark (d : String) (k : Nat) (hd : '?' ∉ d.toList) : '?' ∉ (mkName d k).toList := by
  unfold mkName
  split
  · exact hd
  · rw [indexed_toList]
    simp only [List.mem_append, List.mem_cons, not_or]
    exact ⟨hd, by decide, digit_ne_qmark k⟩

/-! ## The printer state invariant

The names issued so far for display name `d` are `mkName d 0, …, mkName d (cnt st d - 1)`, so the next one,
`mkName d (cnt st d)`, is new (`freshName_spec`); this needs `mkName` injective, which it is when display names
carry no quote (`mkName_inj`). -/
def cnt (st : PState) (d : String) : Nat := (st.counter.lookup d).getD 0

def issuedNames (st : PState) : List String := st.exist.map (·.2) ++ st.bound

/-- `Q` = what is known about display names (at least: no quote) -/
structure Inv (Q : String → Prop) (st : PState) : Prop where
  issued : ∀ s ∈ issuedNames st, ∃ d k, Q d ∧ s = mkName d k ∧ k < cnt st d
  nodup : (issuedNames st).Nodup
  keys : (st.exist.map (·.1)).Nodup
  pos : ∀ d k, st.counter.lookup d = some k → 1 ≤ k

theorem inv_init (Q : String → Prop) : Inv Q .init :=
  ⟨by simp [issuedNames, PState.init], by simp [issuedNames, PState.init], by simp [PState.init],
    by simp [PState.init]⟩

theorem freshName_eq (st : PState) (d : String) (hpos : ∀ d k, st.counter.lookup d = some k → 1 ≤ k) :
    freshName st d = (mkName d (cnt st d), { st with counter := (d, cnt st d + 1) :: st.counter }) := by
  unfold freshName cnt mkName
  cases h : st.counter.lookup d with
  | none => rfl
  | some k => simp only [Option.getD_some, if_neg (Nat.ne_of_gt (hpos d k h))]

theorem cnt_cons (st : PState) (d e : String) (k : Nat) :
    cnt { st with counter := (d, k) :: st.counter } e = if e = d then k else cnt st e := by
  unfold cnt
  rw [List.lookup_cons]
  by_cases he : e = d
  · simp [he]
  · simp [he, show (e == d) = false by simpa using he]

theorem freshName_bound (st : PState) (d : String) : (freshName st d).2.bound = st.bound := by
  unfold freshName; split <;> rfl

theorem freshName_exist (st : PState) (d : String) : (freshName st d).2.exist = st.exist := by
  unfold freshName; split <;> rfl

theorem freshName_spec (Q : String → Prop) (hQ : ∀ d, Q d → NoQuote d) (st : PState) (d : String)
    (hd : Q d) (hinv : Inv Q st) :
    (freshName st d).1 ∉ issuedNames st ∧
      (∀ s, (s ∈ issuedNames st ∨ s = (freshName st d).1) →
        ∃ d' k, Q d' ∧ s = mkName d' k ∧ k < cnt (freshName st d).2 d') := by
  rw [freshName_eq st d hinv.pos]
  constructor
  · intro hmem
    obtain ⟨d', k, hd', hs, hk⟩ := hinv.issued _ hmem
    obtain ⟨rfl, rfl⟩ := mkName_inj _ _ _ _ (hQ _ hd) (hQ _ hd') hs
    omega
  · intro s hs
    simp only [cnt_cons]
    rcases hs with hs | rfl
    · obtain ⟨d', k, hd', hs', hk⟩ := hinv.issued _ hs
      refine ⟨d', k, hd', hs', ?_⟩
      split
      · subst_vars; omega
      · exact hk
    · exact ⟨d, cnt st d, hd, rfl, by simp⟩

theorem inv_fresh (Q : String → Prop) (hQ : ∀ d, Q d → NoQuote d) (st st' : PState) (d : String)
    (hd : Q d) (hinv : Inv Q st) (hc : st'.counter = (freshName st d).2.counter)
    (hiss : (issuedNames st').Perm ((freshName st d).1 :: issuedNames st))
    (hkeys : (st'.exist.map (·.1)).Nodup) : Inv Q st' := by
  obtain ⟨hnew, hold⟩ := freshName_spec Q hQ st d hd hinv
  refine ⟨fun s hs => ?_, hiss.nodup_iff.mpr (List.nodup_cons.mpr ⟨hnew, hinv.nodup⟩), hkeys, ?_⟩
  · have := hold s ((List.mem_cons.mp (hiss.mem_iff.mp hs)).symm)
    simpa only [cnt, hc] using this
  · rw [hc, freshName_eq st d hinv.pos]
    intro e k
    simp only [List.lookup_cons]
    split
    · rintro ⟨rfl⟩; exact Nat.le_add_left 1 _
    · exact hinv.pos e k

/-- `self.bound_names.append(self._fresh_name(d))` -/
def pushBound (st : PState) (d : String) : PState :=
  { (freshName st d).2 with bound := (freshName st d).2.bound ++ [(freshName st d).1] }

theorem inv_pushBound (Q : String → Prop) (hQ : ∀ d, Q d → NoQuote d) (st : PState) (d : String)
    (hd : Q d) (hinv : Inv Q st) : Inv Q (pushBound st d) := by
  refine inv_fresh Q hQ st _ d hd hinv rfl ?_ (by simpa [pushBound, freshName_exist] using hinv.keys)
  have : issuedNames (pushBound st d) = issuedNames st ++ [(freshName st d).1] := by
    simp [issuedNames, pushBound, freshName_bound, freshName_exist]
  rw [this]
  exact List.perm_append_singleton _ _

theorem pushParams_eq (st : PState) : ∀ ds : List String, pushParams st ds = ds.foldl pushBound st
  | [] => by simp [pushParams]
  | d :: ds => by
      simp only [pushParams, List.foldl_cons]
      exact pushParams_eq _ ds

theorem pushBound_bound_length (st : PState) (d : String) :
    (pushBound st d).bound.length = st.bound.length + 1 := by
  simp [pushBound, freshName_bound]

theorem pushBound_exist (st : PState) (d : String) : (pushBound st d).exist = st.exist := by
  simp [pushBound, freshName_exist]

theorem inv_pushParams (Q : String → Prop) (hQ : ∀ d, Q d → NoQuote d) :
    ∀ (ds : List String) (st : PState), (∀ d ∈ ds, Q d) → Inv Q st →
      Inv Q (pushParams st ds) ∧ (pushParams st ds).bound.length = st.bound.length + ds.length ∧
        (pushParams st ds).exist = st.exist
  | [], st, _, h => by simp [pushParams, h]
  | d :: ds, st, hds, h => by
      have h1 := inv_pushBound Q hQ st d (hds d (by simp)) h
      obtain ⟨a, b, c⟩ := inv_pushParams Q hQ ds (pushBound st d) (fun e he => hds e (by simp [he])) h1
      rw [pushParams_eq, List.foldl_cons, ← pushParams_eq]
      refine ⟨a, ?_, ?_⟩
      · rw [b, pushBound_bound_length]; simp; omega
      · rw [c, pushBound_exist]

/-! ## Occurrences and printing steps -/
theorem varOccs_cons (t : Tok) (r : List Tok) : varOccs (t :: r) = varOccs [t] ++ varOccs r := by
  cases t with
  | ident s v => cases v <;> rfl
  | _ => rfl

theorem varOccs_append : ∀ (xs ys : List Tok), varOccs (xs ++ ys) = varOccs xs ++ varOccs ys
  | [], _ => rfl
  | t :: xs, ys => by
      rw [List.cons_append, varOccs_cons, varOccs_append xs ys, ← List.append_assoc, ← varOccs_cons]

@[simp] theorem varOccs_sepToks (b : Bool) : varOccs (sepToks b) = [] := by
  cases b <;> simp [sepToks, varOccs]

@[simp] theorem varOccs_flagToks (f : Flags) : varOccs (flagToks f) = [] := by
  unfold flagToks
  cases f.owned <;> cases f.comptime <;> simp [varOccs]

@[simp] theorem varOccs_wrap (b : Bool) (xs : List Tok) : varOccs (wrap b xs) = varOccs xs := by
  cases b <;> simp [wrap, varOccs, varOccs_append]

@[simp] theorem varOccs_soleTupleComma (as : List Arg) : varOccs (soleTupleComma as) = [] := by
  unfold soleTupleComma
  split <;> simp [varOccs]

@[simp] theorem varOccs_valToks (v : PyVal) : varOccs (valToks v) = [] := by
  cases v with
  | int v => simp only [valToks]; split <;> simp [varOccs]
  | bool b => cases b <;> simp [valToks, varOccs]
  | float r =>
    simp only [valToks, floatToks]
    split
    · split <;> simp [varOccs]
    · split <;> simp [varOccs]
  | other r => simp [valToks, varOccs]

theorem varOccs_paren (xs : List Tok) (c : Prop) [Decidable c] :
    varOccs (.lpar :: xs ++ (if c then [.comma] else []) ++ [.rpar]) = varOccs xs := by
  rw [List.cons_append, List.cons_append, varOccs_cons, varOccs_append, varOccs_append]
  split <;> simp [varOccs]

theorem varOccs_subscript (n : String) (xs : List Tok) (as : List Arg) :
    varOccs (.ident n none :: .lbrack :: xs ++ soleTupleComma as ++ [.rbrack]) = varOccs xs := by
  rw [List.cons_append, List.cons_append, List.cons_append, List.cons_append, varOccs_cons,
    varOccs_cons .lbrack, varOccs_append, varOccs_append, varOccs_soleTupleComma]
  simp [varOccs]

theorem varOccs_optParen (xs : List Tok) (c : Prop) [Decidable c] :
    varOccs (if c then xs else .lpar :: xs ++ [.rpar]) = varOccs xs := by
  split
  · rfl
  · rw [List.cons_append, varOccs_cons, varOccs_append]
    simp [varOccs]

def Good (tbl : List String) (st : PState) : VarId × String → Prop
  | (.bound i, s) => tbl[i]? = some s
  | (.exist id, s) => ∃ s', s = "?" ++ s' ∧ (id, s') ∈ st.exist

structure Step (tbl : List String) (st st' : PState) (occs : List (VarId × String)) : Prop where
  inv : Inv IdentLike st'
  bound : st'.bound = st.bound
  ext : ∀ p ∈ st.exist, p ∈ st'.exist
  good : ∀ o ∈ occs, Good tbl st' o

theorem Good.mono {tbl : List String} {st st' : PState} (h : ∀ p ∈ st.exist, p ∈ st'.exist)
    {o : VarId × String} (ho : Good tbl st o) : Good tbl st' o := by
  obtain ⟨v, s⟩ := o
  cases v with
  | bound i => exact ho
  | exist id =>
    obtain ⟨s', h1, h2⟩ := ho
    exact ⟨s', h1, h _ h2⟩

theorem Step.refl {tbl : List String} {st : PState} (h : Inv IdentLike st) : Step tbl st st [] :=
  ⟨h, rfl, fun _ hp => hp, by simp⟩

theorem Step.trans {tbl : List String} {st st1 st2 : PState} {a b : List (VarId × String)}
    (h1 : Step tbl st st1 a) (h2 : Step tbl st1 st2 b) : Step tbl st st2 (a ++ b) := by
  refine ⟨h2.inv, h2.bound.trans h1.bound, fun p hp => h2.ext p (h1.ext p hp), ?_⟩
  intro o ho
  rcases List.mem_append.mp ho with ho | ho
  · exact Good.mono h2.ext (h1.good o ho)
  · exact h2.good o ho

theorem Step.of_subset {tbl : List String} {st st' : PState} {a b : List (VarId × String)}
    (h : Step tbl st st' a) (hb : ∀ o ∈ b, o ∈ a) : Step tbl st st' b :=
  ⟨h.inv, h.bound, h.ext, fun o ho => h.good o (hb o ho)⟩

theorem Step.bound_occ {tbl : List String} {st : PState} {i : Nat} {s : String} (h : Inv IdentLike st)
    (hs : tbl[i]? = some s) : Step tbl st st [(.bound i, s)] :=
  ⟨h, rfl, fun _ hp => hp, fun _ ho => List.mem_singleton.mp ho ▸ hs⟩

theorem Step.join {tbl : List String} {st st1 st2 : PState} {xs ys : List Tok} (sep : Bool)
    (h1 : Step tbl st st1 (varOccs xs)) (h2 : Step tbl st1 st2 (varOccs ys)) :
    Step tbl st st2 (varOccs (sepToks sep ++ xs ++ ys)) := by
  rw [varOccs_append, varOccs_append, varOccs_sepToks, List.nil_append]
  exact h1.trans h2

theorem step_exist (tbl : List String) (st : PState) (id : Nat) (n : String) (hinv : Inv IdentLike st)
    (hn : IdentLike n) :
    Step tbl st (existName st id n).2 [(.exist id, "?" ++ (existName st id n).1)] := by
  unfold existName
  cases h : st.exist.lookup id with
  | some s =>
    refine ⟨hinv, rfl, fun _ hp => hp, ?_⟩
    intro o ho
    simp only [List.mem_singleton] at ho
    subst ho
    exact ⟨s, rfl, List.mem_of_lookup_eq_some h⟩
  | none =>
    have hkey : id ∉ st.exist.map (·.1) := fun hm => by
      obtain ⟨p, hp, rfl⟩ := List.mem_map.mp hm
      simpa using List.lookup_eq_none_iff.mp h p hp
    refine ⟨inv_fresh IdentLike (fun _ h => h.1) st _ n hn hinv rfl ?_ ?_, freshName_bound st n,
      fun p hp => List.mem_cons_of_mem _ (by rwa [freshName_exist]), ?_⟩
    · simp [issuedNames, freshName_exist, freshName_bound]
    · simpa [freshName_exist] using And.intro hkey hinv.keys
    · intro o ho
      rw [List.mem_singleton.mp ho]
      exact ⟨_, rfl, List.mem_cons_self⟩


/-! ## Printing a rank-1 body -/
/-- the name table agrees with what `_visit_BoundVar` prints for every admitted occurrence -/
def TableOK (tbl B : List String) (P : String → Nat → Prop) : Prop :=
  ∀ n i, P n i → tbl[i]? = some (match B[i]? with | some s => s | none => n)

theorem step_bound (tbl B : List String) (P : String → Nat → Prop) (HP : TableOK tbl B P) (st : PState)
    (hinv : Inv IdentLike st) (hb : st.bound = B) (n : String) (i : Nat) (hp : P n i) :
    Step tbl st st (varOccs [boundTok st n i]) := by
  subst hb
  exact Step.bound_occ hinv (HP n i hp)

theorem step_const (tbl B : List String) (P : String → Nat → Prop) (HP : TableOK tbl B P) (st : PState)
    (hinv : Inv IdentLike st) (hb : st.bound = B) (c : Const) (h : BodyConst P c) :
    Step tbl st (visitConst st c).2 (varOccs (visitConst st c).1) := by
  cases c with
  | val t v => simpa [visitConst] using Step.refl hinv
  | bvar t n i => simpa [visitConst] using step_bound tbl B P HP st hinv hb n i h
  | evar t n id => simpa [visitConst, varOccs] using step_exist tbl st id n hinv h

mutual
theorem step_ty (tbl B : List String) (P : String → Nat → Prop) (HP : TableOK tbl B P) :
    (t : Ty) → ∀ (st : PState) (b : Bool), Inv IdentLike st → st.bound = B → Body P t →
      Step tbl st (visitTy st t b).2 (varOccs (visitTy st t b).1)
  | .num _, st, _, hi, _, _ => Step.refl hi
  | .none _, st, _, hi, _, _ => Step.refl hi
  | .bvar n i _ _, st, _, hi, hb, h => step_bound tbl B P HP st hi hb n i h
  | .evar n id _ _, st, _, hi, _, h => step_exist tbl st id n hi h
  | .tuple ts _, st, _, hi, hb, h => by
      simp only [visitTy, varOccs_paren]
      exact step_tys tbl B P HP ts st false hi hb h
  | .opaque n as, st, _, hi, hb, h => by
      simp only [visitTy]
      split
      · exact Step.refl hi
      · rw [varOccs_subscript]
        exact step_args tbl B P HP as st false hi hb h
  | .struct n as _, st, _, hi, hb, h => by
      simp only [visitTy]
      split
      · exact Step.refl hi
      · rw [varOccs_subscript]
        exact step_args tbl B P HP as st false hi hb h
  | .func ins o ps cs, st, inside, hi, hb, h => by
      obtain ⟨rfl, hins, ho⟩ := h
      have h1 := step_ins tbl B P HP ins st false hi hb hins
      simp only [visitTy, List.isEmpty_nil, ↓reduceIte, varOccs_wrap, varOccs_append, varOccs_optParen, varOccs]
      exact h1.trans (step_ty tbl B P HP o (visitIns st false ins).2 true h1.inv (h1.bound.trans hb) ho)
theorem step_tys (tbl B : List String) (P : String → Nat → Prop) (HP : TableOK tbl B P) :
    (ts : List Ty) → ∀ (st : PState) (sep : Bool), Inv IdentLike st → st.bound = B → BodyTys P ts →
      Step tbl st (visitTys st sep ts).2 (varOccs (visitTys st sep ts).1)
  | [], st, _, hi, _, _ => Step.refl hi
  | t :: ts, st, sep, hi, hb, h => by
      have h1 := step_ty tbl B P HP t st true hi hb h.1
      exact h1.join sep (step_tys tbl B P HP ts (visitTy st t true).2 true h1.inv (h1.bound.trans hb) h.2)
theorem step_arg (tbl B : List String) (P : String → Nat → Prop) (HP : TableOK tbl B P) :
    (a : Arg) → ∀ (st : PState), Inv IdentLike st → st.bound = B → BodyArg P a →
      Step tbl st (visitArg st a).2 (varOccs (visitArg st a).1)
  | .ty t, st, hi, hb, h => step_ty tbl B P HP t st true hi hb h
  | .const c, st, hi, hb, h => step_const tbl B P HP st hi hb c h
theorem step_args (tbl B : List String) (P : String → Nat → Prop) (HP : TableOK tbl B P) :
    (as : List Arg) → ∀ (st : PState) (sep : Bool), Inv IdentLike st → st.bound = B → BodyArgs P as →
      Step tbl st (visitArgs st sep as).2 (varOccs (visitArgs st sep as).1)
  | [], st, _, hi, _, _ => Step.refl hi
  | a :: as, st, sep, hi, hb, h => by
      have h1 := step_arg tbl B P HP a st hi hb h.1
      exact h1.join sep (step_args tbl B P HP as (visitArg st a).2 true h1.inv (h1.bound.trans hb) h.2)
theorem step_in (tbl B : List String) (P : String → Nat → Prop) (HP : TableOK tbl B P) :
    (i : FuncIn) → ∀ (st : PState), Inv IdentLike st → st.bound = B → BodyIn P i →
      Step tbl st (visitIn st i).2 (varOccs (visitIn st i).1)
  | .mk t f, st, hi, hb, h => by
      simp only [visitIn, varOccs_append, varOccs_flagToks, List.append_nil]
      exact step_ty tbl B P HP t st true hi hb h
theorem step_ins (tbl B : List String) (P : String → Nat → Prop) (HP : TableOK tbl B P) :
    (is : List FuncIn) → ∀ (st : PState) (sep : Bool), Inv IdentLike st → st.bound = B → BodyIns P is →
      Step tbl st (visitIns st sep is).2 (varOccs (visitIns st sep is).1)
  | [], st, _, hi, _, _ => Step.refl hi
  | i :: is, st, sep, hi, hb, h => by
      have h1 := step_in tbl B P HP i st hi hb h.1
      exact h1.join sep (step_ins tbl B P HP is (visitIn st i).2 true h1.inv (h1.bound.trans hb) h.2)
end


/-! ## From good occurrences to "same name iff same variable" -/
theorem qmark_prefix_mem (b : String) : '?' ∈ ("?" ++ b).toList := by
  simp [String.toList_append]

theorem good_iff (tbl : List String) (st : PState) (hinv : Inv IdentLike st) (htbl : tbl.Nodup)
    (hq : ∀ s ∈ tbl, '?' ∉ s.toList) (o1 o2 : VarId × String) (h1 : Good tbl st o1) (h2 : Good tbl st o2) :
    o1.2 = o2.2 ↔ o1.1 = o2.1 := by
  have hnames : (st.exist.map (·.2)).Nodup := (List.nodup_append.mp hinv.nodup).1
  -- a table name has no `?`, the name of an existential variable starts with one
  have mixed : ∀ {i id s s'}, Good tbl st (.bound i, s) → Good tbl st (.exist id, s') → s ≠ s' := by
    rintro i id s _ hb ⟨b, rfl, _⟩ rfl
    exact hq _ (List.mem_of_getElem? hb) (qmark_prefix_mem b)
  obtain ⟨v1, s1⟩ := o1
  obtain ⟨v2, s2⟩ := o2
  cases v1 <;> cases v2
  case bound.bound i j =>
    simp only [Good] at h1 h2
    have hi : i < tbl.length := by
      rcases Nat.lt_or_ge i tbl.length with h | h
      · exact h
      · simp [List.getElem?_eq_none h] at h1
    simp only [VarId.bound.injEq]
    rw [← List.getElem?_inj hi htbl, h1, h2]
    simp
  case bound.exist => exact ⟨fun e => absurd e (mixed h1 h2), nofun⟩
  case exist.bound => exact ⟨fun e => absurd e.symm (mixed h2 h1), nofun⟩
  case exist.exist id id' =>
    obtain ⟨a, rfl, ha⟩ := h1
    obtain ⟨b, rfl, hb⟩ := h2
    simp only [String.append_right_inj, VarId.exist.injEq]
    constructor
    · intro e
      have := List.nodup_map_inj (·.2) _ hnames _ ha _ hb e
      simpa using congrArg Prod.fst this
    · intro e
      have := List.nodup_map_inj (·.1) _ hinv.keys _ ha _ hb e
      simpa using congrArg Prod.snd this

theorem issued_no_qmark (st : PState) (hinv : Inv IdentLike st) : ∀ s ∈ st.bound, '?' ∉ s.toList := by
  intro s hs
  obtain ⟨d, k, hd, rfl, _⟩ := hinv.issued s (by simp [issuedNames, hs])
  exact mkName_no_qmark d k hd.2

theorem bound_nodup {Q : String → Prop} (st : PState) (hinv : Inv Q st) : st.bound.Nodup :=
  (List.nodup_append.mp hinv.nodup).2.1

/-! ## The quantifier list -/
theorem step_param (B : List String) (P : String → Nat → Prop) (HP : TableOK B B P) (p : Param) (st : PState)
    (hi : Inv IdentLike st) (hb : st.bound = B) (hk : paramIdx p < B.length) (hty : paramTyBody P p) :
    Step B st (visitParam st p).2 (varOccs (visitParam st p).1) := by
  cases p with
  | ty idx n c d =>
    have hget : B[idx]? = some B[idx] := List.getElem?_eq_getElem hk
    simpa [visitParam, paramTok, hb, hget, varOccs] using Step.bound_occ hi hget
  | const idx n ty fc =>
    have hget : B[idx]? = some B[idx] := List.getElem?_eq_getElem hk
    have h1 := step_ty B B P HP ty st true hi hb hty
    have hb1 := h1.bound.trans hb
    -- visited: the type, then the parameter's name; printed: the name first
    refine (h1.trans (Step.bound_occ h1.inv hget)).of_subset fun o ho => ?_
    simpa [visitParam, paramTok, hb1, hget, varOccs, or_comm] using ho

theorem step_params (B : List String) (P : String → Nat → Prop) (HP : TableOK B B P) :
    ∀ (ps : List Param) (k : Nat) (st : PState) (sep : Bool), Inv IdentLike st → st.bound = B →
      ParamsOK P k ps → k + ps.length ≤ B.length →
      Step B st (visitParams st sep ps).2 (varOccs (visitParams st sep ps).1)
  | [], _, st, _, hi, _, _, _ => Step.refl hi
  | p :: ps, k, st, sep, hi, hb, h, hk => by
      obtain ⟨_, hidx, hty, hrest⟩ := h
      simp only [List.length_cons] at hk
      simp only [visitParams]
      split
      · exact step_params B P HP ps (k + 1) st sep hi hb hrest (by omega)
      · have h1 := step_param B P HP p st hi hb (by omega) hty
        exact h1.join sep (step_params B P HP ps (k + 1) _ true h1.inv (h1.bound.trans hb) hrest (by omega))


theorem paramsOK_names (P : String → Nat → Prop) : ∀ (ps : List Param) (k : Nat), ParamsOK P k ps →
    ∀ d ∈ ps.map paramName, IdentLike d
  | [], _, _ => by simp
  | p :: ps, k, h => by
      simp only [ParamsOK] at h
      intro d hd
      simp only [List.map_cons, List.mem_cons] at hd
      rcases hd with rfl | hd
      · exact h.1
      · exact paramsOK_names P ps (k + 1) h.2.2.2 d hd

theorem names_open (ctxNames : List String) (t : Ty) (h : OpenOK ctxNames t) :
    ∀ o1 ∈ varOccs (printToks t), ∀ o2 ∈ varOccs (printToks t), (o1.2 = o2.2 ↔ o1.1 = o2.1) := by
  obtain ⟨hnd, hid, hbody⟩ := h
  have HP : TableOK ctxNames [] (fun n i => ctxNames[i]? = some n) := by
    intro n i h; simpa using h
  have hs := step_ty ctxNames [] _ HP t .init false (inv_init _) rfl hbody
  intro o1 h1 o2 h2
  exact good_iff ctxNames _ hs.inv hnd (fun s hs' => (hid s hs').2) o1 o2 (hs.good o1 h1) (hs.good o2 h2)

theorem names_generic (ins : List FuncIn) (o : Ty) (ps : List Param) (cs : List Const) (hne : ps ≠ [])
    (hps : ParamsOK (fun _ i => i < ps.length) 0 ps) (hins : BodyIns (fun _ i => i < ps.length) ins)
    (ho : Body (fun _ i => i < ps.length) o) :
    ∀ o1 ∈ varOccs (printToks (.func ins o ps cs)), ∀ o2 ∈ varOccs (printToks (.func ins o ps cs)),
      (o1.2 = o2.2 ↔ o1.1 = o2.1) := by
  obtain ⟨hi1, hlen, _⟩ := inv_pushParams IdentLike (fun _ h => h.1) (ps.map paramName) .init
    (paramsOK_names _ ps 0 hps) (inv_init _)
  generalize hst1 : pushParams PState.init (ps.map paramName) = st1 at hi1 hlen
  simp only [PState.init, List.length_nil, List.length_map, Nat.zero_add] at hlen
  have HP : TableOK st1.bound st1.bound (fun _ i => i < ps.length) := by
    intro n i hi
    have : i < st1.bound.length := by omega
    simp [List.getElem?_eq_getElem this]
  have h1 := step_ins st1.bound st1.bound _ HP ins st1 false hi1 rfl hins
  have h2 := step_ty st1.bound st1.bound _ HP o (visitIns st1 false ins).2 true h1.inv h1.bound ho
  have h3 := step_params st1.bound _ HP ps 0 (visitTy (visitIns st1 false ins).2 o true).2 false h2.inv
    (h2.bound.trans h1.bound) hps (by omega)
  have hE : ps.isEmpty = false := by cases ps <;> simp_all
  -- printed order: quantifier list, inputs, output; visited order: inputs, output, quantifier list
  have hall : Step st1.bound st1 _ (varOccs (printToks (.func ins o ps cs))) :=
    ((h1.trans h2).trans h3).of_subset fun x hx => by
      simp only [printToks, visitTy, hE, Bool.false_eq_true, ↓reduceIte, hst1, varOccs_wrap,
        varOccs_append, varOccs_optParen, varOccs, List.mem_append] at hx
      simp only [List.mem_append]
      rcases hx with (hx | hx) | hx
      · exact .inr hx
      · exact .inl (.inl hx)
      · exact .inl (.inr hx)
  intro o1 ho1 o2 ho2
  exact good_iff st1.bound _ hall.inv (bound_nodup _ hi1) (hall.bound ▸ issued_no_qmark _ hall.inv)
    o1 o2 (hall.good o1 ho1) (hall.good o2 ho2)

end GuppyVerif.Print
