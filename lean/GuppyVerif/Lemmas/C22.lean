import GuppyVerif.Lemmas.Basic
import GuppyVerif.Spec.C22
/-! Invariant of the tracer's ownership bookkeeping, preserved by every step. -/
namespace GuppyVerif.TraceOwn

/-- * ids at or beyond `next` are unallocated;
    * the dict holds exactly the objects that still have to be consumed;
    * for a non-copyable object the flag `used` says exactly "one use since creation / reset", and there
      is never more than one. -/
structure Inv (s : State) : Prop where
  fresh : ∀ i, s.next ≤ i → s.objs i = none
  dict : ∀ i, s.unused i = true ↔ Leaky s i
  once : ∀ i o, s.objs i = some o → o.copyable = false → o.uses ≤ 1 ∧ (o.used = true ↔ o.uses = 1)

theorem inv_empty : Inv State.empty := by
  refine ⟨fun _ _ => rfl, fun i => ?_, fun i o h => ?_⟩
  · simp [State.empty, Leaky]
  · simp [State.empty] at h

@[simp] theorem upd_same {α} (f : Nat → α) (i : Nat) (v : α) : upd f i v i = v := by simp [upd]
theorem upd_other {α} (f : Nat → α) (i j : Nat) (v : α) (h : j ≠ i) : upd f i v j = f j := by simp [upd, h]

theorem Inv.lt_next {s : State} (h : Inv s) {id : Nat} {o : Obj} (ho : s.objs id = some o) : id < s.next :=
  Nat.lt_of_not_le fun hle => by rw [h.fresh id hle] at ho; cases ho

/-- apart from `fresh` the invariant speaks of each id by itself -/
theorem Inv.update {s s' : State} (h : Inv s) {id : Nat} {o' : Obj}
    (hobjs : s'.objs = upd s.objs id (some o')) (hun : ∀ i, i ≠ id → s'.unused i = s.unused i)
    (hn : s.next ≤ s'.next) (hid : id < s'.next)
    (hd : s'.unused id = true ↔ o'.droppable = false ∧ o'.used = false)
    (ho : o'.copyable = false → o'.uses ≤ 1 ∧ (o'.used = true ↔ o'.uses = 1)) : Inv s' := by
  refine ⟨fun i hi => ?_, fun i => ?_, fun i o hio hc => ?_⟩
  · rw [hobjs, upd_other _ _ _ _ (by omega)]; exact h.fresh i (by omega)
  · unfold Leaky
    by_cases e : i = id
    · subst e; rw [hobjs, upd_same]; simpa using hd
    · rw [hun i e, hobjs, upd_other _ _ _ _ e]; exact h.dict i
  · rw [hobjs] at hio
    by_cases e : i = id
    · subst e; rw [upd_same] at hio; cases hio; exact ho hc
    · rw [upd_other _ _ _ _ e] at hio; exact h.once i o hio hc

theorem inv_create {s : State} (h : Inv s) (c d : Bool) : Inv (create s c d) :=
  h.update (id := s.next) rfl (fun _ e => upd_other _ _ _ _ e) (Nat.le_succ _) (Nat.lt_succ_self _)
    (by simp [create]) (by simp)

theorem inv_useObj {s s' : State} (h : Inv s) (id : Nat) (hs : useObj s id = .ok s') : Inv s' := by
  unfold useObj at hs
  split at hs
  · cases hs
  · rename_i o ho
    split at hs
    · cases hs
    · rename_i hnu
      -- a non-copyable object that may still be used has not been used: its counter stands at 0
      have h0 : o.copyable = false → o.uses = 0 := fun hc => by
        have hu : o.used = false := by
          cases hu : o.used
          · rfl
          · exact absurd ⟨hu, by simp [hc]⟩ hnu
        have := h.once id o ho hc
        simp only [hu, Bool.false_eq_true, false_iff] at this
        omega
      have hlt := h.lt_next ho
      split at hs <;> cases hs
      · -- droppable: the dict is not touched, and the object was never in it
        rename_i hd
        have : s.unused id = false := by
          cases hu : s.unused id
          · rfl
          · obtain ⟨o2, h2, hd2, _⟩ := (h.dict id).mp hu
            rw [ho] at h2; cases h2; simp [hd] at hd2
        exact h.update rfl (fun _ _ => rfl) (Nat.le_refl _) hlt (by simp [this]) (fun hc => by simp [h0 hc])
      · exact h.update rfl (fun _ e => upd_other _ _ _ _ e) (Nat.le_refl _) hlt (by simp)
          (fun hc => by simp [h0 hc])

theorem inv_reset {s s' : State} (h : Inv s) (id : Nat) (hs : reset s id = .ok s') : Inv s' := by
  unfold reset at hs
  split at hs
  · cases hs
  · rename_i o ho
    cases hs
    refine h.update rfl (fun i e => ?_) (Nat.le_refl _) (h.lt_next ho) ?_ (by simp)
    · split
      · exact upd_other _ _ _ _ e
      · rfl
    · by_cases hc : (!o.droppable) = true ∧ o.used = true
      · have hd : o.droppable = false := by simpa using hc.1
        simp [hc, hd]
      · rw [if_neg hc, h.dict id]
        simp only [Leaky, ho, Option.some.injEq, exists_eq_left']
        cases hd : o.droppable <;> cases hu : o.used <;> simp_all

theorem inv_borrow {s s' : State} (h : Inv s) (id : Nat) (hs : borrow s id = .ok s') : Inv s' := by
  unfold borrow at hs
  split at hs
  · cases hs
  · obtain ⟨s1, h1, hs⟩ := Except.bind_eq_ok.mp hs
    obtain ⟨s3, h3, hs⟩ := Except.bind_eq_ok.mp hs
    exact inv_reset (inv_useObj (inv_create (inv_useObj h id h1) _ _) _ h3) id hs

theorem inv_step {s s' : State} (h : Inv s) (op : Op) (hs : step s op = .ok s') : Inv s' := by
  cases op with
  | create c d => cases hs; exact inv_create h c d
  | use id => exact inv_useObj h id hs
  | borrow id => exact inv_borrow h id hs
  | reset id => exact inv_reset h id hs
  | mutate f =>
    simp only [step] at hs
    split at hs
    · cases hs
    · cases hs; exact h

theorem inv_run {s s' : State} (h : Inv s) (ops : List Op) (hs : run s ops = .ok s') : Inv s' := by
  induction ops generalizing s with
  | nil => cases hs; exact h
  | cons op ops ih =>
    simp only [run] at hs
    split at hs
    · rename_i s1 h1; exact ih (inv_step h op h1) hs
    · cases hs

theorem Inv.any_unused_iff {s : State} (h : Inv s) :
    (List.range s.next).any s.unused = true ↔ ∃ id, Leaky s id := by
  rw [List.any_eq_true]
  constructor
  · rintro ⟨id, _, hun⟩; exact ⟨id, (h.dict id).mp hun⟩
  · rintro ⟨id, o, ho, hd, hu⟩
    exact ⟨id, List.mem_range.mpr (h.lt_next ho), (h.dict id).mpr ⟨o, ho, hd, hu⟩⟩

end GuppyVerif.TraceOwn
