import GuppyVerif.Lemmas.C07Place
import GuppyVerif.Lemmas.C07Container
/-! Wire level, every well-typed path: the emitted op list simulates the place-level cascade
    (`simLS`, by the same induction on the subscript level as `loadStore_spec`).  Joins the place
    level (`C07Place`) with the container lemmas (`C07Container`). -/
namespace GuppyVerif.Places

/-- the path is well typed under a root of type `t`; `pty` is the type of the place itself -/
def WT : Ty → List Chunk → List Nat → Ty → Prop
  | t, [], tail, pty => tyProj t tail = some pty
  | t, c :: cs, tail, pty => ∃ te, tyProj t c.projs = some (.arr te) ∧ WT te cs tail pty

/-- the executable check used by the harness on every probe is sound for `WT` -/
theorem wtCheck_sound : ∀ (cs : List Chunk) (t : Ty) (tail : List Nat) (pty : Ty),
    wtCheck t cs tail = some pty → WT t cs tail pty
  | [], t, tail, pty, h => by simpa [wtCheck, WT] using h
  | c :: cs, t, tail, pty, h => by
    simp only [wtCheck] at h
    split at h
    · next te hp => exact ⟨te, hp, wtCheck_sound cs te tail pty h⟩
    · cases h

/-- what the simulation uses of the level list `lv`: container `k` (`0` the root `pid`, `k` the
    element lent at subscript `k`) has type `cTy k` and place id `cId k` -/
structure Levels (t : Ty) (pid : PlaceId) (j0 : Nat) (cs : List Chunk) (tl : List Nat) (pty : Ty)
    (lv : List Level) (cTy : Nat → Ty) (cId : Nat → PlaceId) : Prop where
  ty0 : cTy 0 = t
  id0 : cId 0 = pid
  len : lv.length = cs.length
  level : ∀ j c, cs[j]? = some c → lv[j]? = some (Level.mk (cId j) (cTy j) c.projs (j + j0))
  arr : ∀ j c, cs[j]? = some c → tyProj (cTy j) c.projs = some (.arr (cTy (j + 1)))
  id : ∀ j c, cs[j]? = some c → cId (j + 1) = cId j ++ c.projs.map .proj ++ [.sub (j + j0)]
  tail : tyProj (cTy cs.length) tl = some pty

theorem mkLevels_levels : ∀ (cs : List Chunk) (t : Ty) (pid : PlaceId) (j0 : Nat) (tl : List Nat)
    (pty : Ty), WT t cs tl pty →
    ∃ cTy cId, Levels t pid j0 cs tl pty (mkLevels t pid cs j0) cTy cId
  | [], t, pid, j0, tl, pty, h =>
    ⟨fun _ => t, fun _ => pid, rfl, rfl, rfl, by simp, by simp, by simp, h⟩
  | c0 :: cs, t, pid, j0, tl, pty, ⟨te, h1, h2⟩ => by
    obtain ⟨cTy, cId, H⟩ := mkLevels_levels cs te (pid ++ c0.projs.map .proj ++ [.sub j0]) (j0 + 1)
      tl pty h2
    have he : Level.elemTy ⟨pid, t, c0.projs, j0⟩ = te := by
      simp [Level.elemTy, Level.arrTy, h1, arrElemTy]
    -- container `k + 1` of the path is container `k` of its tail
    refine ⟨fun | 0 => t | k + 1 => cTy k, fun | 0 => pid | k + 1 => cId k, rfl, rfl,
      by simpa [mkLevels, he] using H.len, ?_, ?_, ?_, H.tail⟩
    all_goals rintro (_ | j) c hc
    · cases hc; simp [mkLevels]
    · simpa [mkLevels, he, Nat.add_assoc, Nat.add_comm 1 j0] using H.level j c hc
    · cases hc; simpa [H.ty0] using h1
    · exact H.arr j c hc
    · cases hc; simp [H.id0]
    · simpa [Nat.add_assoc, Nat.add_comm 1 j0] using H.id j c hc

section levels
variable {t pty : Ty} {pid : PlaceId} {j0 : Nat} {cs : List Chunk} {tl : List Nat} {lv : List Level}
  {cTy : Nat → Ty} {cId : Nat → PlaceId} (H : Levels t pid j0 cs tl pty lv cTy cId)
include H

theorem Levels.arrTy {j : Nat} {c : Chunk} (hc : cs[j]? = some c) (w : Nat) :
    (Level.mk (cId j) (cTy j) c.projs w).arrTy = .arr (cTy (j + 1)) := by
  simp [Level.arrTy, H.arr j c hc]

theorem Levels.elemTy {j : Nat} {c : Chunk} (hc : cs[j]? = some c) (w : Nat) :
    (Level.mk (cId j) (cTy j) c.projs w).elemTy = cTy (j + 1) := by
  simp [Level.elemTy, H.arrTy hc, arrElemTy]

theorem Levels.subId {j : Nat} {c : Chunk} (hc : cs[j]? = some c) (w : Nat) :
    subId (Level.mk (cId j) (cTy j) c.projs w) (j + j0) = cId (j + 1) := by
  rw [H.id j c hc]; rfl

/-- the place id of a lent element contains a subscript step: it is not a field of the root -/
theorem Levels.not_root {k : Nat} {c : Chunk} (hc : cs[k]? = some c) {q : PlaceId}
    (hq : ProjExt [] q) : ¬ cId (k + 1) <+: q := by
  rw [H.id k c hc]
  obtain ⟨ks, rfl⟩ := hq
  rintro ⟨r, hr⟩
  have : PStep.sub (k + j0) ∈ ([] ++ ks.map PStep.proj) := hr ▸ by simp
  simp at this

end levels

theorem Levels.last {t pty : Ty} {cs : List Chunk} {tl : List Nat} {lv : List Level}
    {cTy : Nat → Ty} {cId : Nat → PlaceId} (H : Levels t [] 1 cs tl pty lv cTy cId) :
    lastPlace t lv cs.length = (cId cs.length, cTy cs.length) := by
  unfold lastPlace
  cases hm : cs.length with
  | zero => simp [List.eq_nil_of_length_eq_zero (H.len.trans hm), H.ty0, H.id0]
  | succ m =>
    have hc : cs[m]? = some cs[m] := List.getElem?_eq_getElem (by omega)
    simp only [Nat.add_sub_cancel, H.level m _ hc, H.elemTy hc, H.subId hc]

section sim
variable (f : V → V) (inputs : List W) (C : Ty → V → Prop) (p : CPath) (cTy : Nat → Ty)
  (cId : Nat → PlaceId)

def Live (cs : CS) (env : List W) (s : Slots) (k : Nat) : Prop :=
  Stored C cs env (cTy k) (cId k) (s k)

structure Run (cs : CS) (env : List W) : Prop where
  sem : Sem f inputs cs env
  ok : cs.bad = false
  idx : ∀ k c, p.chunks[k]? = some c → env[k + 1]? = some (.int c.idx)

variable {f inputs C p cTy cId}

theorem Live.of_eq {cs : CS} {env : List W} {s : Slots} {k : Nat} {v : V} (h : s k = v)
    (hS : Stored C cs env (cTy k) (cId k) v) : Live C cTy cId cs env s k := by
  unfold Live; rwa [h]

theorem Run.ext {out : PlaceId → Prop} {cs cs' : CS} {env env' : List W} (R : Run f inputs p cs env)
    (E : Emits f inputs out cs env cs' env') : Run f inputs p cs' env' :=
  ⟨E.sem, E.bad.trans R.ok, fun k c hk => E.get (R.idx k c hk)⟩

variable {t pty : Ty} {lv : List Level} (H : Levels t [] 1 p.chunks p.tail pty lv cTy cId)
include H

theorem Live.root {cs : CS} {env : List W} {s : Slots} :
    Live C cTy cId cs env s 0 ↔ Stored C cs env t [] (s 0) := by
  unfold Live; rw [H.ty0, H.id0]

theorem live_root_frame {cs cs' : CS} {env env' : List W} {r : PlaceId}
    (E : Emits f inputs (¬ r <+: ·) cs env cs' env') {s : Slots} {k : Nat} {c : Chunk}
    (hr : cId (k + 1) <+: r) (hc : p.chunks[k]? = some c) (L0 : Live C cTy cId cs env s 0) :
    Live C cTy cId cs' env' s 0 :=
  ⟨Unpacked_frame E.pre _ _ _ (fun q hq => E.frame q (fun h =>
    H.not_root hc (H.id0 ▸ hq) (hr.trans h))) L0.unpacked, L0.typed⟩

/-- the root stays stored next to container `j` (they are the same container when `j = 0`) -/
theorem live_update (hC : Typing C) {cs cs' : CS} {env env' : List W} {s1 s2 : Slots} {j : Nat}
    {projs : List Nat} {ty' : Ty} {new cont : V}
    (E : Emits f inputs (¬ (cId j ++ projs.map .proj) <+: ·) cs env cs' env')
    (hj : j ≤ p.chunks.length) (hty : tyProj (cTy j) projs = some ty')
    (L0 : Live C cTy cId cs env s1 0) (Lj : Live C cTy cId cs env s1 j)
    (hput : putP (projs.map .proj) new (s1 j) = some cont)
    (hn : Stored C cs' env' ty' (cId j ++ projs.map .proj) new)
    (h2j : s2 j = cont) (h20 : j ≠ 0 → s2 0 = s1 0) :
    Live C cTy cId cs' env' s2 0 ∧ Live C cTy cId cs' env' s2 j := by
  have Lj' : Live C cTy cId cs' env' s2 j :=
    .of_eq h2j (Stored.update hC E.pre projs hty Lj E.frame hn hput)
  refine ⟨?_, Lj'⟩
  cases j with
  | zero => exact Lj'
  | succ j' =>
    exact .of_eq (h20 (by omega)) (live_root_frame H E (List.prefix_append _ _)
      (List.getElem?_eq_getElem (by omega : j' < p.chunks.length)) L0)

/-- the cascade at wire level simulates the place level.  Besides container `j`, which is worked
    on, the root is kept stored throughout: `store j` ends in it. -/
theorem simLS (hC : Typing C) : ∀ j, j ≤ p.chunks.length →
    (∀ (s s' : Slots) (cs : CS) (env : List W),
      runA f p (load j) s = .ok s' → Run f inputs p cs env → Live C cTy cId cs env s 0 →
      ∃ env', Emits f inputs (fun _ => False) cs env ((loadStoreW lv j).1 cs) env' ∧
        Live C cTy cId ((loadStoreW lv j).1 cs) env' s' 0 ∧
        Live C cTy cId ((loadStoreW lv j).1 cs) env' s' j) ∧
    (∀ (s s' : Slots) (cs : CS) (env : List W),
      runA f p (store j) s = .ok s' → Run f inputs p cs env →
      Live C cTy cId cs env s 0 → Live C cTy cId cs env s j →
      ∃ env', Emits f inputs (fun _ => False) cs env ((loadStoreW lv j).2 cs) env' ∧
        Live C cTy cId ((loadStoreW lv j).2 cs) env' s' 0) := by
  intro j
  induction j with
  | zero =>
    intro _
    constructor
    · intro s s' cs env h R hL
      cases h
      exact ⟨env, .refl R.sem, hL, hL⟩
    · intro s s' cs env h R hL _
      cases h
      exact ⟨env, .refl R.sem, hL⟩
  | succ j ih =>
    intro hle
    have hj : j < p.chunks.length := hle
    obtain ⟨ihL, ihS⟩ := ih (Nat.le_of_lt hj)
    have hc : p.chunks[j]? = some p.chunks[j] := List.getElem?_eq_getElem hj
    have hl := H.level j _ hc
    have hat := H.arrTy hc (j + 1)
    have het := H.elemTy hc (j + 1)
    have hsub := H.subId hc (j + 1)
    have hty := H.arr j _ hc
    obtain ⟨frL, frS⟩ := ls_frame f p j
    constructor
    · -- load (j+1) = load j; borrow; store j; bind the element place
      intro s s' cs env h R hL0
      rw [load_succ] at h
      obtain ⟨s1, s2, h1, h2, h3⟩ := (runA_mid ..).mp h
      obtain ⟨c', cells, e, cont, hc', hga, hce, he, hpa, hs2⟩ := stepA_borrow_inv _ _ _ _ _ h2
      cases hc.symm.trans hc'
      obtain ⟨env1, E1, L01, Lj1⟩ := ihL s s1 cs env h1 R hL0
      have R1 := R.ext E1
      have La := Stored.focus hC _ hty Lj1 hga
      obtain ⟨env2, E2, Ua, hwe⟩ := borrowStepW_spec f inputs _ _ _ _ p.chunks[j].idx cells e hat
        R1.sem La.unpacked (R1.idx j _ hc) hce he
      obtain ⟨L02, Lj2⟩ := live_update (s2 := s2) H hC E2 (Nat.le_of_lt hj) hty L01 Lj1 hpa
        ⟨Ua, hC.set (s := .idx p.chunks[j].idx) La.typed rfl (Or.inr ⟨rfl, _, rfl⟩)⟩
        (by rw [hs2, upd_other _ _ _ _ (by omega), upd_same])
        (fun hj0 => by rw [hs2, upd_other _ _ _ _ (by omega), upd_other _ _ _ _ (Ne.symm hj0)])
      obtain ⟨env3, E3, L03⟩ := ihS s2 s' _ _ h3 (R1.ext E2) L02 Lj2
      have hCe := hC.get (s := .idx p.chunks[j].idx) La.typed rfl hce (Or.inl he)
      obtain ⟨env4, E4, U4⟩ := dset_spec f inputs (cTy (j + 1)) (cId (j + 1)) _ _ env3 e E3.sem
        (E3.get hwe) (hC.shape hCe)
      rw [loadW_succ_eq _ j _ hl, het, hsub]
      exact ⟨env4, E1.trans ((E2.mono nofun).trans (E3.trans (E4.mono nofun))),
        live_root_frame H E4 (List.prefix_refl _) hc L03,
        .of_eq (by rw [frS _ _ h3 (j + 1) (by omega), hs2, upd_same]) ⟨U4, hCe⟩⟩
    · -- store (j+1) = pack the element; load j; return; store j
      intro s s' cs env h R hL0 hLj1
      rw [store_succ] at h
      obtain ⟨s1, s2, h1, h2, h3⟩ := (runA_mid ..).mp h
      obtain ⟨c', cells, cont, hc', hga, hce, hpa, hs2⟩ := stepA_ret_inv _ _ _ _ _ h2
      cases hc.symm.trans hc'
      have hs1j1 : s1 (j + 1) = s (j + 1) := frL _ _ h1 (j + 1) (by omega)
      obtain ⟨env0, E0, hv0⟩ := dget_spec f inputs (cTy (j + 1)) (cId (j + 1)) cs env (s (j + 1))
        R.sem hLj1.unpacked
      obtain ⟨env1, E1, L01, Lj1⟩ := ihL s s1 _ _ h1 (R.ext E0)
        (live_root_frame H E0 (List.prefix_refl _) hc hL0)
      have R1 := (R.ext E0).ext E1
      have La := Stored.focus hC _ hty Lj1 hga
      obtain ⟨env2, E2, Ua⟩ := retStepW_spec f inputs _ _ _ _ _ p.chunks[j].idx cells (s1 (j + 1))
        hat R1.sem La.unpacked (R1.idx j _ hc) (hs1j1 ▸ E1.get hv0) hce
      obtain ⟨L02, Lj2⟩ := live_update (s2 := s2) H hC E2 (Nat.le_of_lt hj) hty L01 Lj1 hpa
        ⟨Ua, hC.set (s := .idx p.chunks[j].idx) La.typed rfl (Or.inl (hs1j1 ▸ hLj1.typed))⟩
        (by rw [hs2, upd_same]) (fun hj0 => by rw [hs2, upd_other _ _ _ _ (Ne.symm hj0)])
      obtain ⟨env3, E3, L03⟩ := ihS s2 s' _ _ h3 (R1.ext E2) L02 Lj2
      rw [storeW_succ_eq _ j _ hl, het, hsub]
      exact ⟨env3, (E0.mono nofun).trans (E1.trans ((E2.mono nofun).trans E3)), L03⟩

/-- function entry and `load m` -/
theorem entry_live (hC : Typing C) {X : V} (hX : C t X) {n : Nat} (hn : inputs.length = n)
    (h0 : inputs[0]? = some (.val X))
    (hidx : ∀ k c, p.chunks[k]? = some c → inputs[k + 1]? = some (.int c.idx)) {s1 : Slots}
    (h1 : runA f p (load p.chunks.length) (initSlots X) = .ok s1) :
    ∃ env, inputs <+: env ∧
      Run f inputs p ((loadStoreW lv p.chunks.length).1 (dset t [] 0 { next := n })) env ∧
      Live C cTy cId ((loadStoreW lv p.chunks.length).1 (dset t [] 0 { next := n })) env s1 0 ∧
      Live C cTy cId ((loadStoreW lv p.chunks.length).1 (dset t [] 0 { next := n })) env s1
        p.chunks.length := by
  obtain ⟨env0, E0, U0⟩ := dset_spec f inputs t [] 0 { next := n } inputs X ⟨rfl, hn⟩ h0
    (hC.shape hX)
  have R0 : Run f inputs p _ env0 := ⟨E0.sem, E0.bad, fun k c hk => E0.get (hidx k c hk)⟩
  obtain ⟨env1, E1, h⟩ := (simLS H hC _ (Nat.le_refl _)).1 _ s1 _ _ h1 R0
    ((Live.root H).mpr ⟨U0, hX⟩)
  exact ⟨env1, E0.pre.trans E1.pre, R0.ext E1, h⟩

/-- `store m` and function exit -/
theorem exit_live (hC : Typing C) {cs : CS} {env : List W} {s s3 : Slots}
    (h3 : runA f p (store p.chunks.length) s = .ok s3) (R : Run f inputs p cs env)
    (L0 : Live C cTy cId cs env s 0) (Lm : Live C cTy cId cs env s p.chunks.length) :
    ∃ env', env <+: env' ∧
      Run f inputs p (dget t [] ((loadStoreW lv p.chunks.length).2 cs)).1 env' ∧
      env'[(dget t [] ((loadStoreW lv p.chunks.length).2 cs)).2]? = some (.val (s3 0)) := by
  obtain ⟨env5, E5, L05⟩ := (simLS H hC _ (Nat.le_refl _)).2 _ s3 _ _ h3 R L0 Lm
  obtain ⟨env6, E6, hw⟩ := dget_spec f inputs t [] _ env5 (s3 0) E5.sem
    ((Live.root H).mp L05).unpacked
  exact ⟨env6, E5.pre.trans E6.pre, (R.ext E5).ext E6, hw⟩

omit H

theorem runW_of_Sem {cs : CS} {env : List W} {w : Nat} {x : W} (S : Sem f inputs cs env)
    (hw : env[w]? = some x) :
    runW f ⟨inputs.length, cs.instrs.reverse, [w]⟩ inputs = .ok [x] := by
  simp only [runW, ne_eq, not_true_eq_false, ↓reduceIte, S.1, Except.ok_bind]
  exact lookupW_of _ _ _ (by simp only [List.map_cons, List.map_nil, hw])

theorem wire_sim (hC : Typing C) (c : String) (X X' : V) (hWT : WT t p.chunks p.tail pty)
    (hX : C t X) (hfc : ∀ v, C pty v → C pty (f v)) (h : callBorrowA f p X = .ok X') :
    runW f (emitW t p c) (.val X :: p.chunks.map (fun c => W.int c.idx)) = .ok [.val X'] := by
  obtain ⟨s3, hr, rfl⟩ := callBorrowA_ok_iff.mp h
  obtain ⟨s1, _, h1, h2, h3⟩ := (runA_mid ..).mp hr
  obtain ⟨v, cont, hgv, hpv, rfl⟩ := stepA_call_iff.mp h2
  obtain ⟨cTy, cId, H⟩ := mkLevels_levels p.chunks t [] 1 p.tail pty hWT
  unfold emitW
  simp only [H.last, H.tail, Option.getD_some]
  obtain ⟨env1, _, R1, L01, Lm1⟩ := entry_live
    (inputs := .val X :: p.chunks.map (fun c => W.int c.idx)) H hC hX (n := p.chunks.length + 1)
    (by simp) rfl (fun k c hk => by simp [hk]) h1
  generalize (loadStoreW (mkLevels t [] p.chunks 1) p.chunks.length).1
    (dset t [] 0 { next := p.chunks.length + 1 }) = cs1 at R1 L01 Lm1 ⊢
  -- the call on the place `s_m.tail`
  have Lp := Stored.focus hC _ H.tail Lm1 hgv
  have hCv := hfc v Lp.typed
  obtain ⟨env2, E2, hw2⟩ := dget_spec f _ pty _ cs1 env1 v R1.sem Lp.unpacked
  generalize dget pty (cId p.chunks.length ++ p.tail.map .proj) cs1 = r at E2 hw2 ⊢
  obtain ⟨cs2, w⟩ := r
  obtain ⟨E3, o3⟩ := E2.addOp (.call c) [w] 1 [.val v] [.val (f v)]
    (lookupW_of _ _ _ (by simp only [List.map_cons, List.map_nil, hw2])) rfl rfl
  have ho3 : (cs2.addOp (.call c) [w] 1).2.headD 0 = env2.length := by rw [o3]; simp
  simp only [ho3]
  obtain ⟨env4, E4, U4⟩ := dset_spec f _ pty (cId p.chunks.length ++ p.tail.map .proj)
    env2.length _ _ (f v) E3.sem (by simp) (hC.shape hCv)
  obtain ⟨L02, Lm2⟩ := live_update (s2 := upd s1 p.chunks.length cont) H hC (E3.trans E4)
    (Nat.le_refl _) H.tail L01 Lm1 hpv ⟨U4, hCv⟩ (upd_same _ _ _)
    (fun hm0 => upd_other _ _ _ _ (Ne.symm hm0))
  obtain ⟨env6, _, R6, hw6⟩ := exit_live H hC h3 (R1.ext (E3.trans E4)) L02 Lm2
  simp only [R6.ok, Bool.false_eq_true, ↓reduceIte]
  simpa using runW_of_Sem R6.sem hw6

theorem WT_subPath : ∀ is : List Nat, WT (arrN is.length) (is.map fun i => ⟨[], i⟩) [] .q
  | [] => rfl
  | _ :: is => ⟨arrN is.length, rfl, WT_subPath is⟩

/-- nested subscripts need no typing assumption: nothing on the path is ever unpacked -/
theorem wire_sim_subscripts (is : List Nat) (c : String) (X X' : V)
    (h : callBorrowA f (subPath is) X = .ok X') :
    runW f (emitW (arrN is.length) (subPath is) c) (.val X :: is.map .int) = .ok [.val X'] := by
  have := wire_sim arrN_typing c X X' (p := subPath is) (WT_subPath is) ⟨_, rfl⟩ (fun _ h => h) h
  simpa [subPath, Function.comp_def] using this

end sim

/-- `emitAssignW` has no `Call`: the interpreter's callee parameter is the place level's constant
    function -/
theorem wire_sim_assign (t pty : Ty) (p : CPath) (X X' v : V)
    (hWT : WT t p.chunks p.tail pty) (hleaf : ∀ ts, pty ≠ .tup ts) (htl : p.tail ≠ [])
    (hX : Conf t X) (hv : Conf pty v) (h : callBorrowA (fun _ => v) p X = .ok X') :
    runW (fun _ => v) (emitAssignW t p)
      (.val X :: (p.chunks.map (fun c => W.int c.idx) ++ [.val v])) = .ok [.val X'] := by
  obtain ⟨s3, hr, rfl⟩ := callBorrowA_ok_iff.mp h
  obtain ⟨s1, _, h1, h2, h3⟩ := (runA_mid ..).mp hr
  obtain ⟨vold, cont, hgv, hpv, rfl⟩ := stepA_call_iff.mp h2
  obtain ⟨cTy, cId, H⟩ := mkLevels_levels p.chunks t [] 1 p.tail pty hWT
  have hne : p.tail.isEmpty = false := by cases hp : p.tail <;> simp_all
  unfold emitAssignW
  simp only [H.last, H.tail, Option.getD_some, hne, Bool.or_false]
  obtain ⟨env1, P1, R1, L01, Lm1⟩ := entry_live
    (inputs := .val X :: (p.chunks.map (fun c => W.int c.idx) ++ [.val v])) H Conf.typing hX
    (n := p.chunks.length + 2) (by simp) rfl (fun k c hk => by
      obtain ⟨hlt, he⟩ := List.getElem?_eq_some_iff.mp hk
      simp [List.getElem?_append_left, hlt, he]) h1
  generalize (loadStoreW (mkLevels t [] p.chunks 1) p.chunks.length).1
    (dset t [] 0 { next := p.chunks.length + 2 }) = cs1 at R1 L01 Lm1 ⊢
  -- the place holds the old value in one wire; it is re-bound to the input wire `m+1`
  obtain ⟨wold, hfold, heold⟩ :=
    (Unpacked_leaf hleaf).mp (Stored.focus Conf.typing _ H.tail Lm1 hgv).unpacked
  simp only [hfold, Option.getD_some]
  obtain ⟨E2, U2⟩ := dset_spec_leaf (fun _ => v) _ hleaf
    (cId p.chunks.length ++ p.tail.map .proj) (p.chunks.length + 1) cs1 env1 v R1.sem
    (P1.getElem?_of_some (by simp))
  obtain ⟨L02, Lm2⟩ := live_update (s2 := upd s1 p.chunks.length cont) H Conf.typing E2
    (Nat.le_refl _) H.tail L01 Lm1 hpv ⟨U2, hv⟩ (upd_same _ _ _)
    (fun hm0 => upd_other _ _ _ _ (Ne.symm hm0))
  obtain ⟨env6, P6, R6, hw6⟩ := exit_live H Conf.typing h3 (R1.ext E2) L02 Lm2
  obtain ⟨E7, _⟩ := (Emits.refl (out := fun _ => False) R6.sem).addOp .drop [wold] 0 [.val vold] []
    (lookupW_of _ _ _ (by
      simp only [List.map_cons, List.map_nil, P6.getElem?_of_some heold])) rfl rfl
  simp only [CS.addOp_bad, R6.ok, Bool.false_eq_true, ↓reduceIte]
  simpa using runW_of_Sem E7.sem (by simpa using hw6)

end GuppyVerif.Places
