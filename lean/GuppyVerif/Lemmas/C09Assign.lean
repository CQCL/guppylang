import GuppyVerif.Lemmas.C09Worklist
/-! The assignment step as an equation in the joins `jD`/`jM`, `NotDef` and `MaybePath` as least predicates, the
    invariants of the worklist (forward analysis with `vals_after` cache) for every visiting order, and what holds
    at a root and at blocks reachable from one. -/
namespace GuppyVerif.Dataflow

def jD (g : Cfg) (P : AParams) (aD : Blk → List Var) (b : Blk) : List Var :=
  if (g.pred b ++ g.dpred b).isEmpty then P.entryDef else interAll ((g.pred b ++ g.dpred b).map aD)
def jM (g : Cfg) (P : AParams) (aM : Blk → List Var) (b : Blk) : List Var :=
  if (g.pred b ++ g.dpred b).isEmpty then P.entryMaybe else ((g.pred b ++ g.dpred b).map aM).flatten

theorem assJoin_eq (g : Cfg) (P : AParams) (aD aM : Blk → List Var) (b : Blk) :
    assJoin P ((g.pred b ++ g.dpred b).map aD) ((g.pred b ++ g.dpred b).map aM) =
      (jD g P aD b, jM g P aM b) := by
  unfold assJoin jD jM
  cases h : (g.pred b ++ g.dpred b) <;> simp

theorem assStep_eq (g : Cfg) (P : AParams) (s : ASt) (b : Blk) :
    assStep g P s b =
      if sameSet (jD g P s.aftD b ++ g.assigned b) (s.aftD b) &&
          sameSet (jM g P s.aftM b ++ g.assigned b) (s.aftM b) then
        { s with befD := upd s.befD b (jD g P s.aftD b), befM := upd s.befM b (jM g P s.aftM b),
                 queue := s.queue.filter (· != b) }
      else
        { befD := upd s.befD b (jD g P s.aftD b), befM := upd s.befM b (jM g P s.aftM b),
          aftD := upd s.aftD b (jD g P s.aftD b ++ g.assigned b),
          aftM := upd s.aftM b (jM g P s.aftM b ++ g.assigned b),
          queue := s.queue.filter (· != b) ++ (g.succ b ++ g.dsucc b) } := by
  unfold assStep
  simp only [assJoin_eq]

theorem mem_interAll {ds : List (List Var)} (hne : ds ≠ []) {x : Var} :
    x ∈ interAll ds ↔ ∀ d ∈ ds, x ∈ d := by
  cases ds with
  | nil => exact absurd rfl hne
  | cons d ds =>
    unfold interAll
    simp only [List.mem_filter, List.all_eq_true, List.contains_iff_mem, List.mem_cons,
      forall_eq_or_imp]

theorem mem_jD {g : Cfg} {P : AParams} {aD : Blk → List Var} {b : Blk} {x : Var} :
    x ∈ jD g P aD b ↔
      (g.pred b ++ g.dpred b = [] ∧ x ∈ P.entryDef) ∨ (g.pred b ++ g.dpred b ≠ [] ∧ ∀ p, PEdge g p b → x ∈ aD p) := by
  unfold jD PEdge
  by_cases h : g.pred b ++ g.dpred b = []
  · simp [h]
  · have hne : (g.pred b ++ g.dpred b).map aD ≠ [] := by simpa using h
    simp only [List.isEmpty_iff, h, ↓reduceIte, false_and, ne_eq, not_false_eq_true, true_and,
      false_or, mem_interAll hne, List.mem_map, forall_exists_index, and_imp,
      forall_apply_eq_imp_iff₂]

theorem mem_jM {g : Cfg} {P : AParams} {aM : Blk → List Var} {b : Blk} {x : Var} :
    x ∈ jM g P aM b ↔
      (g.pred b ++ g.dpred b = [] ∧ x ∈ P.entryMaybe) ∨ (∃ p, PEdge g p b ∧ x ∈ aM p) := by
  unfold jM PEdge
  by_cases h : g.pred b ++ g.dpred b = []
  · simp [h]
  · simp only [List.isEmpty_iff, h, ↓reduceIte, List.mem_flatten, List.mem_map, false_and,
      false_or]
    constructor
    · rintro ⟨l, ⟨p, hp, rfl⟩, hx⟩; exact ⟨p, hp, hx⟩
    · rintro ⟨p, hp, hx⟩; exact ⟨_, ⟨p, hp, rfl⟩, hx⟩

theorem map_upd_of_not_mem {l : List Blk} {b : Blk} {f : Blk → List Var} {v : List Var}
    (h : b ∉ l) : l.map (upd f b v) = l.map f :=
  List.map_congr_left fun _ hd => upd_ne f v fun e => h (e ▸ hd)

theorem jD_upd {g : Cfg} {P : AParams} {aD : Blk → List Var} {b c : Blk} {v : List Var}
    (h : ¬ PEdge g b c) : jD g P (upd aD b v) c = jD g P aD c := by
  unfold jD; rw [map_upd_of_not_mem h]
theorem jM_upd {g : Cfg} {P : AParams} {aM : Blk → List Var} {b c : Blk} {v : List Var}
    (h : ¬ PEdge g b c) : jM g P (upd aM b v) c = jM g P aM c := by
  unfold jM; rw [map_upd_of_not_mem h]

/-- where the finite paths `NotDef` and `MaybePath` end and how they step; `InfBack` steps like `MaybePath` -/
abbrev notDefG (g : Cfg) (P : AParams) (x : Var) (b : Blk) : Prop := g.pred b ++ g.dpred b = [] ∧ x ∉ P.entryDef
abbrev notDefR (g : Cfg) (x : Var) (b p : Blk) : Prop := PEdge g p b ∧ x ∉ g.assigned p
abbrev maybeG (g : Cfg) (P : AParams) (x : Var) (b : Blk) : Prop :=
  (g.pred b ++ g.dpred b = [] ∧ x ∈ P.entryMaybe) ∨ ∃ p, PEdge g p b ∧ x ∈ g.assigned p
abbrev backR (g : Cfg) (b p : Blk) : Prop := PEdge g p b

theorem infBack_eq (g : Cfg) (b : Blk) : InfBack g b = Diverges (backR g) b := rfl

/-- The invariants of the worklist.  Definite assignment is kept through its complement: "`x` may be unassigned before
    `b`" stays below the finite paths `NotDef` (`dbelow`; the escape `x ∉ allVars` is for variables outside the
    universe, which `dsub` keeps out of every value).  Maybe-assignment stays below `MaybePath` (`msound`) and, for
    the variables maybe-assigned before the entry, holds on every infinite backward path (`mabove`), as liveness does. -/
structure AInv (g : Cfg) (P : AParams) (s : ASt) : Prop where
  qsub : ∀ c ∈ s.queue, c ∈ g.blocks
  /-- the cache is the transfer function applied to the value before -/
  coh : ∀ b, SetEq (s.aftD b) (s.befD b ++ g.assigned b) ∧ SetEq (s.aftM b) (s.befM b ++ g.assigned b)
  stab : ∀ c ∈ g.blocks, c ∉ s.queue →
    SetEq (s.befD c) (jD g P s.aftD c) ∧ SetEq (s.befM c) (jM g P s.aftM c)
  dsub : ∀ b ∈ g.blocks, ∀ x, x ∈ s.befD b → x ∈ allVars g P
  dbelow : ∀ b x, x ∉ s.befD b → x ∉ allVars g P ∨ NotDef g P x b
  msound : ∀ b x, x ∈ s.befM b → x ∈ P.entryMaybe ∨ MaybePath g P x b
  mabove : ∀ b x, x ∈ P.entryMaybe → Diverges (backR g) b → x ∈ s.befM b

theorem ainv_init (g : Cfg) (P : AParams) : AInv g P (assInit g P) := by
  refine ⟨fun c hc => hc, fun b => ⟨fun x => Iff.rfl, fun x => Iff.rfl⟩, ?_, fun b _ x hx => hx,
    fun b x hx => Or.inl hx, fun b x hx => Or.inl hx, fun b x hx _ => hx⟩
  intro c hc hq; exact absurd hc hq

theorem AInv.aftD_iff {g : Cfg} {P : AParams} {s : ASt} (hi : AInv g P s) (p : Blk) (x : Var) :
    x ∈ s.aftD p ↔ x ∈ s.befD p ∨ x ∈ g.assigned p :=
  ((hi.coh p).1 x).trans List.mem_append

theorem AInv.aftM_iff {g : Cfg} {P : AParams} {s : ASt} (hi : AInv g P s) (p : Blk) (x : Var) :
    x ∈ s.aftM p ↔ x ∈ s.befM p ∨ x ∈ g.assigned p :=
  ((hi.coh p).2 x).trans List.mem_append

theorem assigned_sub_allVars {g : Cfg} {P : AParams} {b : Blk} (hb : b ∈ g.blocks) {x : Var}
    (hx : x ∈ g.assigned b) : x ∈ allVars g P := by
  unfold allVars
  exact List.mem_append_left _ (List.mem_flatMap.mpr ⟨b, hb, hx⟩)

theorem notDef_least (g : Cfg) (P : AParams) (x : Var) :
    Least (notDefG g P x) (notDefR g x) (NotDef g P x) where
  intro := by
    rintro b (⟨hr, hx⟩ | ⟨p, ⟨he, ha⟩, hp⟩)
    · exact .root hr hx
    · exact .step he ha hp
  ind v hv b h := by
    induction h with
    | root hr hx => exact hv _ (.inl ⟨hr, hx⟩)
    | step he ha _ ih => exact hv _ (.inr ⟨_, ⟨he, ha⟩, ih⟩)

theorem maybePath_least (g : Cfg) (P : AParams) (x : Var) :
    Least (maybeG g P x) (backR g) (MaybePath g P x) where
  intro := by
    rintro b ((⟨hr, hx⟩ | ⟨p, he, ha⟩) | ⟨p, he, hp⟩)
    · exact .root hr hx
    · exact .asg he ha
    · exact .step he hp
  ind v hv b h := by
    induction h with
    | root hr hx => exact hv _ (.inl (.inl ⟨hr, hx⟩))
    | asg he ha => exact hv _ (.inl (.inr ⟨_, he, ha⟩))
    | step he _ ih => exact hv _ (.inr ⟨_, he, ih⟩)

/-- the two joins in terms of the values before the predecessors (the cache is coherent) -/
theorem AInv.not_mem_jD {g : Cfg} {P : AParams} {s : ASt} (hi : AInv g P s) {b : Blk} {x : Var} :
    x ∉ jD g P s.aftD b ↔ notDefG g P x b ∨ ∃ p, notDefR g x b p ∧ x ∉ s.befD p := by
  unfold notDefG notDefR
  rw [Dataflow.mem_jD]
  by_cases hp : g.pred b ++ g.dpred b = []
  · have : ∀ p, ¬ PEdge g p b := fun p (h : p ∈ g.pred b ++ g.dpred b) => by rw [hp] at h; cases h
    simp [hp, this]
  · simp only [hp, false_and, false_or, ne_eq, not_false_eq_true, true_and, Classical.not_forall,
      hi.aftD_iff, not_or]
    exact exists_congr fun p => by rw [exists_prop, and_assoc, and_comm (a := x ∉ s.befD p)]

theorem AInv.mem_jM {g : Cfg} {P : AParams} {s : ASt} (hi : AInv g P s) {b : Blk} {x : Var} :
    x ∈ jM g P s.aftM b ↔ maybeG g P x b ∨ ∃ p, backR g b p ∧ x ∈ s.befM p := by
  unfold maybeG backR
  simp only [Dataflow.mem_jM, hi.aftM_iff, and_or_left, exists_or]
  exact ⟨fun h => h.elim (fun h => .inl (.inl h)) (Or.symm ∘ Or.imp_right .inr),
    fun h => h.elim (Or.imp_right .inr) (.inr ∘ .inl)⟩

theorem mem_allVars_of_mem_jD {g : Cfg} (hg : g.WF) {P : AParams} {s : ASt} (hi : AInv g P s)
    {b : Blk} (hb : b ∈ g.blocks) {x : Var} (h : x ∈ jD g P s.aftD b) : x ∈ allVars g P := by
  rcases mem_jD.mp h with ⟨_, hx⟩ | ⟨hp, hall⟩
  · exact List.mem_append_right _ hx
  · obtain ⟨p, hpe⟩ := List.exists_mem_of_ne_nil _ hp
    have hpb : p ∈ g.blocks := hg.pclosed b hb p hpe
    exact ((hi.aftD_iff p x).mp (hall p hpe)).elim (hi.dsub p hpb x) (assigned_sub_allVars hpb)

theorem ainv_step (g : Cfg) (hg : g.WF) (P : AParams) (s : ASt) (b : Blk) (hbq : b ∈ s.queue)
    (hi : AInv g P s) : AInv g P (assStep g P s b) := by
  have hb : b ∈ g.blocks := hi.qsub b hbq
  -- the values before `b` are replaced whether or not the cache changes
  have dsub : ∀ c ∈ g.blocks, ∀ x, x ∈ upd s.befD b (jD g P s.aftD b) c → x ∈ allVars g P :=
    fun c hc x => upd_forall (p := fun c l => c ∈ g.blocks → x ∈ l → x ∈ allVars g P)
      (fun c hc => hi.dsub c hc x) (fun _ => mem_allVars_of_mem_jD hg hi hb) c hc
  have dbelow : ∀ c x, x ∉ upd s.befD b (jD g P s.aftD b) c → x ∉ allVars g P ∨ NotDef g P x c :=
    fun c x => upd_forall (p := fun c l => x ∉ l → x ∉ allVars g P ∨ NotDef g P x c) (fun c => hi.dbelow c x)
      (fun h => (notDef_least g P x).below (hi.dbelow · x) (hi.not_mem_jD.mp h)) c
  have msound : ∀ c x, x ∈ upd s.befM b (jM g P s.aftM b) c → x ∈ P.entryMaybe ∨ MaybePath g P x c :=
    fun c x => upd_forall (p := fun c l => x ∈ l → x ∈ P.entryMaybe ∨ MaybePath g P x c)
      (fun c => hi.msound c x) (fun h => (maybePath_least g P x).below (hi.msound · x) (hi.mem_jM.mp h)) c
  have mabove : ∀ c x, x ∈ P.entryMaybe → Diverges (backR g) c → x ∈ upd s.befM b (jM g P s.aftM b) c :=
    fun c x hx => upd_forall (p := fun c l => Diverges (backR g) c → x ∈ l) (fun c => hi.mabove c x hx)
      (fun h => hi.mem_jM.mpr (.inr (h.above (hi.mabove · x hx)))) c
  rw [assStep_eq]
  split
  next e =>
    rw [Bool.and_eq_true, sameSet_iff, sameSet_iff] at e
    refine ⟨fun c hc => hi.qsub c (List.mem_filter_bne.mp hc).1, fun c => ?_, fun c hc hq => ?_,
      dsub, dbelow, msound, mabove⟩
    · by_cases hcb : c = b
      · subst hcb; simp only [upd_same]
        exact ⟨fun x => (e.1 x).symm, fun x => (e.2 x).symm⟩
      · simp only [upd_ne _ _ hcb]; exact hi.coh c
    · by_cases hcb : c = b
      · subst hcb; simp only [upd_same]; exact ⟨fun x => Iff.rfl, fun x => Iff.rfl⟩
      · simp only [upd_ne _ _ hcb]
        exact hi.stab c hc (fun h => hq (List.mem_filter_bne.mpr ⟨h, hcb⟩))
  next =>
    refine ⟨fun c hc => ?_, fun c => ?_, fun c hc hq => ?_, dsub, dbelow, msound, mabove⟩
    · exact (List.mem_append.mp hc).elim (fun h => hi.qsub c (List.mem_filter_bne.mp h).1) (hg.closed b hb c)
    · by_cases hcb : c = b
      · subst hcb; simp only [upd_same]; exact ⟨fun x => Iff.rfl, fun x => Iff.rfl⟩
      · simp only [upd_ne _ _ hcb]; exact hi.coh c
    · -- every successor of `b` is queued again, so an unqueued `c` does not read the new cache
      simp only [List.mem_append, not_or] at hq
      have hne : ¬ PEdge g b c := fun he =>
        (List.mem_append.mp ((hg.conv b c).mpr he)).elim hq.2.1 hq.2.2
      rw [jD_upd hne, jM_upd hne]
      by_cases hcb : c = b
      · subst hcb; simp only [upd_same]; exact ⟨fun x => Iff.rfl, fun x => Iff.rfl⟩
      · simp only [upd_ne _ _ hcb]
        exact hi.stab c hc (fun h => hq.1 (List.mem_filter_bne.mpr ⟨h, hcb⟩))

theorem ainv_reach (g : Cfg) (hg : g.WF) (P : AParams) {s t : ASt} (h : AReach g P s t)
    (hi : AInv g P s) : AInv g P t := by
  induction h with
  | refl => exact hi
  | step b hb _ ih => exact ih (ainv_step g hg P _ b hb hi)

section
variable {g : Cfg} {P : AParams} {s : ASt} (hi : AInv g P s) (hq : ∀ c ∈ g.blocks, c ∉ s.queue) (x : Var)
include hi hq

theorem AInv.solvesD : Solves (· ∈ g.blocks) (notDefG g P x) (notDefR g x) (x ∉ s.befD ·) :=
  fun b hb => (not_congr ((hi.stab b hb (hq b hb)).1 x)).trans hi.not_mem_jD

theorem AInv.solvesM : Solves (· ∈ g.blocks) (maybeG g P x) (backR g) (x ∈ s.befM ·) :=
  fun b hb => ((hi.stab b hb (hq b hb)).2 x).trans hi.mem_jM

end

theorem notDef_root_iff {g : Cfg} {P : AParams} {x : Var} {b : Blk} (hr : g.pred b ++ g.dpred b = []) :
    NotDef g P x b ↔ x ∉ P.entryDef := by
  rw [(notDef_least g P x).unfold b]
  refine ⟨?_, fun h => .inl ⟨hr, h⟩⟩
  rintro (⟨_, h⟩ | ⟨p, ⟨he, _⟩, _⟩)
  · exact h
  · exact absurd (hr ▸ he : p ∈ []) List.not_mem_nil

theorem notDef_of_fromRoot {g : Cfg} (hg : g.WF) {P : AParams} {x : Var} {b : Blk}
    (hb : b ∈ g.blocks) (h : FromRoot g b) (hx : x ∉ allVars g P) : NotDef g P x b := by
  induction h with
  | root hr => exact .root hr (fun h => hx (List.mem_append_right _ h))
  | step he _ ih =>
    have hp := hg.pclosed _ hb _ he
    exact .step he (fun ha => hx (assigned_sub_allVars hp ha)) (ih hp)

theorem maybePath_of_fromRoot {g : Cfg} {P : AParams} {x : Var} {b : Blk}
    (h : FromRoot g b) (hx : x ∈ P.entryMaybe) : MaybePath g P x b := by
  induction h with
  | root hr => exact .root hr hx
  | step he _ ih => exact .step he ih

end GuppyVerif.Dataflow
