import GuppyVerif.Lemmas.C03Eval
import GuppyVerif.Lemmas.C03ExprShape
/-! # C03: `bld` is correct on surface expressions
`SemE env e`, in every CFG `bl` extending the result of `bld e`, from position `(b, n)` and state `s`: value mode (`ValPost`) runs
to the end `(b', n')` of the result block, where the residual `e'` evaluates to Python's value of `e` with Python's trace; branch
mode (`BrPost`) runs to `t` / `f` by Python's truth value of `e`.  Both: user variables agree with Python's final store and the
temporaries below `nt` are untouched (`KeepT`). -/
namespace GuppyVerif.Builder
open GuppyVerif.Surface

def ValPost (env : Env) (bl : List Block) (e : Expr) (b n nt : Nat) (e' : Expr) (b' n' : Nat) (s : S)
    (rv : Option Val) : Prop :=
  ∃ s2 : S, Steps env bl ⟨b, n, s, rv⟩ ⟨b', n', s2, rv⟩ ∧
    eval env e' s2 = ((eval env e s).1, (s2.1, (eval env e s).2.2)) ∧
    agreeU s2.1 (eval env e s).2.1 ∧ ∀ k, k < nt → s2.1 (.tmp k) = s.1 (.tmp k)

def BrPost (env : Env) (bl : List Block) (e : Expr) (b n nt t f : Nat) (s : S) (rv : Option Val) : Prop :=
  ∃ s2 : S, Steps env bl ⟨b, n, s, rv⟩ ⟨if (eval env e s).1.truthy then t else f, 0, s2, rv⟩ ∧
    s2.2 = (eval env e s).2.2 ∧ agreeU s2.1 (eval env e s).2.1 ∧ ∀ k, k < nt → s2.1 (.tmp k) = s.1 (.tmp k)

def SemE (env : Env) (e : Expr) : Prop :=
  ∀ (m : Mode) (b : Nat) (σ : BState) (bl : List Block), userE e = true → b < σ.len →
    (σ.blk b).succs = [] → Ext (bld e m b σ).2.2 bl → ∀ (s : S) (rv : Option Val),
    match m with
    | .val => ValPost env bl e b (σ.blk b).stmts.length σ.nextTmp (bld e .val b σ).1 (bld e .val b σ).2.1
        ((bld e .val b σ).2.2.blk (bld e .val b σ).2.1).stmts.length s rv
    | .br t f => BrPost env bl e b (σ.blk b).stmts.length σ.nextTmp t f s rv

def ValSem (env : Env) (e : Expr) : Prop :=
  ∀ (b : Nat) (σ : BState) (bl : List Block), userE e = true → b < σ.len →
    (σ.blk b).succs = [] → Ext (bld e .val b σ).2.2 bl → ∀ (s : S) (rv : Option Val),
    ValPost env bl e b (σ.blk b).stmts.length σ.nextTmp (bld e .val b σ).1 (bld e .val b σ).2.1
      ((bld e .val b σ).2.2.blk (bld e .val b σ).2.1).stmts.length s rv

/-- `BranchBuilder.generic_visit`: branch on the residual of a value-mode build -/
theorem finish_sem {env : Env} {bl : List Block} {e e' : Expr} {b n nt b' : Nat} {σv : BState} {s : S}
    {rv : Option Val} (hb' : b' < σv.len) (ho : (σv.blk b').succs = []) (t f : Nat)
    (hx : Ext (branchOn b' e' t f σv) bl)
    (h : ValPost env bl e b n nt e' b' (σv.blk b').stmts.length s rv) : BrPost env bl e b n nt t f s rv := by
  obtain ⟨s2, hst, hev, hag, htm⟩ := h
  have := step_branched (env := env) e' t f hb' ho hx s2 rv
  rw [hev] at this
  exact ⟨_, hst.trans (Steps.single this), rfl, hag, htm⟩

theorem nolift_val {env : Env} {bl : List Block} {e : Expr} (hl : lifts e = false) (b nt : Nat) (σ : BState)
    (s : S) (rv : Option Val) :
    ValPost env bl e b (σ.blk b).stmts.length nt (bld e .val b σ).1 (bld e .val b σ).2.1
      ((bld e .val b σ).2.2.blk (bld e .val b σ).2.1).stmts.length s rv := by
  obtain ⟨h1, h2⟩ := bld_nolift e hl b σ
  have e1 : (bld e .val b σ).2.1 = b := congrArg Prod.fst h1
  have e2 : (bld e .val b σ).2.2 = σ := congrArg Prod.snd h1
  rw [e1, e2]
  refine ⟨s, .refl _, ?_, ?_, fun _ _ => rfl⟩
  · rw [h2 env s, ← eval_store_of_not_lifts env e hl s]
  · rw [eval_store_of_not_lifts env e hl s]; exact agreeU.refl _

theorem merge_sem {env : Env} {bl : List Block} {σ2 : BState} {p q : Nat} (ep eq : Expr)
    (hp : p < σ2.len) (hq : q < σ2.len) (hpq : p ≠ q) (hpo : (σ2.blk p).succs = []) (hqo : (σ2.blk q).succs = [])
    (hx : Ext (mergeSt p q ep eq σ2) bl) :
    Ext σ2 bl ∧ ((mergeSt p q ep eq σ2).blk σ2.len).stmts.length = 0 ∧
    (∀ (s : S) (rv : Option Val), Steps env bl ⟨p, (σ2.blk p).stmts.length, s, rv⟩
      ⟨σ2.len, 0, ((eval env ep s).2.1.set (.tmp σ2.nextTmp) (eval env ep s).1, (eval env ep s).2.2), rv⟩) ∧
    (∀ (s : S) (rv : Option Val), Steps env bl ⟨q, (σ2.blk q).stmts.length, s, rv⟩
      ⟨σ2.len, 0, ((eval env eq s).2.1.set (.tmp σ2.nextTmp) (eval env eq s).1, (eval env eq s).2.2), rv⟩) := by
  obtain ⟨hP, hQ, hO⟩ := mergeSt_blk ep eq hp hq hpq
  have hlen : (mergeSt p q ep eq σ2).len = σ2.len + 1 := by simp [mergeSt]
  refine ⟨hx.of_le (by omega) fun i hi => ?_, ?_, fun s rv => ?_, fun s rv => ?_⟩
  · by_cases hip : i = p
    · subst hip; exact .inr ⟨hpo, by rw [hP]; exact List.prefix_append _ _⟩
    · by_cases hiq : i = q
      · subst hiq; exact .inr ⟨hqo, by rw [hQ]; exact List.prefix_append _ _⟩
      · exact .inl (hO i hip hiq)
  · rw [hO _ (by omega) (by omega), empty_of_ge σ2 (Nat.le_refl _)]; rfl
  · exact steps_assign_goto hx (by omega) (by rw [hP]) (by rw [hP, hpo]; rfl) s rv
  · exact steps_assign_goto hx (by omega) (by rw [hQ]) (by rw [hQ, hqo]; rfl) s rv

/-! `SemE` starts the CFG in the state in which Python evaluates; where the two only agree on user variables and trace
(after code built earlier), `eval_from_agree` moves Python's side: -/

theorem ValPost.of_agree {env : Env} {bl : List Block} {e e' : Expr} {b n nt b' n' : Nat} {sA s1 : S} {rv : Option Val}
    (hu : userE e = true) (htr : sA.2 = s1.2) (hag : agreeU sA.1 s1.1) (h : ValPost env bl e b n nt e' b' n' sA rv) :
    ∃ s2 : S, Steps env bl ⟨b, n, sA, rv⟩ ⟨b', n', s2, rv⟩ ∧
      eval env e' s2 = ((eval env e s1).1, (s2.1, (eval env e s1).2.2)) ∧ agreeU s2.1 (eval env e s1).2.1 ∧
      KeepT nt sA s2 := by
  obtain ⟨c1, c2, c3⟩ := eval_from_agree env e hu sA s1 htr hag
  obtain ⟨s2, h1, h2, h3, h4⟩ := h
  exact ⟨s2, h1, by rw [h2, c1, c2], h3.trans c3, h4⟩

theorem BrPost.of_agree {env : Env} {bl : List Block} {e : Expr} {b n nt t f : Nat} {sA s1 : S} {rv : Option Val}
    (hu : userE e = true) (htr : sA.2 = s1.2) (hag : agreeU sA.1 s1.1) (h : BrPost env bl e b n nt t f sA rv) :
    ∃ s2 : S, Steps env bl ⟨b, n, sA, rv⟩ ⟨if (eval env e s1).1.truthy then t else f, 0, s2, rv⟩ ∧
      s2.2 = (eval env e s1).2.2 ∧ agreeU s2.1 (eval env e s1).2.1 ∧ KeepT nt sA s2 := by
  obtain ⟨c1, c2, c3⟩ := eval_from_agree env e hu sA s1 htr hag
  obtain ⟨s2, h1, h2, h3, h4⟩ := h
  exact ⟨s2, c1 ▸ h1, h2.trans c2, h3.trans c3, h4⟩

/-- a node that `BranchBuilder` handles by `generic_visit` -/
theorem semE_generic {env : Env} {e : Expr}
    (hgen : ∀ t f b σ, (bld e (.br t f) b σ).2.2 =
      branchOn (bld e .val b σ).2.1 (bld e .val b σ).1 t f (bld e .val b σ).2.2)
    (hval : ValSem env e) : SemE env e := by
  intro m b σ bl hu hb ho hx s rv
  cases m with
  | val => exact hval b σ bl hu hb ho hx s rv
  | br t f =>
    rw [hgen] at hx
    have gv := bld_good e b σ hb ho
    exact finish_sem gv.lt gv.opn t f hx
      (hval b σ bl hu hb ho (Ext.step (touch_branchOn _ _ _ _ _) gv.opn hx) s rv)

theorem semE_leaf {env : Env} {e : Expr} (hl : lifts e = false) (hv : ∀ b σ, bld e .val b σ = (e, b, σ))
    (hgen : ∀ t f b σ, (bld e (.br t f) b σ).2.2 = branchOn b e t f σ) : SemE env e :=
  semE_generic (fun t f b σ => by rw [hgen, hv]) (fun b σ _ _ _ _ _ s rv => nolift_val hl b σ.nextTmp σ s rv)

theorem semE_bool (env : Env) (v : Bool) : SemE env (.bool v) := by
  intro m b σ bl _ hb ho hx s rv
  cases m with
  | val => exact nolift_val rfl b σ.nextTmp σ s rv
  | br t f =>
    simp only [bld] at hx
    have hblk : ((dummyLink b (if v then f else t) (link b (if v then t else f) σ)).blk b) =
        { σ.blk b with succs := (σ.blk b).succs ++ [if v then t else f],
                        dsuccs := (σ.blk b).dsuccs ++ [if v then f else t] } := by
      rw [blk_dummyLink_same _ _ _ (by simpa using hb), blk_link_same _ _ _ hb]
    have hsu : ((dummyLink b (if v then f else t) (link b (if v then t else f) σ)).blk b).succs =
        [if v then t else f] := by rw [hblk, ho]; rfl
    have hln : ((dummyLink b (if v then f else t) (link b (if v then t else f) σ)).blk b).stmts.length =
        (σ.blk b).stmts.length := by rw [hblk]
    have := step_goto (env := env) hx (by simpa using hb) hsu s rv
    rw [hln] at this
    refine ⟨s, Steps.single ?_, rfl, agreeU.refl _, fun _ _ => rfl⟩
    cases v <;> simpa [eval, truthy_bool] using this

theorem semE_un {env : Env} (o : UnOp) {e : Expr} (ih : SemE env e) : SemE env (.un o e) := by
  have hval : ValSem env (.un o e) := by
    intro b σ bl hu hb ho hx s rv
    cases hf : foldNeg o e with
    | some n =>
      obtain ⟨rfl, rfl⟩ := foldNeg_some hf
      exact nolift_val rfl b σ.nextTmp σ s rv
    | none =>
      rw [bld_un_none hf .val b σ fun _ => rfl] at hx ⊢
      obtain ⟨s2, hst, hev, hag, htm⟩ := ih .val b σ bl hu hb ho hx s rv
      exact ⟨s2, hst, by simp only [finish, eval, hev]; exact applyUn_swap env o _ _ _ _,
        by simp only [eval, applyUn_store]; exact hag, htm⟩
  by_cases hn : o = .not
  · -- `BranchBuilder.visit_UnaryOp`: `not e` branches as `e` does, with the targets swapped
    subst hn
    intro m b σ bl hu hb ho hx s rv
    cases m with
    | val => exact hval b σ bl hu hb ho hx s rv
    | br t f =>
      obtain ⟨s2, hst, htr, hag, htm⟩ := ih (.br f t) b σ bl hu hb ho hx s rv
      refine ⟨s2, ?_, htr, hag, htm⟩
      show Steps env bl _ ⟨if (!(eval env e s).1.truthy) then t else f, 0, s2, rv⟩
      generalize (eval env e s).1.truthy = x at hst
      cases x <;> exact hst
  · refine semE_generic (fun t f b σ => ?_) hval
    cases hf : foldNeg o e with
    | some n => rw [bld_un_fold hf, bld_un_fold hf]; rfl
    | none => rw [bld_un_none hf _ b σ fun h => absurd h hn, bld_un_none hf .val b σ fun _ => rfl]; rfl

/-- `ExprBuilder.bind` when it is needed: the operand is evaluated at once, its value lives in a fresh temporary -/
theorem preBind_sem {env : Env} {bl : List Block} (c : Bool) {e : Expr} {b : Nat} {σ : BState} (hb : b < σ.len)
    (hx : Ext (preBind c e b σ).2 bl) (s : S) (rv : Option Val) (v : Val) (T : Trace)
    (hev : eval env e s = (v, (s.1, T))) :
    ∃ s' : S, Steps env bl ⟨b, (σ.blk b).stmts.length, s, rv⟩ ⟨b, ((preBind c e b σ).2.blk b).stmts.length, s', rv⟩ ∧
      eval env (preBind c e b σ).1 s' = (v, (s'.1, T)) ∧ agreeU s'.1 s.1 ∧
      (∀ k, k < σ.nextTmp → s'.1 (.tmp k) = s.1 (.tmp k)) ∧
      (c = true → s' = (s.1.set (.tmp σ.nextTmp) v, T) ∧ (preBind c e b σ).1 = .var (.tmp σ.nextTmp) ∧
        (preBind c e b σ).2.nextTmp = σ.nextTmp + 1) ∧
      (c = false → s' = s ∧ (preBind c e b σ) = (e, σ)) := by
  cases c with
  | false =>
    exact ⟨s, .refl _, hev, agreeU.refl _, fun _ _ => rfl, (fun h => by cases h), fun _ => ⟨rfl, rfl⟩⟩
  | true =>
    simp only [preBind, if_true, bindTmp, fst_freshTmp] at hx ⊢
    obtain ⟨h1, hln⟩ := step_added (env := env) (σ0 := (freshTmp σ).2) (.assign (.tmp σ.nextTmp) e) hb hx s rv
    simp only [execB, hev] at h1
    rw [hln]
    exact ⟨_, Steps.single h1, by simp only [eval, set_same], set_tmp_agreeU _ _ _, KeepT.set_tmp _ _ _ (Nat.le_refl _),
      fun _ => ⟨rfl, by simp, by simp⟩, (fun h => by cases h)⟩

theorem ext_preBind {c : Bool} {e : Expr} {b : Nat} {σ : BState} {bl : List Block} (ho : (σ.blk b).succs = [])
    (hx : Ext (preBind c e b σ).2 bl) : Ext σ bl := by
  cases c with
  | false => exact hx
  | true =>
    simp only [preBind, if_true, bindTmp] at hx
    exact Ext.step (touch_freshTmp _ b) ho (Ext.step (touch_addStmt _ _ _) ho hx)

/-- the form of `Resid.vars` for a surface `src` (spelled out in `pair_sem`) -/
def VarsBelow (n : Nat) (e : Expr) : Prop := ∀ x ∈ vars e, (∃ u, x = .user u) ∨ ∃ k, x = .tmp k ∧ k < n

theorem resid_varsBelow {e : Expr} (hu : userE e = true) {b : Nat} {σ : BState} (hb : b < σ.len)
    (ho : (σ.blk b).succs = []) : VarsBelow (bld e .val b σ).2.2.nextTmp (bld e .val b σ).1 :=
  fun x hx => ((bld_resid e hb ho).vars x hx).imp_left (vars_user e hu x)

/-- what storing (or not storing) the first operand guarantees for building the operand `r` after it; `g`: the condition
    under which `build_operands` consulted `needBind` -/
theorem preBind_props {c : Bool} {lA r : Expr} {g : Prop} (b : Nat) {σa : BState} (hur : userE r = true)
    (hlA : lifts lA = false) (hvA : VarsBelow σa.nextTmp lA)
    (hc : c = false → g → needBind lA r = false) :
    lifts (preBind c lA b σa).1 = false ∧
    VarsBelow (preBind c lA b σa).2.nextTmp (preBind c lA b σa).1 ∧
    (g → (anyCall r = false ∨ anyCall (preBind c lA b σa).1 = false) ∧
      ∀ x ∈ vars (preBind c lA b σa).1, x ∉ writes r) := by
  cases c with
  | true =>
    simp only [VarsBelow, preBind, if_true, bindTmp, fst_freshTmp, vars, List.mem_singleton, forall_eq]
    exact ⟨rfl, Or.inr ⟨_, rfl, Nat.lt_succ_self _⟩, fun _ => ⟨Or.inr rfl, user_writes r hur _⟩⟩
  | false =>
    refine ⟨hlA, hvA, fun hg => ?_⟩
    have hn := hc rfl hg
    simp only [needBind, Bool.or_eq_false_iff, Bool.and_eq_false_iff, Bool.not_eq_eq_eq_not, Bool.not_false] at hn
    exact ⟨hn.1.imp (mayEff_nocall _) (mayEff_nocall _), disjoint_spec hn.2⟩

/-- two operands built one after the other (`build_operands`): `lS` is the residual of the first (already
    built, possibly stored in a temporary), `r` is built from block `ab`.  If building `r` emits code, that code
    must not be observable from `lS` and vice versa (`hcond`: what `needBind` guarantees).  `X`: the state after `lS`, of
    which only the store is known, since a residual may contain calls. -/
theorem pair_sem {env : Env} {bl : List Block} {lS r : Expr} (ihr : SemE env r) (hur : userE r = true)
    {ab : Nat} {σp : BState} (hab : ab < σp.len) (hao : (σp.blk ab).succs = [])
    (hx : Ext (bld r .val ab σp).2.2 bl) (hlS : lifts lS = false)
    (hvS : ∀ x ∈ vars lS, (∃ u, x = .user u) ∨ ∃ k, x = .tmp k ∧ k < σp.nextTmp)
    (hcond : lifts r = true → (anyCall r = false ∨ anyCall lS = false) ∧ ∀ x ∈ vars lS, x ∉ writes r)
    (sA : S) (rv : Option Val) (st1 : Store) (tr1 : Trace) (vl : Val) (hag : agreeU sA.1 st1)
    (hevl : eval env lS sA = (vl, (sA.1, tr1))) :
    ∃ (sC X : S), Steps env bl ⟨ab, (σp.blk ab).stmts.length, sA, rv⟩
        ⟨(bld r .val ab σp).2.1, ((bld r .val ab σp).2.2.blk (bld r .val ab σp).2.1).stmts.length, sC, rv⟩ ∧
      eval env lS sC = (vl, X) ∧ X.1 = sC.1 ∧
      eval env (bld r .val ab σp).1 X = ((eval env r (st1, tr1)).1, (sC.1, (eval env r (st1, tr1)).2.2)) ∧
      agreeU sC.1 (eval env r (st1, tr1)).2.1 ∧ (∀ k, k < σp.nextTmp → sC.1 (.tmp k) = sA.1 (.tmp k)) ∧
      -- evaluating the second operand first (it is about to be stored in a temporary) gives the same
      ((anyCall r = false ∨ anyCall lS = false) → (∀ x ∈ vars lS, x ∉ writes r) →
        ∃ T, eval env (bld r .val ab σp).1 sC = ((eval env r (st1, tr1)).1, (sC.1, T)) ∧
          ∀ (j : Nat) (w : Val), Var.tmp j ∉ vars lS →
            eval env lS (sC.1.set (.tmp j) w, T) = (vl, (sC.1.set (.tmp j) w, (eval env r (st1, tr1)).2.2))) := by
  have hcg := eval_from_agree env r hur (sA.1, tr1) (st1, tr1) rfl hag
  have gr := bld_good r ab σp hab hao
  have resr := bld_resid r hab hao
  -- variables of `lS` are untouched by the hoisted part of `r`
  have hvars : ∀ (sC : S), agreeU sC.1 (eval env r sA).2.1 → (∀ k, k < σp.nextTmp → sC.1 (.tmp k) = sA.1 (.tmp k)) →
      (∀ x ∈ vars lS, x ∉ writes r) → ∀ x ∈ vars lS, sC.1 x = sA.1 x := by
    intro sC hagC htmC hdis x hx
    rcases hvS x hx with ⟨u, rfl⟩ | ⟨k, rfl, hk⟩
    · rw [hagC u]; exact eval_writes env r sA _ (hdis _ hx)
    · exact htmC k hk
  cases hlr : lifts r with
  | false =>
    obtain ⟨h1, h2⟩ := bld_nolift r hlr ab σp
    have e1 : (bld r .val ab σp).2.1 = ab := congrArg Prod.fst h1
    have e2 : (bld r .val ab σp).2.2 = σp := congrArg Prod.snd h1
    rw [e1, e2]
    have hst := eval_store_of_not_lifts env r hlr (sA.1, tr1)
    have hr1 : eval env r (sA.1, tr1) = ((eval env r (st1, tr1)).1, (sA.1, (eval env r (st1, tr1)).2.2)) :=
      Prod.ext hcg.1 (Prod.ext hst hcg.2.1)
    refine ⟨sA, (sA.1, tr1), .refl _, hevl, rfl, by rw [h2]; exact hr1, ?_, fun _ _ => rfl, ?_⟩
    · have := hcg.2.2; rw [hst] at this; exact this
    · intro hsw hdis
      rcases hsw with hrc | hlc
      · have hi := eval_nocall_indep env r hrc sA.1 sA.2 tr1
        have hrT : (eval env r (st1, tr1)).2.2 = tr1 := eval_trace_of_no_call env r hrc _
        have hrs : eval env r sA = ((eval env r (st1, tr1)).1, (sA.1, sA.2)) := by
          apply Prod.ext
          · show (eval env r (sA.1, sA.2)).1 = _; rw [hi.1, hcg.1]
          · exact Prod.ext (eval_store_of_not_lifts env r hlr sA) (eval_trace_of_no_call env r hrc sA)
        refine ⟨sA.2, by rw [h2]; exact hrs, ?_⟩
        intro j w hj
        rw [eval_resid_congr env lS hlS (sA.1.set (.tmp j) w, sA.2) sA
          (fun x hx => set_other _ _ (fun h => hj (by rw [← h]; exact hx))) rfl, hevl, hrT]
      · have htr : tr1 = sA.2 := by
          have := eval_trace_of_no_call env lS hlc sA
          rw [hevl] at this; exact this
        refine ⟨(eval env r (st1, tr1)).2.2, by rw [h2, ← hr1, htr], ?_⟩
        intro j w hj
        have := eval_pure env lS hlS hlc (sA.1.set (.tmp j) w, (eval env r (st1, tr1)).2.2) sA
          (fun x hx => set_other _ _ (fun h => hj (by rw [← h]; exact hx)))
        rw [this, hevl]
  | true =>
    obtain ⟨hsw, hdis⟩ := hcond hlr
    obtain ⟨sC, hstC, hevC, hagC, htmC⟩ := ihr .val ab σp bl hur hab hao hx sA rv
    have hv := hvars sC hagC htmC hdis
    have hswap_l : ∀ (j : Nat) (w : Val), Var.tmp j ∉ vars lS → ∀ x ∈ vars lS, (sC.1.set (.tmp j) w) x = sA.1 x :=
      fun j w hj x hx => by rw [set_other _ _ (fun h => hj (by rw [← h]; exact hx))]; exact hv x hx
    rcases hsw with hrc | hlc
    · -- hoisting a call-free `r` is unobservable
      have hrr : anyCall (bld r .val ab σp).1 = false := resr.nocall hrc
      have htC : sC.2 = sA.2 := by
        have h1 := eval_trace_of_no_call env _ hrr sC
        rw [hevC] at h1
        have h2 := eval_trace_of_no_call env r hrc sA
        simp only at h1
        rw [← h1, h2]
      have hl' : eval env lS sC = (vl, (sC.1, tr1)) := by
        rw [eval_resid_congr env lS hlS sC sA hv htC, hevl]
      have hi := eval_nocall_indep env r hrc sA.1 sA.2 tr1
      have hrA : (eval env r sA).1 = (eval env r (st1, tr1)).1 := by
        show (eval env r (sA.1, sA.2)).1 = _; rw [hi.1, hcg.1]
      have hrS : agreeU (eval env r sA).2.1 (eval env r (st1, tr1)).2.1 := by
        show agreeU (eval env r (sA.1, sA.2)).2.1 _; rw [hi.2]; exact hcg.2.2
      have hrT : (eval env r (st1, tr1)).2.2 = tr1 := eval_trace_of_no_call env r hrc _
      have hr' : ∀ T, eval env (bld r .val ab σp).1 (sC.1, T) = ((eval env r (st1, tr1)).1, (sC.1, T)) := by
        intro T
        have := eval_pure env _ resr.nolift hrr (sC.1, T) sC (fun _ _ => rfl)
        rw [this, hevC, hrA]
      refine ⟨sC, (sC.1, tr1), hstC, hl', rfl, by rw [hr' tr1, hrT], hagC.trans hrS, htmC, ?_⟩
      intro _ _
      refine ⟨sC.2, hr' sC.2, ?_⟩
      intro j w hj
      rw [eval_resid_congr env lS hlS (sC.1.set (.tmp j) w, sC.2) sA (hswap_l j w hj) htC, hevl, hrT]
    · have htr : tr1 = sA.2 := by
        have := eval_trace_of_no_call env lS hlc sA
        rw [hevl] at this; exact this
      have hsA : sA = (sA.1, tr1) := by rw [htr]
      rw [← hsA] at hcg
      have hpure : eval env lS sC = (vl, sC) := by
        have := eval_pure env lS hlS hlc sC sA hv
        rw [this, hevl]
      have hC : eval env (bld r .val ab σp).1 sC = ((eval env r (st1, tr1)).1, (sC.1, (eval env r (st1, tr1)).2.2)) := by
        rw [hevC, hcg.1, hcg.2.1]
      refine ⟨sC, sC, hstC, hpure, rfl, hC, hagC.trans hcg.2.2, htmC, ?_⟩
      intro _ _
      refine ⟨_, hC, ?_⟩
      intro j w hj
      have := eval_pure env lS hlS hlc (sC.1.set (.tmp j) w, (eval env r (st1, tr1)).2.2) sA (hswap_l j w hj)
      rw [this, hevl]

theorem semE_bi {env : Env} (o : BiOp) {l r : Expr} (ihl : SemE env l) (ihr : SemE env r) :
    SemE env (.bi o l r) := by
  refine semE_generic (fun t f b σ => by simp only [bld, finish]) ?_
  intro b σ bl hu hb ho hx s rv
  simp only [userE, Bool.and_eq_true] at hu
  have ga := bld_good l b σ hb ho
  have resl := bld_resid l hb ho
  simp only [bld, finish] at hx ⊢
  have gp := ga.bind hb (lifts r && needBind (bld l .val b σ).1 r) (bld l .val b σ).1
  have gc := bld_good r _ _ gp.lt gp.opn
  have hxp : Ext (preBind (lifts r && needBind (bld l .val b σ).1 r) (bld l .val b σ).1 (bld l .val b σ).2.1
      (bld l .val b σ).2.2).2 bl := Ext.step gc.touch gp.opn hx
  have hxa : Ext (bld l .val b σ).2.2 bl := ext_preBind ga.opn hxp
  obtain ⟨sA, hstA, hevA, hagA, htmA⟩ := ihl .val b σ bl hu.1 hb ho hxa s rv
  obtain ⟨sA', hstP, hevP, hagP, htmP, hPt, hPf⟩ := preBind_sem (env := env)
    (lifts r && needBind (bld l .val b σ).1 r) ga.lt hxp sA rv _ _ hevA
  have hprops := preBind_props (g := lifts r = true) (c := lifts r && needBind (bld l .val b σ).1 r) (bld l .val b σ).2.1
    (σa := (bld l .val b σ).2.2) hu.2 resl.nolift
    (resid_varsBelow hu.1 hb ho)
    (fun hc hlr => by rw [hlr, Bool.true_and] at hc; exact hc)
  generalize preBind (lifts r && needBind (bld l .val b σ).1 r) (bld l .val b σ).1 (bld l .val b σ).2.1
    (bld l .val b σ).2.2 = p at *
  obtain ⟨hp1, hp2, hp3⟩ := hprops
  obtain ⟨sC, X, hstC, hE1, hX, hE2, hagC, htmC, _⟩ := pair_sem ihr hu.2 gp.lt gp.opn hx hp1 hp2 hp3 sA' rv
    (eval env l s).2.1 (eval env l s).2.2 (eval env l s).1 (hagP.trans hagA) hevP
  refine ⟨sC, hstA.trans (hstP.trans hstC), ?_, ?_, (KeepT.trans htmA htmP ga.touch.tmp).trans htmC gp.touch.tmp⟩
  · rw [eval_bi_of o hE1 hE2]; exact applyBi_swap env o _ _ _ (eval env r (eval env l s).2).2.1 _
  · simp only [eval, applyBi_store]; exact hagC

theorem semE_walrus {env : Env} (x : Var) {e : Expr} (ih : SemE env e) : SemE env (.walrus x e) := by
  refine semE_generic (fun t f b σ => by simp only [bld, finish]) ?_
  intro b σ bl hu hb ho hx s rv
  cases x with
  | tmp n => simp [userE] at hu
  | user u =>
    simp only [userE] at hu
    have ga := bld_good e b σ hb ho
    simp only [bld, finish] at hx ⊢
    have hxa : Ext (bld e .val b σ).2.2 bl := Ext.step (touch_addStmt _ _ _) ga.opn hx
    obtain ⟨sA, hstA, hevA, hagA, htmA⟩ := ih .val b σ bl hu hb ho hxa s rv
    obtain ⟨h1, hln⟩ := step_added (env := env) (.assign (.user u) (bld e .val b σ).1) ga.lt hx sA rv
    simp only [execB, hevA] at h1
    rw [hln]
    exact ⟨_, hstA.trans (Steps.single h1), by simp only [eval, set_same], by simp only [eval]; exact agreeU_set hagA _ _,
      KeepT.trans htmA (.set_user _ _ u _ _) (Nat.le_refl _)⟩

/-- short-circuit expressions (`and`, `or`, chained comparison): branch mode is the body itself, value
    mode wraps it between two fresh targets and the merge block -/
theorem semE_sc {env : Env} {e : Expr} (body : Nat → Nat → Nat → BState → BState)
    (hbld : ∀ m b σ, bld e m b σ =
      scPost m (scPre m σ).1 (scPre m σ).2.1 b (body (scPre m σ).1 (scPre m σ).2.1 b (scPre m σ).2.2))
    (hbool : ∀ s, (eval env e s).1 = .bool (eval env e s).1.truthy)
    (htouch : ∀ t' f' b σp, b < σp.len → (σp.blk b).succs = [] → Touch σp b (body t' f' b σp))
    (hbr : ∀ t' f' b σp bl, userE e = true → b < σp.len → (σp.blk b).succs = [] →
      Ext (body t' f' b σp) bl → ∀ s rv, BrPost env bl e b (σp.blk b).stmts.length σp.nextTmp t' f' s rv) :
    SemE env e := by
  intro m b σ bl hu hb ho hx s rv
  rw [hbld] at hx
  cases m with
  | br t f => exact hbr t f b σ bl hu hb ho hx s rv
  | val =>
    simp only [hbld, scPre_val] at hx ⊢
    have hb' : b < (newBB (newBB σ).2).2.len := by simp; omega
    have hbk : (newBB (newBB σ).2).2.blk b = σ.blk b := by rw [blk_newBB, blk_newBB]
    have hT := htouch σ.len (σ.len + 1) b _ hb' (by rw [hbk]; exact ho)
    obtain ⟨hlen, hte, hfe⟩ := hT.fresh2 hb
    have hbr' := hbr σ.len (σ.len + 1) b _ bl hu hb' (by rw [hbk]; exact ho)
    generalize body σ.len (σ.len + 1) b (newBB (newBB σ).2).2 = σ2 at *
    rw [scPost_val_eq] at hx ⊢
    obtain ⟨hx2, hl0, hP, hQ⟩ := merge_sem (env := env) (.bool true) (.bool false) (p := σ.len) (q := σ.len + 1)
      (by omega) (by omega) (by omega) (by rw [hte]) (by rw [hfe]) hx
    obtain ⟨sA, hst, htr, hag, htm⟩ := hbr' hx2 s rv
    rw [hbk] at hst
    simp only [hl0]
    -- the target reached stores the truth value and jumps to the merge block
    have h2 : Steps env bl ⟨if (eval env e s).1.truthy then σ.len else σ.len + 1, 0, sA, rv⟩
        ⟨σ2.len, 0, (sA.1.set (.tmp σ2.nextTmp) (.bool (eval env e s).1.truthy), sA.2), rv⟩ := by
      have hp := hP sA rv
      have hq := hQ sA rv
      rw [hte] at hp; rw [hfe] at hq
      cases (eval env e s).1.truthy
      · exact hq
      · exact hp
    exact ⟨_, hst.trans h2, by simp only [eval_tmpvar, set_same, ← hbool s, htr], (set_tmp_agreeU _ _ _).trans hag,
      KeepT.trans htm (.set_tmp _ _ _ hT.tmp) (Nat.le_refl _)⟩

/-- `and` (`k = true`) / `or` (`k = false`): the second operand is evaluated iff the first's truth value is `k` -/
theorem semE_boolop {env : Env} {l r e : Expr} (k : Bool) (ihl : SemE env l) (ihr : SemE env r)
    (hue : userE e = true → userE l = true ∧ userE r = true)
    (hbld : ∀ m b σ, bld e m b σ = scPost m (scPre m σ).1 (scPre m σ).2.1 b
      (bld r (.br (scPre m σ).1 (scPre m σ).2.1) (scPre m σ).2.2.len
        (bld l (.br (bif k then (scPre m σ).2.2.len else (scPre m σ).1) (bif k then (scPre m σ).2.1 else (scPre m σ).2.2.len))
          b (newBB (scPre m σ).2.2).2).2.2).2.2)
    (hev : ∀ s, eval env e s = if (eval env l s).1.truthy = k
      then (.bool (eval env r (eval env l s).2).1.truthy, (eval env r (eval env l s).2).2)
      else (.bool (!k), (eval env l s).2)) : SemE env e := by
  refine semE_sc (fun t' f' b σp => (bld r (.br t' f') σp.len
    (bld l (.br (bif k then σp.len else t') (bif k then f' else σp.len)) b (newBB σp).2).2.2).2.2) hbld ?_ ?_ ?_
  · intro s; rw [hev]; split <;> rfl
  · intro t' f' b σp hb ho
    exact Touch.then_new hb (bld_touch l _ _ b _ (by simp; omega) (by rw [blk_newBB]; exact ho))
      (bld_touch r t' f' _ _)
  · intro t' f' b σp bl hu hb ho hx s rv
    obtain ⟨hul, hur⟩ := hue hu
    have hb' : b < (newBB σp).2.len := by simp; omega
    have ho' : ((newBB σp).2.blk b).succs = [] := by rw [blk_newBB]; exact ho
    have t1 : Touch (newBB σp).2 b (bld l (.br (bif k then σp.len else t') (bif k then f' else σp.len)) b
      (newBB σp).2).2.2 := bld_touch l _ _ b _ hb' ho'
    have hl1 := t1.len
    simp only [len_newBB] at hl1
    have hxe := (t1.frame σp.len (by simp) (by omega)).trans (blk_newBB_new σp)
    have hxo := congrArg Block.succs hxe
    have t2 : Touch _ σp.len (bld r (.br t' f') σp.len _).2.2 := bld_touch r t' f' σp.len _ (by omega) hxo
    obtain ⟨sA, hstA, htrA, hagA, htmA⟩ := ihl (.br _ _) b _ bl hul hb' ho' (Ext.step t2 hxo hx) s rv
    rw [blk_newBB] at hstA
    unfold BrPost
    rw [hev]
    by_cases hv : (eval env l s).1.truthy = k
    · -- control is in the block of the second operand
      have hto : (if (eval env l s).1.truthy then (bif k then σp.len else t') else (bif k then f' else σp.len)) = σp.len := by
        rw [hv]; cases k <;> rfl
      rw [hto] at hstA
      obtain ⟨sB, hstB, htrB, hagB, htmB⟩ := BrPost.of_agree hur htrA hagA
        (ihr (.br t' f') σp.len _ bl hur (by omega) hxo hx sA rv)
      rw [hxe] at hstB
      rw [if_pos hv]
      exact ⟨sB, hstA.trans hstB, htrB, hagB, KeepT.trans htmA htmB t1.tmp⟩
    · have hto : (if (eval env l s).1.truthy then (bif k then σp.len else t') else (bif k then f' else σp.len)) =
          if (!k) then t' else f' := by
        revert hv; cases k <;> cases (eval env l s).1.truthy <;> simp
      rw [hto] at hstA
      rw [if_neg hv]
      exact ⟨sA, hstA, htrA, hagA, htmA⟩

theorem semE_and {env : Env} {l r : Expr} (ihl : SemE env l) (ihr : SemE env r) : SemE env (.and l r) :=
  semE_boolop true ihl ihr (by simp [userE]) (fun _ _ _ => rfl) (fun s => by
    show eval env (.and l r) s = _; simp only [eval]; cases (eval env l s).1.truthy <;> rfl)

theorem semE_or {env : Env} {l r : Expr} (ihl : SemE env l) (ihr : SemE env r) : SemE env (.or l r) :=
  semE_boolop false ihl ihr (by simp [userE]) (fun _ _ _ => rfl) (fun s => by
    show eval env (.or l r) s = _; simp only [eval]; cases (eval env l s).1.truthy <;> rfl)

theorem cmp_tail_sem {env : Env} {bl : List Block} {lA r : Expr} (o : CmpOp) (ihr : SemE env r) (hur : userE r = true)
    {x : Nat} {σ1 : BState} (hx1 : x < σ1.len) (hxo : (σ1.blk x).succs = []) (t' f' : Nat)
    (hx : Ext (cmpTail o lA r t' f' x σ1) bl) (hlA : lifts lA = false)
    (hvA : VarsBelow σ1.nextTmp lA) :
    Ext σ1 bl ∧ ∀ (sD : S) (rv : Option Val) (st1 : Store) (tr1 : Trace) (vl : Val), agreeU sD.1 st1 →
      eval env lA sD = (vl, (sD.1, tr1)) →
      ∃ s2 : S, Steps env bl ⟨x, (σ1.blk x).stmts.length, sD, rv⟩
          ⟨if compare o vl (eval env r (st1, tr1)).1 then t' else f', 0, s2, rv⟩ ∧
        s2.2 = (eval env r (st1, tr1)).2.2 ∧ agreeU s2.1 (eval env r (st1, tr1)).2.1 ∧
        KeepT σ1.nextTmp sD s2 := by
  simp only [cmpTail] at hx
  have gp2 := (Built.refl hx1 hxo).bind hx1 (lifts r && needBind lA r) lA
  have hpp2 := preBind_props (g := lifts r = true) (c := lifts r && needBind lA r) x hur hlA hvA
    (fun hc hlr => by rw [hlr, Bool.true_and] at hc; exact hc)
  have hp2t := gp2.touch.tmp
  have gd := bld_good r _ _ gp2.lt gp2.opn
  have hxd := Ext.step (touch_branchOn _ _ t' f' _) gd.opn hx
  have hxp2 := Ext.step gd.touch gp2.opn hxd
  refine ⟨ext_preBind hxo hxp2, fun sD rv st1 tr1 vl hag hevl => ?_⟩
  obtain ⟨sE, hstE, hevE, hagE, htmE, _, _⟩ := preBind_sem (env := env) (lifts r && needBind lA r) hx1 hxp2 sD rv _ _ hevl
  generalize preBind (lifts r && needBind lA r) lA x σ1 = p2 at *
  obtain ⟨sF, X, hstF, hF1, hX, hF2, hagF, htmF, _⟩ := pair_sem ihr hur gp2.lt gp2.opn hxd hpp2.1 hpp2.2.1 hpp2.2.2
    sE rv st1 tr1 vl (hagE.trans hag) hevE
  generalize bld r .val x p2.2 = d at *
  have hb := step_branched (env := env) (.bi (.cmp o) p2.1 d.1) t' f' gd.lt gd.opn hx sF rv
  have hP : eval env (.bi (.cmp o) p2.1 d.1) sF =
      (.bool (compare o vl (eval env r (st1, tr1)).1), (sF.1, (eval env r (st1, tr1)).2.2)) :=
    eval_bi_of (.cmp o) hF1 hF2
  rw [hP] at hb
  exact ⟨_, hstE.trans (hstF.trans (Steps.single hb)), rfl, hagF, KeepT.trans htmE htmF hp2t⟩

theorem cmp_head_sem {env : Env} {lA mid r : Expr} (o : CmpOp) (ihm : SemE env mid) (hum : userE mid = true)
    (hur : userE r = true) {ab : Nat} {σa : BState} (hab : ab < σa.len) (hao : (σa.blk ab).succs = []) (x f' : Nat)
    (hlA : lifts lA = false) (hvA : VarsBelow σa.nextTmp lA) :
    Touch σa ab (cmpHead o lA mid r x f' ab σa).2 ∧ lifts (cmpHead o lA mid r x f' ab σa).1 = false ∧
    VarsBelow (cmpHead o lA mid r x f' ab σa).2.nextTmp (cmpHead o lA mid r x f' ab σa).1 ∧
    ∀ bl, Ext (cmpHead o lA mid r x f' ab σa).2 bl → Ext σa bl ∧
      ∀ (sA : S) (rv : Option Val) (st1 : Store) (tr1 : Trace) (vl : Val), agreeU sA.1 st1 →
        eval env lA sA = (vl, (sA.1, tr1)) →
        ∃ sD : Store, Steps env bl ⟨ab, (σa.blk ab).stmts.length, sA, rv⟩
            ⟨if compare o vl (eval env mid (st1, tr1)).1 then x else f', 0, (sD, (eval env mid (st1, tr1)).2.2), rv⟩ ∧
          eval env (cmpHead o lA mid r x f' ab σa).1 (sD, (eval env mid (st1, tr1)).2.2) =
            ((eval env mid (st1, tr1)).1, (sD, (eval env mid (st1, tr1)).2.2)) ∧
          agreeU sD (eval env mid (st1, tr1)).2.1 ∧ KeepT σa.nextTmp sA (sD, (eval env mid (st1, tr1)).2.2) := by
  simp only [cmpHead]
  have gp := (Built.refl hab hao).bind hab ((lifts mid || !atomicSyn mid) && needBind lA mid) lA
  have hpp := preBind_props (g := (lifts mid || !atomicSyn mid) = true)
    (c := (lifts mid || !atomicSyn mid) && needBind lA mid) (r := mid) ab hum hlA hvA
    (fun hc ht => by rw [ht, Bool.true_and] at hc; exact hc)
  -- the facts about each stage are instantiated (as functions of `bl`) before `generalize … at *` hides the term they
  -- mention; this is why the statement has its `∀ bl` inside
  have hps := fun bl hxp sA rv v T hev => preBind_sem (env := env) (bl := bl)
    ((lifts mid || !atomicSyn mid) && needBind lA mid) (e := lA) hab hxp sA rv v T hev
  have hxa := fun bl (hxp : Ext (preBind ((lifts mid || !atomicSyn mid) && needBind lA mid) lA ab σa).2 bl) =>
    ext_preBind hao hxp
  generalize preBind ((lifts mid || !atomicSyn mid) && needBind lA mid) lA ab σa = p at *
  obtain ⟨hp1, hp2, hp3⟩ := hpp
  -- evaluating `mid` before the first operand is unobservable (needed when `mid` is stored): either by
  -- `needBind`, or because an atomic `mid` does nothing
  have hsw : (anyCall mid = false ∨ anyCall p.1 = false) ∧ ∀ y ∈ vars p.1, y ∉ writes mid := by
    cases ht : (lifts mid || !atomicSyn mid) with
    | true => exact hp3 ht
    | false =>
      simp only [Bool.or_eq_false_iff, Bool.not_eq_eq_eq_not, Bool.not_false] at ht
      obtain ⟨h1, h2, _⟩ := atomic_nocall ht.2
      exact ⟨Or.inl h1, by intro y _; rw [h2]; simp⟩
  have gc := bld_good mid _ _ gp.lt gp.opn
  have resm := (bld_resid mid gp.lt gp.opn).nolift
  have hvm := resid_varsBelow hum gp.lt gp.opn
  have gpc := gp.trans hab gc
  have hpair := fun bl hxc => pair_sem (env := env) (bl := bl) ihm hum gp.lt gp.opn hxc hp1 hp2
    (fun h => hp3 (by rw [h]; rfl))
  generalize bld mid .val ab p.2 = c at *
  have gm := gpc.bind hab (!stable c.1 r) c.1
  have hpmP := preBind_props (g := False) (c := !stable c.1 r) (r := r) c.2.1 hur resm hvm
    (fun _ h => h.elim)
  have hps2 := fun bl hxpm sC rv v T hev => preBind_sem (env := env) (bl := bl) (!stable c.1 r) (e := c.1) gpc.lt hxpm
    sC rv v T hev
  have hxc := fun bl (hxpm : Ext (preBind (!stable c.1 r) c.1 c.2.1 c.2.2).2 bl) => ext_preBind gpc.opn hxpm
  have hpmeq : ∀ hcm : (!stable c.1 r) = false, (preBind (!stable c.1 r) c.1 c.2.1 c.2.2).1 = c.1 := fun hcm => by
    rw [hcm]; rfl
  generalize preBind (!stable c.1 r) c.1 c.2.1 c.2.2 = pm at *
  refine ⟨gm.touch.trans (touch_branchOn _ _ _ _ _) hab gm.cur, hpmP.1, hpmP.2.1, fun bl hx1 => ?_⟩
  have hxpm : Ext pm.2 bl := Ext.step (touch_branchOn _ _ _ _ _) gm.opn hx1
  have hxp : Ext p.2 bl := Ext.step gc.touch gp.opn (hxc bl hxpm)
  refine ⟨hxa bl hxp, fun sA rv st1 tr1 vl hagA hevA => ?_⟩
  obtain ⟨sA', hstP, hevP, hagP, htmP, _, _⟩ := hps bl hxp sA rv _ _ hevA
  obtain ⟨sC, X, hstC, hE1, hX, hE2, hagC, htmC, hswap⟩ := hpair bl (hxc bl hxpm) sA' rv st1 tr1 vl (hagP.trans hagA) hevP
  obtain ⟨T, hT1, hT2⟩ := hswap hsw.1 hsw.2
  obtain ⟨sD, hstD, hevD, hagD, htmD, hbt, hbf⟩ := hps2 bl hxpm sC rv _ _ hT1
  have hP1 : eval env (.bi (.cmp o) p.1 pm.1) sD =
      (.bool (compare o vl (eval env mid (st1, tr1)).1), (sD.1, (eval env mid (st1, tr1)).2.2)) ∧
      eval env pm.1 (sD.1, (eval env mid (st1, tr1)).2.2) =
        ((eval env mid (st1, tr1)).1, (sD.1, (eval env mid (st1, tr1)).2.2)) := by
    cases hcm : (!stable c.1 r) with
    | true =>
      obtain ⟨hD, hpm1, _⟩ := hbt hcm
      have hjfresh : Var.tmp c.2.2.nextTmp ∉ vars p.1 := by
        intro hmem
        rcases hp2 _ hmem with ⟨u, hu'⟩ | ⟨k, hk1, hk2⟩
        · cases hu'
        · injection hk1 with hk1
          have := gc.touch.tmp
          omega
      rw [hD, eval_cmp, hT2 _ _ hjfresh, hpm1]
      simp only [eval_tmpvar, set_same]
      exact ⟨trivial, trivial⟩
    | false =>
      obtain ⟨hD, _⟩ := hbf hcm
      rw [hD, hpmeq hcm, eval_bi_of (.cmp o) hE1 hE2]
      refine ⟨rfl, ?_⟩
      rw [eval_atomic env (stable_atomic (by simpa using hcm)) (sC.1, (eval env mid (st1, tr1)).2.2) X hX.symm, hE2]
  have hb1 := step_branched (env := env) (.bi (.cmp o) p.1 pm.1) x f' gm.lt gm.opn hx1 sD rv
  rw [hP1.1] at hb1
  exact ⟨sD.1, hstP.trans (hstC.trans (hstD.trans (Steps.single hb1))), hP1.2, hagD.trans hagC,
    (KeepT.trans htmP htmC gp.touch.tmp).trans htmD (Nat.le_trans gp.touch.tmp gc.touch.tmp)⟩

theorem semE_cmp2 {env : Env} (o1 o2 : CmpOp) {l mid r : Expr} (ihl : SemE env l) (ihm : SemE env mid)
    (ihr : SemE env r) : SemE env (.cmp2 o1 o2 l mid r) := by
  refine semE_sc (fun t' f' b σp => cmp2Body o1 o2 l mid r t' f' b σp) (fun _ _ _ => rfl) ?_ ?_ ?_
  · intro s; rw [eval_cmp2]; split <;> simp
  · intro t' f' b σp hb ho; exact (cmp2_built (built l) (built mid) (built r) hb ho t' f').touch
  · intro t' f' b σp bl hu hb ho hx s rv
    simp only [userE, Bool.and_eq_true] at hu
    obtain ⟨⟨hul, hum⟩, hur⟩ := hu
    have hb' : b < (newBB σp).2.len := by simp; omega
    have ho' : ((newBB σp).2.blk b).succs = [] := by rw [blk_newBB]; exact ho
    have ga := bld_good l b _ hb' ho'
    have resl := bld_resid l hb' ho'
    obtain ⟨tH, hH1, hH2, hsem⟩ := cmp_head_sem (env := env) (r := r) o1 ihm hum hur ga.lt ga.opn σp.len f' resl.nolift
      (resid_varsBelow hul hb' ho')
    have t1 := ga.touch.trans tH hb' ga.cur
    have hl1 := t1.len
    have htm1 := t1.tmp
    simp only [len_newBB, tmp_newBB] at hl1 htm1
    have hxe := (t1.frame σp.len (by simp) (by omega)).trans (blk_newBB_new σp)
    obtain ⟨hx1, htail⟩ := cmp_tail_sem (env := env) o2 ihr hur (by omega) (congrArg Block.succs hxe) t' f' hx hH1 hH2
    obtain ⟨hxa, hhead⟩ := hsem bl hx1
    obtain ⟨sA, hstA, hevA, hagA, htmA⟩ := ihl .val b (newBB σp).2 bl hul hb' ho' hxa s rv
    rw [blk_newBB] at hstA
    obtain ⟨sD, hstD, hevD, hagD, htmD⟩ := hhead sA rv _ _ _ hagA hevA
    have htmE : KeepT σp.nextTmp s (sD, (eval env mid (eval env l s).2).2.2) := KeepT.trans htmA htmD ga.touch.tmp
    unfold BrPost
    rw [eval_cmp2]
    cases hcmp : compare o1 (eval env l s).1 (eval env mid (eval env l s).2).1 with
    | false =>
      rw [show ((eval env l s).2.1, (eval env l s).2.2) = (eval env l s).2 from rfl, hcmp] at hstD
      rw [if_neg Bool.false_ne_true]
      exact ⟨_, hstA.trans hstD, rfl, hagD, htmE⟩
    | true =>
      rw [show ((eval env l s).2.1, (eval env l s).2.2) = (eval env l s).2 from rfl, hcmp] at hstD
      obtain ⟨sF, hstF, htrF, hagF, htmF⟩ := htail _ rv (eval env mid (eval env l s).2).2.1 _ _ hagD hevD
      rw [hxe] at hstF
      rw [if_pos rfl]
      exact ⟨sF, hstA.trans (hstD.trans hstF), htrF, hagF, KeepT.trans htmE htmF htm1⟩

theorem arm_sem {env : Env} {bl : List Block} {z ez : Expr} {b n nt k m pz nz : Nat} {sA s1 : S} {rv : Option Val}
    (hu : userE z = true) (htr : sA.2 = s1.2) (hag : agreeU sA.1 s1.1) (hk : nt ≤ k)
    (h : ValPost env bl z b n nt ez pz nz sA rv)
    (hP : ∀ s : S, Steps env bl ⟨pz, nz, s, rv⟩
      ⟨m, 0, ((eval env ez s).2.1.set (.tmp k) (eval env ez s).1, (eval env ez s).2.2), rv⟩) :
    ∃ s2 : S, Steps env bl ⟨b, n, sA, rv⟩ ⟨m, 0, s2, rv⟩ ∧
      eval env (.var (.tmp k)) s2 = ((eval env z s1).1, (s2.1, (eval env z s1).2.2)) ∧
      agreeU s2.1 (eval env z s1).2.1 ∧ KeepT nt sA s2 := by
  obtain ⟨sB, hst, hev, hagB, htm⟩ := ValPost.of_agree hu htr hag h
  have h2 := hP sB
  rw [hev] at h2
  exact ⟨_, hst.trans h2, by simp only [eval_tmpvar, set_same], (set_tmp_agreeU _ _ _).trans hagB,
    KeepT.trans htm (.set_tmp _ _ _ hk) (Nat.le_refl _)⟩

theorem semE_ite {env : Env} {c x y : Expr} (ihc : SemE env c) (ihx : SemE env x) (ihy : SemE env y) :
    SemE env (.ite c x y) := by
  intro m b σ bl hu hb ho hx s rv
  simp only [userE, Bool.and_eq_true] at hu
  have I := itS1_spec c hb ho
  have hl1 := I.len
  have htbo : ((itS1 c b σ).blk σ.len).succs = [] := by rw [I.thn]
  cases m with
  | br t f =>
    rw [bld_ite_br] at hx
    have t2 := bld_touch x t f σ.len (itS1 c b σ) (by omega) htbo
    have hl2 := t2.len
    have heb2 : (bld x (.br t f) σ.len (itS1 c b σ)).2.2.blk (σ.len + 1) = {} := by
      rw [t2.frame (σ.len + 1) (by omega) (by omega)]; exact I.els
    have t3 := bld_touch y t f (σ.len + 1) (bld x (.br t f) σ.len (itS1 c b σ)).2.2 (by omega) (by rw [heb2])
    have hx2 : Ext (bld x (.br t f) σ.len (itS1 c b σ)).2.2 bl := Ext.step t3 (by rw [heb2]) hx
    have hx1 : Ext (itS1 c b σ) bl := Ext.step t2 htbo hx2
    obtain ⟨sA, hstA, htrA, hagA, htmA⟩ := ihc (.br σ.len (σ.len + 1)) b _ bl hu.1.1 I.lt I.opn hx1 s rv
    rw [I.stmts] at hstA
    unfold BrPost
    rw [eval_ite]
    cases hv : (eval env c s).1.truthy with
    | true =>
      rw [hv] at hstA
      obtain ⟨sB, hstB, htrB, hagB, htmB⟩ := BrPost.of_agree hu.1.2 htrA hagA
        (ihx (.br t f) σ.len (itS1 c b σ) bl hu.1.2 (by omega) htbo hx2 sA rv)
      rw [I.thn] at hstB
      rw [if_pos rfl]
      exact ⟨sB, hstA.trans hstB, htrB, hagB, KeepT.trans (nt := σ.nextTmp) htmA htmB I.touch.tmp⟩
    | false =>
      rw [hv] at hstA
      obtain ⟨sB, hstB, htrB, hagB, htmB⟩ := BrPost.of_agree hu.2 htrA hagA
        (ihy (.br t f) (σ.len + 1) _ bl hu.2 (by omega) (by rw [heb2]) hx sA rv)
      rw [heb2] at hstB
      rw [if_neg Bool.false_ne_true]
      exact ⟨sB, hstA.trans hstB, htrB, hagB, KeepT.trans (nt := σ.nextTmp) htmA htmB (Nat.le_trans I.touch.tmp t2.tmp)⟩
  | val =>
    simp only [bld_ite_val, iteMerge_eq] at hx ⊢
    have gu : Built (itS1 c b σ) σ.len (itU c x b σ).2.2 (itU c x b σ).2.1 :=
      bld_good x σ.len (itS1 c b σ) (by omega) htbo
    have hlu := gu.touch.len
    have heb2 : (itU c x b σ).2.2.blk (σ.len + 1) = {} := by
      rw [gu.touch.frame (σ.len + 1) (by omega) (by omega)]; exact I.els
    have gv : Built (itU c x b σ).2.2 (σ.len + 1) (itV c x y b σ).2.2 (itV c x y b σ).2.1 :=
      bld_good y (σ.len + 1) _ (by omega) (by rw [heb2])
    have hlv := gv.touch.len
    have hune : (itU c x b σ).2.1 ≠ σ.len + 1 := by rcases gu.cur with h | h <;> omega
    have hult := gu.lt
    have huv : (itU c x b σ).2.1 ≠ (itV c x y b σ).2.1 := by rcases gv.cur with h | h <;> omega
    have hvu : (itV c x y b σ).2.2.blk (itU c x b σ).2.1 = (itU c x b σ).2.2.blk (itU c x b σ).2.1 :=
      gv.touch.frame _ hult hune
    obtain ⟨hxv, hl0, hP, hQ⟩ := merge_sem (env := env) (itU c x b σ).1 (itV c x y b σ).1
      (by omega) gv.lt huv (by rw [hvu]; exact gu.opn) gv.opn hx
    have hxu : Ext (itU c x b σ).2.2 bl := Ext.step gv.touch (by rw [heb2]) hxv
    have hx1 : Ext (itS1 c b σ) bl := Ext.step gu.touch htbo hxu
    obtain ⟨sA, hstA, htrA, hagA, htmA⟩ := ihc (.br σ.len (σ.len + 1)) b _ bl hu.1.1 I.lt I.opn hx1 s rv
    rw [I.stmts] at hstA
    have h1 := I.touch.tmp
    have h2 := gu.touch.tmp
    have h3 := gv.touch.tmp
    simp only [tmp_newBB] at h1
    unfold ValPost
    rw [hl0, eval_ite]
    cases hv : (eval env c s).1.truthy with
    | true =>
      rw [hv] at hstA
      obtain ⟨s2, g1, g2, g3, g4⟩ := arm_sem (k := (itV c x y b σ).2.2.nextTmp) (m := (itV c x y b σ).2.2.len)
        hu.1.2 htrA hagA (by omega) (ihx .val σ.len (itS1 c b σ) bl hu.1.2 (by omega) htbo hxu sA rv)
        (fun s => by have := hP s rv; rw [hvu] at this; exact this)
      rw [I.thn] at g1
      rw [if_pos rfl]
      exact ⟨s2, hstA.trans g1, g2, g3, KeepT.trans (nt := σ.nextTmp) htmA g4 h1⟩
    | false =>
      rw [hv] at hstA
      obtain ⟨s2, g1, g2, g3, g4⟩ := arm_sem (k := (itV c x y b σ).2.2.nextTmp) (m := (itV c x y b σ).2.2.len)
        hu.2 htrA hagA (by omega) (ihy .val (σ.len + 1) (itU c x b σ).2.2 bl hu.2 (by omega) (by rw [heb2]) hxv sA rv) (fun s => hQ s rv)
      rw [heb2] at g1
      rw [if_neg Bool.false_ne_true]
      exact ⟨s2, hstA.trans g1, g2, g3, KeepT.trans (nt := σ.nextTmp) htmA g4 (Nat.le_trans h1 h2)⟩

theorem sem_all (env : Env) (e : Expr) : SemE env e := by
  induction e with
  | var _ | num _ | call0 _ => exact semE_leaf rfl (fun _ _ => rfl) (fun _ _ _ _ => rfl)
  | bool v => exact semE_bool env v
  | un o e ih => exact semE_un o ih
  | bi o l r ihl ihr => exact semE_bi o ihl ihr
  | cmp2 o1 o2 l m r ihl ihm ihr => exact semE_cmp2 o1 o2 ihl ihm ihr
  | and l r ihl ihr => exact semE_and ihl ihr
  | or l r ihl ihr => exact semE_or ihl ihr
  | ite c x y ihc ihx ihy => exact semE_ite ihc ihx ihy
  | walrus x e ih => exact semE_walrus x ih

theorem expr_val {env : Env} {bl : List Block} {e : Expr} {b : Nat} {σ : BState} (hu : userE e = true)
    (hb : b < σ.len) (ho : (σ.blk b).succs = []) (hx : Ext (bld e .val b σ).2.2 bl)
    {stI st s1 : S} {v : Val} (hag : agreeU stI.1 st.1) (htr : stI.2 = st.2) (hev : eval env e st = (v, s1))
    (rv : Option Val) :
    ∃ s2 : S, Steps env bl ⟨b, (σ.blk b).stmts.length, stI, rv⟩
        ⟨(bld e .val b σ).2.1, ((bld e .val b σ).2.2.blk (bld e .val b σ).2.1).stmts.length, s2, rv⟩ ∧
      eval env (bld e .val b σ).1 s2 = (v, (s2.1, s1.2)) ∧ agreeU s2.1 s1.1 ∧
      KeepT σ.nextTmp stI s2 := by
  have := ValPost.of_agree hu htr hag (sem_all env e .val b σ bl hu hb ho hx stI rv)
  rwa [hev] at this

theorem expr_br {env : Env} {bl : List Block} {e : Expr} {b t f : Nat} {σ : BState} (hu : userE e = true)
    (hb : b < σ.len) (ho : (σ.blk b).succs = []) (hx : Ext (bld e (.br t f) b σ).2.2 bl)
    {stI st s1 : S} {v : Val} (hag : agreeU stI.1 st.1) (htr : stI.2 = st.2) (hev : eval env e st = (v, s1))
    (rv : Option Val) :
    ∃ s2 : S, Steps env bl ⟨b, (σ.blk b).stmts.length, stI, rv⟩ ⟨if v.truthy then t else f, 0, s2, rv⟩ ∧
      s2.2 = s1.2 ∧ agreeU s2.1 s1.1 ∧ KeepT σ.nextTmp stI s2 := by
  have := BrPost.of_agree hu htr hag (sem_all env e (.br t f) b σ bl hu hb ho hx stI rv)
  rwa [hev] at this

end GuppyVerif.Builder
