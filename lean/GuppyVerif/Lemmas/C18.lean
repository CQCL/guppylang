import GuppyVerif.Model.Range
import GuppyVerif.Spec.C18
/-! What `run` yields while `__next__` goes on, and Python's length, both in terms of `Going`. -/
namespace GuppyVerif.Range

theorem wrap_id {x : Int} (h : I64 x) : wrap x = x := by
  unfold I64 at h; unfold wrap; omega

/-- `[cur, cur+step, …, cur+(n-1)*step]`, built the way the iteration builds it -/
def arith (cur step : Int) : Nat → List Int
  | 0 => []
  | n + 1 => cur :: arith (cur + step) step n

theorem arith_length (cur step : Int) (n : Nat) : (arith cur step n).length = n := by
  induction n generalizing cur with
  | zero => rfl
  | succ n ih => simp [arith, ih]

theorem arith_eq_map (cur step : Int) (n : Nat) :
    arith cur step n = (List.range n).map (fun (i : Nat) => cur + (i : Int) * step) := by
  induction n generalizing cur with
  | zero => rfl
  | succ n ih =>
    rw [arith, ih, List.range_succ_eq_map, List.map_cons, List.map_map]
    congr 1
    · simp
    · apply List.map_congr_left
      intro i _
      simp only [Function.comp, Nat.succ_eq_add_one, Int.natCast_add, Int.cast_ofNat_Int]
      rw [Int.add_mul, Int.one_mul]; omega

theorem run_of_none {r : Range} (h : r.next? = none) (fuel : Nat) : run fuel r = ([], r) := by
  cases fuel with
  | zero => rfl
  | succ f => simp [run, h]

theorem run_succ_of_some {r r' : Range} {v : Int} (h : r.next? = some (v, r')) (fuel : Nat) :
    run (fuel + 1) r = (v :: (run fuel r').1, (run fuel r').2) := by
  simp [run, h]

/-- `__next__` goes on from a state whose `next` is `x`.  Either way a ray: what holds at two values holds between
    them, so one induction serves both directions. -/
def Going (stop step x : Int) : Prop := (0 ≤ step ∧ x < stop) ∨ (step < 0 ∧ stop < x)

theorem next?_going {cur stop step : Int} (h : Going stop step cur) :
    (Range.mk cur stop step).next? = some (cur, ⟨wrap (cur + step), stop, step⟩) := by
  unfold Range.next?
  rcases h with ⟨h1, h2⟩ | ⟨h1, h2⟩
  · simp [h1, Int.not_le.mpr h2]
  · simp [Int.not_le.mpr h1, Int.not_le.mpr h2]

theorem next?_not_going {cur stop step : Int} (h : ¬ Going stop step cur) :
    (Range.mk cur stop step).next? = none := by
  unfold Range.next?
  rcases Int.lt_or_le step 0 with h1 | h1
  · have h2 : cur ≤ stop := Int.not_lt.mp fun h2 => h (.inr ⟨h1, h2⟩)
    simp [Int.not_le.mpr h1, h2]
  · have h2 : stop ≤ cur := Int.not_lt.mp fun h2 => h (.inl ⟨h1, h2⟩)
    simp [h1, h2]

/-- the sign of `step` is paired with each inequality because `omega` does not multiply out `i * step` -/
theorem steps_mono {i m : Nat} (h : i ≤ m) (step : Int) :
    (0 ≤ step ∧ (i : Int) * step ≤ (m : Int) * step) ∨ (step < 0 ∧ (m : Int) * step ≤ (i : Int) * step) := by
  have him : (i : Int) ≤ m := by omega
  rcases Int.lt_or_le step 0 with hs | hs
  · exact .inr ⟨hs, Int.mul_le_mul_of_nonpos_right him (Int.le_of_lt hs)⟩
  · exact .inl ⟨hs, Int.mul_le_mul_of_nonneg_right him hs⟩

theorem steps_sign (i : Nat) (step : Int) :
    (0 ≤ step ∧ 0 ≤ (i : Int) * step) ∨ (step < 0 ∧ (i : Int) * step ≤ 0) := by
  simpa using steps_mono (Nat.zero_le i) step

/-- D12: `x + step` left the 64-bit range on the far side of `stop`; wrapped, it is on the near side again -/
theorem going_wrap_of_overflow {stop step x : Int} (h2 : I64 stop) (h3 : I64 step) (hb : I64 x)
    (hx : Going stop step x) (hov : ¬ I64 (x + step)) : Going stop step (wrap (x + step)) := by
  unfold Going at hx ⊢; unfold I64 at h2 h3 hb hov
  rcases hx with ⟨hs, hx⟩ | ⟨hs, hx⟩
  · rw [show wrap (x + step) = x + step - 18446744073709551616 by unfold wrap; omega]; omega
  · rw [show wrap (x + step) = x + step + 18446744073709551616 by unfold wrap; omega]; omega

/-- going on for `m` more steps inside 64 bits, `run` yields `m + 1` elements and continues from the wrapped next value -/
theorem run_yield (stop step : Int) :
    ∀ (m : Nat) (cur : Int) (fuel : Nat), Going stop step cur → Going stop step (cur + (m : Int) * step) →
      I64 cur → I64 (cur + (m : Int) * step) →
      run (m + 1 + fuel) ⟨cur, stop, step⟩ =
        (arith cur step (m + 1) ++ (run fuel ⟨wrap (cur + ((m : Int) + 1) * step), stop, step⟩).1,
         (run fuel ⟨wrap (cur + ((m : Int) + 1) * step), stop, step⟩).2) := by
  intro m
  induction m with
  | zero =>
    intro cur fuel g0 _ _ _
    rw [show 0 + 1 + fuel = fuel + 1 by omega, run_succ_of_some (next?_going g0)]
    simp [arith]
  | succ j ih =>
    intro cur fuel g0 gm b0 bm
    have e1 : ((j + 1 : Nat) : Int) * step = (j : Int) * step + step := by
      rw [Int.natCast_add, Int.add_mul]; simp
    rw [e1] at gm bm
    have hj := steps_sign j step
    have g1 : Going stop step (cur + step) := by unfold Going at *; omega
    have b1 : I64 (cur + step) := by unfold Going I64 at *; omega
    rw [show j + 1 + 1 + fuel = (j + 1 + fuel) + 1 by omega, run_succ_of_some (next?_going g0), wrap_id b1,
      ih (cur + step) fuel g1 (by unfold Going at *; omega) b1 (by unfold I64 at *; omega)]
    have e2 : cur + step + ((j : Int) + 1) * step = cur + (((j + 1 : Nat) : Int) + 1) * step := by
      rw [Int.natCast_add, Int.add_mul, Int.add_mul, Int.add_mul]; simp; omega
    rw [e2]
    simp [arith]

/-- `m` is the index of the last element of Python's range: the first step past it reaches `stop` -/
theorem pyLen_up {start stop step : Int} (hs : 0 < step) (h : start < stop) :
    ∃ m : Nat, pyLen start stop step = m + 1 ∧ start + (m : Int) * step < stop ∧
      stop ≤ start + ((m : Int) + 1) * step := by
  have hlen : pyLen start stop step = ((stop - start + step - 1) / step).toNat := by
    simp [pyLen, hs, h]
  have hq1 : 1 ≤ (stop - start + step - 1) / step :=
    Int.le_ediv_of_mul_le hs (by omega)
  have hdm := Int.emod_add_mul_ediv (stop - start + step - 1) step
  have hm0 := Int.emod_nonneg (stop - start + step - 1) (Int.ne_of_gt hs)
  have hm1 := Int.emod_lt_of_pos (stop - start + step - 1) hs
  generalize (stop - start + step - 1) / step = q at *
  generalize (stop - start + step - 1) % step = r at *
  refine ⟨(q - 1).toNat, by omega, ?_, ?_⟩
  · have e : ((q - 1).toNat : Int) = q - 1 := Int.toNat_of_nonneg (by omega)
    rw [e, Int.sub_mul, Int.mul_comm q step]; omega
  · have e : ((q - 1).toNat : Int) + 1 = q := by omega
    rw [e, Int.mul_comm q step]; omega

theorem pyLen_neg {start stop step : Int} (hs : step < 0) :
    pyLen start stop step = pyLen (-start) (-stop) (-step) := by
  have e : -stop - -start + -step - 1 = start - stop + -step - 1 := by omega
  have hn : ¬ (0 < step) := by omega
  have hp : 0 < -step := by omega
  simp only [pyLen, hs, hn, hp, if_true, if_false, Int.neg_lt_neg_iff, e]

theorem pyLen_down {start stop step : Int} (hs : step < 0) (h : stop < start) :
    ∃ m : Nat, pyLen start stop step = m + 1 ∧ stop < start + (m : Int) * step ∧
      start + ((m : Int) + 1) * step ≤ stop := by
  obtain ⟨m, hm, h1, h2⟩ := pyLen_up (start := -start) (stop := -stop) (step := -step) (by omega) (by omega)
  rw [Int.mul_neg] at h1 h2
  exact ⟨m, (pyLen_neg hs).trans hm, by omega, by omega⟩

theorem pyLen_up_empty {start stop step : Int} (hs : 0 < step) (h : stop ≤ start) :
    pyLen start stop step = 0 := by
  have : ¬ (start < stop) := by omega
  simp [pyLen, hs, this]

theorem pyLen_down_empty {start stop step : Int} (hs : step < 0) (h : start ≤ stop) :
    pyLen start stop step = 0 :=
  (pyLen_neg hs).trans (pyLen_up_empty (by omega) (by omega))

theorem pyLen_not_going {start stop step : Int} (hne : step ≠ 0) (h : ¬ Going stop step start) :
    pyLen start stop step = 0 := by
  rcases Int.lt_or_gt_of_ne hne with hs | hs
  · exact pyLen_down_empty hs (Int.not_lt.mp fun h2 => h (.inr ⟨hs, h2⟩))
  · exact pyLen_up_empty hs (Int.not_lt.mp fun h2 => h (.inl ⟨Int.le_of_lt hs, h2⟩))

theorem pyLen_going {start stop step : Int} (hne : step ≠ 0) (h : Going stop step start) :
    ∃ m : Nat, pyLen start stop step = m + 1 ∧ Going stop step (start + (m : Int) * step) ∧
      ¬ Going stop step (start + ((m : Int) + 1) * step) := by
  rcases h with ⟨hs, h⟩ | ⟨hs, h⟩
  · have hp : 0 < step := by omega
    obtain ⟨m, hm, h1, h2⟩ := pyLen_up hp h
    exact ⟨m, hm, .inl ⟨hs, h1⟩, by unfold Going; omega⟩
  · obtain ⟨m, hm, h1, h2⟩ := pyLen_down hs h
    exact ⟨m, hm, .inr ⟨hs, h1⟩, by unfold Going; omega⟩

end GuppyVerif.Range
