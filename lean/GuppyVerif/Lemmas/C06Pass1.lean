import GuppyVerif.Lemmas.C06Leaf
/-! C06: pass 1 of the checker read leaf by leaf.  Every piece of `checkBlock` is the automaton of
    `Lemmas/C06Leaf.lean` run for each leaf over the leaf's events (`Reads`): success, user error
    and `crash` in one reading. -/
namespace GuppyVerif.Linearity

def Scope.proj (s : Scope) (l : Leaf) : LeafSt :=
  ⟨s.vars.contains l, s.linVars.contains l, s.usedLocal.contains l, s.usedParent.contains l⟩

@[simp] theorem Scope.proj_inVars (s : Scope) (l : Leaf) : (s.proj l).inVars = s.vars.contains l := rfl
@[simp] theorem Scope.proj_kLoc (s : Scope) (l : Leaf) : (s.proj l).kLoc = s.linVars.contains l := rfl
@[simp] theorem Scope.proj_usedLocal (s : Scope) (l : Leaf) : (s.proj l).usedLocal = s.usedLocal.contains l := rfl
@[simp] theorem Scope.proj_usedParent (s : Scope) (l : Leaf) : (s.proj l).usedParent = s.usedParent.contains l := rfl

/-- `r` is the result of a piece of pass 1 started in scope `s`; `evs l` are the events of the
    piece on leaf `l`, `Q` its path-independent rules, `S` their breach -/
def Reads (s : Scope) (evs : Leaf → List Ev) (Q S : Prop) : R Scope → Prop
  | .ok s' => Q ∧ s'.parent = s.parent ∧ s'.linParent = s.linParent ∧
      ∀ l, crun (s.parent.contains l) (s.proj l) (evs l) = some (s'.proj l)
  | .error err => (err ≠ .crash ∧ S) ∨ ∃ l, Stuck (s.parent.contains l) (s.proj l) (evs l) err

theorem Reads.mono {s : Scope} {evs : Leaf → List Ev} {Q Q' S S' : Prop} {r : R Scope}
    (hQ : Q → Q') (hS : S → S') (h : Reads s evs Q S r) : Reads s evs Q' S' r := by
  cases r with
  | ok s' => exact ⟨hQ h.1, h.2⟩
  | error err => exact h.imp_left fun ⟨hne, hs⟩ => ⟨hne, hS hs⟩

theorem Reads.bind {s : Scope} {evs1 evs2 : Leaf → List Ev} {Q1 Q2 S1 S2 : Prop} {r : R Scope}
    {g : Scope → R Scope} (h1 : Reads s evs1 Q1 S1 r) (h2 : ∀ s1, Reads s1 evs2 Q2 S2 (g s1)) :
    Reads s (fun l => evs1 l ++ evs2 l) (Q1 ∧ Q2) (S1 ∨ S2) (r >>= g) := by
  cases r with
  | error err =>
    exact h1.elim (fun ⟨hne, hs⟩ => Or.inl ⟨hne, Or.inl hs⟩) fun ⟨l, hl⟩ => Or.inr ⟨l, hl.append_right _⟩
  | ok s1 =>
    obtain ⟨q1, p1, p2, c1⟩ := h1
    have h2 := h2 s1
    show Reads s _ _ _ (g s1)
    generalize g s1 = r2 at h2
    cases r2 with
    | error err =>
      refine h2.elim (fun ⟨hne, hs⟩ => Or.inl ⟨hne, Or.inr hs⟩) fun ⟨l, hl⟩ => Or.inr ⟨l, ?_⟩
      rw [p1] at hl
      exact hl.prepend (c1 l)
    | ok s2 =>
      obtain ⟨q2, p1', p2', c2⟩ := h2
      refine ⟨⟨q1, q2⟩, p1'.trans p1, p2'.trans p2, fun l => ?_⟩
      rw [crun_append, c1 l, ← p1]
      exact c2 l

theorem Reads.foldlM {α : Type} {f : Scope → α → R Scope} {ev : Leaf → α → List Ev} {Q S : α → Prop}
    (hf : ∀ s a, Reads s (fun l => ev l a) (Q a) (S a) (f s a)) (as : List α) (s : Scope) :
    Reads s (fun l => as.flatMap (ev l)) (∀ a ∈ as, Q a) (∃ a ∈ as, S a) (as.foldlM f s) := by
  induction as generalizing s with
  | nil => exact ⟨nofun, rfl, rfl, fun _ => rfl⟩
  | cons a as ih =>
    rw [List.foldlM_cons]
    simp only [List.flatMap_cons]
    refine ((hf s a).bind ih).mono (fun ⟨h1, h2⟩ => List.forall_mem_cons.2 ⟨h1, h2⟩) ?_
    rintro (h | ⟨b, hb, h⟩)
    · exact ⟨a, List.mem_cons_self, h⟩
    · exact ⟨b, List.mem_cons_of_mem _ hb, h⟩

theorem Reads.single {s : Scope} {x : Leaf} {e : Ev} {r : R Scope}
    (hok : ∀ s', r = .ok s' → s'.parent = s.parent ∧ s'.linParent = s.linParent ∧
      cstep (s.parent.contains x) (s.proj x) e = some (s'.proj x) ∧ ∀ l, x ≠ l → s'.proj l = s.proj l)
    (herr : ∀ err, r = .error err →
      if err = .crash then e.op = .use ∧ (s.proj x).inVars = false ∧ s.parent.contains x = false
      else CFail (s.parent.contains x) (s.proj x) e) :
    Reads s (fun l => if x = l then [e] else []) True False r := by
  cases r with
  | ok s' =>
    obtain ⟨p1, p2, hc, hne⟩ := hok s' rfl
    refine ⟨trivial, p1, p2, fun l => ?_⟩
    show crun _ _ (if x = l then [e] else []) = _
    by_cases hx : x = l
    · subst hx
      rw [if_pos rfl]
      exact crun_cons_some.mpr ⟨_, hc, rfl⟩
    · rw [if_neg hx, hne l hx]
      rfl
  | error err => exact Or.inr ⟨x, [], e, [], _, by simp, rfl, herr err rfl⟩

theorem useLeaf_reads (s : Scope) (xk : Leaf × Bool) :
    Reads s (fun l => if xk.1 = l then [⟨.use, xk.2⟩] else []) True False (useLeaf s xk) := by
  obtain ⟨x, k⟩ := xk
  unfold useLeaf Scope.used Scope.use
  by_cases hv : x ∈ s.vars
  · by_cases hu : x ∈ s.usedLocal <;> cases k <;> refine Reads.single ?_ ?_ <;>
      simp [hv, hu, Scope.proj, cstep, CFail]
    all_goals exact fun l h1 h2 => absurd h2.symm h1
  · by_cases hp : x ∈ s.parent
    · by_cases hu : x ∈ s.usedParent <;> cases k <;> refine Reads.single ?_ ?_ <;>
        simp [hv, hp, hu, Scope.proj, cstep, CFail]
      all_goals exact fun l h1 h2 => absurd h2.symm h1
    · refine Reads.single ?_ ?_ <;> simp [hv, hp, Scope.proj]

theorem assign_reads (s : Scope) (xk : Leaf × Bool) :
    Reads s (fun l => if xk.1 = l then [⟨.give, xk.2⟩] else []) True False (pure (s.assign xk)) := by
  obtain ⟨x, k⟩ := xk
  refine Reads.single ?_ (fun _ h => nomatch h)
  rintro _ ⟨⟩
  refine ⟨rfl, rfl, ?_, fun l hl => ?_⟩
  · cases k <;> simp [Scope.proj, Scope.assign, cstep]
  · have : l ≠ x := fun e => hl e.symm
    cases k <;> simp [Scope.proj, Scope.assign, this]

theorem assignLeaf_reads (s : Scope) (xk : Leaf × Bool) :
    Reads s (fun l => if xk.1 = l then [⟨.asg, xk.2⟩] else []) True False (assignLeaf s xk) := by
  obtain ⟨x, k⟩ := xk
  unfold assignLeaf
  split
  · rename_i hc
    refine Reads.single (fun _ h => nomatch h) ?_
    rintro _ ⟨⟩
    simpa [CFail, Scope.proj, and_assoc] using hc
  · rename_i hc
    refine Reads.single ?_ (fun _ h => nomatch h)
    rintro _ ⟨⟩
    refine ⟨rfl, rfl, ?_, fun l hl => ?_⟩
    · have : cstep (s.parent.contains x) (s.proj x) ⟨.asg, k⟩ = some ⟨true, k, false, (s.proj x).usedParent⟩ := by
        simp only [cstep]
        rw [if_neg]
        simpa [Scope.proj] using hc
      rw [this]
      cases k <;> simp [Scope.proj, Scope.assign]
    · have : l ≠ x := fun e => hl e.symm
      cases k <;> simp [Scope.proj, Scope.assign, this]

theorem visitPlace_reads (P : Prog) (borrow : Bool) (s : Scope) (p : Place) :
    Reads s (fun l => leafEvs .use l p.leaves) (borrow = false → isInoutVar P p = false)
      (borrow = false ∧ isInoutVar P p = true) (visitPlace P borrow s p) := by
  unfold visitPlace
  split
  · rename_i hc
    exact Or.inl ⟨nofun, by simpa [and_comm] using hc⟩
  · rename_i hc
    refine (Reads.foldlM useLeaf_reads p.leaves s).mono (fun _ hb => ?_) fun ⟨_, _, h⟩ => h.elim
    subst hb
    simpa using hc

theorem visitPlace_parent {P : Prog} {borrow : Bool} {s s' : Scope} {p : Place}
    (h : visitPlace P borrow s p = .ok s') : s'.parent = s.parent := by
  have := visitPlace_reads P borrow s p
  rw [h] at this
  exact this.2.1

theorem givePlace_reads (s : Scope) (p : Place) :
    Reads s (fun l => leafEvs .give l p.leaves) True False (.ok (givePlace s p)) := by
  have := Reads.foldlM assign_reads p.leaves s
  rw [List.foldlM_pure] at this
  exact this.mono (fun _ => trivial) fun ⟨_, _, h⟩ => h

theorem doAct_reads (P : Prog) (s : Scope) (a : Act) :
    Reads s (fun l => a.evs l) (a.StaticOK P) (¬ a.StaticOK P) (doAct P s a) := by
  cases a with
  | use p borrow =>
    refine (visitPlace_reads P borrow s p).mono id ?_
    rintro ⟨hb, hi⟩ hs
    rw [hs hb] at hi; cases hi
  | give p => exact (givePlace_reads s p).mono id False.elim
  | dropAfter => exact Or.inl ⟨nofun, id⟩
  | moveOut => exact Or.inl ⟨nofun, id⟩

theorem assignTarget_reads (P : Prog) (s : Scope) (t : Place) :
    Reads s (fun l => leafEvs .asg l t.leaves) True (isInoutVar P t = true) (assignTarget P s t) := by
  unfold assignTarget
  split
  · rename_i hc
    simp only [Bool.and_eq_true] at hc
    exact Or.inl ⟨nofun, hc.1.2⟩
  · exact (Reads.foldlM assignLeaf_reads t.leaves s).mono (fun _ => trivial) fun ⟨_, _, h⟩ => h.elim

theorem assignTargets_reads (P : Prog) (s : Scope) (tgts : List Place) :
    Reads s (fun l => tgts.flatMap fun t => leafEvs .asg l t.leaves) (∀ t ∈ tgts, isInoutVar P t = false)
      (∃ t ∈ tgts, isInoutVar P t = true) (assignTargets P s tgts) := by
  unfold assignTargets
  have := (Reads.foldlM (assignTarget_reads P) tgts s).bind (evs2 := fun _ => [])
    (Q2 := ∀ t ∈ tgts, isInoutVar P t = false) (S2 := ∃ t ∈ tgts, isInoutVar P t = true)
    (g := fun s => if tgts.any (isInoutVar P) then .error .borrowShadowed else .ok s) fun s1 => by
      split
      · rename_i hc
        exact Or.inl ⟨nofun, by simpa using hc⟩
      · rename_i hc
        exact ⟨by simpa using hc, rfl, rfl, fun _ => rfl⟩
  simp only [List.append_nil] at this
  exact this.mono And.right (Or.elim · id id)

theorem checkStmt_reads (P : Prog) (s : Scope) (st : Stmt) :
    Reads s (fun l => st.evs l) (st.StaticOK P) (¬ st.StaticOK P) (checkStmt P s st) := by
  unfold checkStmt
  refine ((Reads.foldlM (doAct_reads P) st.acts s).bind
    (Q2 := st.dropsLin = false ∧ ∀ t ∈ st.tgts, isInoutVar P t = false)
    (S2 := st.dropsLin = true ∨ ∃ t ∈ st.tgts, isInoutVar P t = true) fun s1 => ?_).mono ?_ ?_
  · split
    · rename_i hd
      exact Or.inl ⟨nofun, Or.inl hd⟩
    · rename_i hd
      exact (assignTargets_reads P s1 st.tgts).mono (fun h => ⟨by simpa using hd, h⟩) Or.inr
  · exact fun ⟨h1, h2, h3⟩ => ⟨h1, h3, h2⟩
  · rintro (⟨a, ha, hn⟩ | hd | ⟨t, ht, hi⟩) ⟨h1, h2, h3⟩
    · exact hn (h1 a ha)
    · rw [h3] at hd; cases hd
    · rw [h2 t ht] at hi; cases hi

theorem checkBlock_reads (P : Prog) (b : Blk) :
    Reads (initScope P b) (fun l => (P.stmts b).flatMap (Stmt.evs l)) (∀ st ∈ P.stmts b, st.StaticOK P)
      (∃ st ∈ P.stmts b, ¬ st.StaticOK P) (checkBlock P b) :=
  Reads.foldlM (checkStmt_reads P) (P.stmts b) _

end GuppyVerif.Linearity
