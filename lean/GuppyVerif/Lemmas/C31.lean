import GuppyVerif.Spec.C31
/-! The round trip. Stage 1: every printed component is an `ItemOK` item (`parseToks_print`). Stage 2:
`read_ty` maps `astTy t` (arbitrary where `WFTy` fails) to `normTy t`. Then `beq_norm_ty`, `cls_norm`. -/
namespace GuppyVerif.Print

/-! ## Stage 1: `parseExpr` / `parseItems` / `parseMore` on comma lists of items -/

/-- the continuation of an item never starts with `[`: an identifier followed by `[` is read as a subscript -/
def NoBrack (rest : List Tok) : Prop := rest.head? ≠ some .lbrack

theorem parseExpr_ident (f : Nat) (s : String) (v : Option Nat) (rest : List Tok) (h : NoBrack rest) :
    parseExpr (f + 1) (.ident s v :: rest) = .ok (.name s, rest) := by
  cases rest with
  | nil => rfl
  | cons t r => cases t <;> first | rfl | exact absurd rfl h

def closeTok (br : Bool) : Tok := if br then .rbrack else .rpar

@[simp] theorem isClose_closeTok (br : Bool) : isClose br (closeTok br) = true := by
  cases br <;> rfl

abbrev Item := List Tok × Ast

/-- the item starts with a token that opens an expression, and `parseExpr` reads it back whatever
    follows (as long as that is not a `[`). Every call of the parser consumes a token, so any fuel above the
    number of tokens will do; `parseToks` supplies `length + 1`. -/
def ItemOK (it : Item) : Prop :=
  (∃ t r, it.1 = t :: r ∧ (∀ br, isClose br t = false) ∧ t ≠ .comma) ∧
    ∀ g rest, it.1.length < g → NoBrack rest → parseExpr g (it.1 ++ rest) = .ok (it.2, rest)

/-- `", ".join` -/
def joinToks : List (List Tok) → Bool → List Tok
  | [], _ => []
  | x :: xs, sep => sepToks sep ++ x ++ joinToks xs true

theorem ItemOK.head {ts : List Tok} {a : Ast} (h : ItemOK (ts, a)) :
    ∃ t r, ts = t :: r ∧ ∀ br, isClose br t = false :=
  let ⟨⟨t, r, h1, h2, _⟩, _⟩ := h; ⟨t, r, h1, h2⟩

theorem ItemOK.parse {ts : List Tok} {a : Ast} (h : ItemOK (ts, a)) {n : Nat} {rest : List Tok}
    (hn : ts.length < n) (hr : NoBrack rest) : parseExpr n (ts ++ rest) = .ok (a, rest) :=
  h.2 n rest hn hr

theorem joinToks_cons_true (x : List Tok) (xs : List (List Tok)) :
    joinToks (x :: xs) true = .comma :: (x ++ joinToks xs true) := rfl

theorem joinToks_cons_false (x : List Tok) (xs : List (List Tok)) :
    joinToks (x :: xs) false = x ++ joinToks xs true := rfl

theorem parseMore_close (n : Nat) (br : Bool) (rest : List Tok) :
    parseMore (n + 1) br (closeTok br :: rest) = .ok ([], false, rest) := by
  cases br <;> rfl

theorem parseMore_comma_close (n : Nat) (br : Bool) (rest : List Tok) :
    parseMore (n + 1) br (.comma :: closeTok br :: rest) = .ok ([], true, rest) := by
  cases br <;> rfl

theorem parseMore_comma_item {n : Nat} {br b : Bool} {t : Tok} {rest r1 r2 : List Tok} {e : Ast}
    {es : List Ast} (h : isClose br t = false) (h1 : parseExpr n (t :: rest) = .ok (e, r1))
    (h2 : parseMore n br r1 = .ok (es, b, r2)) :
    parseMore (n + 1) br (.comma :: t :: rest) = .ok (e :: es, true, r2) := by
  simp only [parseMore, h, Bool.false_eq_true, ↓reduceIte, h1, h2]

theorem parseItems_item {n : Nat} {br b : Bool} {t : Tok} {rest r1 r2 : List Tok} {e : Ast}
    {es : List Ast} (h : isClose br t = false) (h1 : parseExpr n (t :: rest) = .ok (e, r1))
    (h2 : parseMore n br r1 = .ok (es, b, r2)) :
    parseItems (n + 1) br (t :: rest) = .ok (e :: es, b, r2) := by
  simp only [parseItems, h, Bool.false_eq_true, ↓reduceIte, h1, h2]

theorem noBrack_tail (xs : List (List Tok)) (tr br : Bool) (rest : List Tok) :
    NoBrack (joinToks xs true ++ (sepToks tr ++ closeTok br :: rest)) := by
  cases xs with
  | nil => cases tr <;> cases br <;> exact nofun
  | cons x xs => exact nofun

/-- The flag `parseMore` returns says that a comma was read, trailing or not: `true` as soon as there is an item. -/
theorem parseMore_join {α} (f : α → List Tok) (g : α → Ast) (xs : List α)
    (hok : ∀ x ∈ xs, ItemOK (f x, g x)) :
    ∀ (n : Nat) (br tr : Bool) (rest : List Tok), (joinToks (xs.map f) true).length + 1 < n →
      parseMore n br (joinToks (xs.map f) true ++ (sepToks tr ++ closeTok br :: rest))
        = .ok (xs.map g, !xs.isEmpty || tr, rest) := by
  induction xs with
  | nil =>
    intro n br tr rest hn
    obtain ⟨n, rfl⟩ := Nat.exists_eq_add_one_of_ne_zero (Nat.ne_of_gt (Nat.zero_lt_of_lt hn))
    cases tr
    · exact parseMore_close n br rest
    · exact parseMore_comma_close n br rest
  | cons x xs ih =>
    intro n br tr rest hn
    obtain ⟨n, rfl⟩ := Nat.exists_eq_add_one_of_ne_zero (Nat.ne_of_gt (Nat.zero_lt_of_lt hn))
    have hx := hok x List.mem_cons_self
    obtain ⟨t, r, htr, hcl⟩ := hx.head
    rw [List.map_cons, joinToks_cons_true, List.length_cons, List.length_append] at hn
    have h1 := hx.parse (n := n) (by omega) (noBrack_tail (xs.map f) tr br rest)
    have h2 := ih (fun y hy => hok y (List.mem_cons_of_mem _ hy)) n br tr rest (by omega)
    rw [htr] at h1
    rw [List.map_cons, joinToks_cons_true, htr, List.cons_append, List.append_assoc]
    exact parseMore_comma_item (hcl br) h1 h2

theorem parseItems_join {α} (f : α → List Tok) (g : α → Ast) (xs : List α)
    (hok : ∀ x ∈ xs, ItemOK (f x, g x)) (n : Nat) (br tr : Bool) (rest : List Tok)
    (htr : xs = [] → tr = false) (hn : (joinToks (xs.map f) false).length + 1 < n) :
    parseItems n br (joinToks (xs.map f) false ++ (sepToks tr ++ closeTok br :: rest))
      = .ok (xs.map g, decide (2 ≤ xs.length) || tr, rest) := by
  obtain ⟨n, rfl⟩ := Nat.exists_eq_add_one_of_ne_zero (Nat.ne_of_gt (Nat.zero_lt_of_lt hn))
  cases xs with
  | nil => rw [htr rfl]; cases br <;> rfl
  | cons x xs =>
    have hx := hok x List.mem_cons_self
    obtain ⟨t, r, h1, hcl⟩ := hx.head
    rw [List.map_cons, joinToks_cons_false, List.length_append] at hn
    have e1 := hx.parse (n := n) (by omega) (noBrack_tail (xs.map f) tr br rest)
    rw [h1, List.length_cons] at hn
    have e2 := parseMore_join f g xs (fun y hy => hok y (List.mem_cons_of_mem _ hy)) n br tr rest (by omega)
    rw [h1, List.cons_append] at e1
    rw [List.map_cons, joinToks_cons_false, h1, List.append_assoc, List.cons_append,
      parseItems_item (hcl br) e1 e2]
    cases xs <;> rfl

def astConst : Const → Ast
  | .val _ (.int v) => .cNat v.toNat
  | .val _ (.bool b) => .cBool b
  | .val _ (.float r) => .cFloat r
  | .val _ (.other _) => .cNone
  | .bvar _ n _ => .name n
  | .evar _ n _ => .name n

def soleTuple (as : List Arg) : Bool := !(soleTupleComma as).isEmpty

mutual
def astTy : Ty → Ast
  | .num k => .name (kindName k)
  | .none _ => .cNone
  | .bvar n _ _ _ => .name n
  | .evar n _ _ _ => .name n
  | .tuple ts _ => .tuple (astTys ts)
  | .func .. => .cNone
  | .opaque n as =>
      if as.isEmpty then .name n
      else .sub (.name n) (groupAst (astArgs as) (decide (2 ≤ as.length) || soleTuple as))
  | .struct n as _ =>
      if as.isEmpty then .name n
      else .sub (.name n) (groupAst (astArgs as) (decide (2 ≤ as.length) || soleTuple as))
def astTys : List Ty → List Ast
  | [] => []
  | t :: ts => astTy t :: astTys ts
def astArg : Arg → Ast
  | .ty t => astTy t
  | .const c => astConst c
def astArgs : List Arg → List Ast
  | [] => []
  | a :: as => astArg a :: astArgs as
end

theorem astTys_eq_map (ts : List Ty) : astTys ts = ts.map astTy := by
  induction ts with
  | nil => simp [astTys]
  | cons t ts ih => simp [astTys, ih]

theorem astArgs_eq_map (as : List Arg) : astArgs as = as.map astArg := by
  induction as with
  | nil => simp [astArgs]
  | cons t ts ih => simp [astArgs, ih]

theorem soleTupleComma_eq (as : List Arg) : soleTupleComma as = sepToks (soleTuple as) := by
  unfold soleTuple
  unfold soleTupleComma
  split <;> simp [sepToks]

theorem visitTy_struct (st : PState) (n : String) (as : List Arg) (fs : List Ty) (b : Bool) :
    visitTy st (.struct n as fs) b = visitTy st (.opaque n as) b := by
  simp only [visitTy]

theorem astTy_struct (n : String) (as : List Arg) (fs : List Ty) : astTy (.struct n as fs) = astTy (.opaque n as) := by
  simp only [astTy]

theorem visitConst_state (W : World) (st : PState) (c : Const) (h : WFConst W c) :
    (visitConst st c).2 = st := by
  cases c with
  | evar => exact h.elim
  | _ => rfl

theorem visitTy_named_state (st : PState) (n : String) (as : List Arg) (b : Bool)
    (h : (visitArgs st false as).2 = st) : (visitTy st (.opaque n as) b).2 = st := by
  simp only [visitTy]
  split
  · rfl
  · exact h

mutual
theorem visitTy_state (W : World) : (t : Ty) → ∀ (st : PState) (b : Bool), WFTy W t → (visitTy st t b).2 = st
  | .num _, _, _, _ => rfl
  | .none _, _, _, _ => rfl
  | .bvar .., _, _, _ => rfl
  | .evar .., _, _, h => h.elim
  | .func .., _, _, h => h.elim
  | .tuple ts _, st, _, h => visitTys_state W ts st false h
  | .opaque n as, st, b, h => visitTy_named_state st n as b (visitArgs_state W as st false h.1)
  | .struct n as fs, st, b, h => by
      rw [visitTy_struct]
      exact visitTy_named_state st n as b (visitArgs_state W as st false h.1)
theorem visitTys_state (W : World) : (ts : List Ty) → ∀ (st : PState) (sep : Bool), WFTys W ts →
    (visitTys st sep ts).2 = st
  | [], _, _, _ => rfl
  | t :: ts, st, _, h => by
      show (visitTys (visitTy st t true).2 true ts).2 = st
      rw [visitTy_state W t st true h.1]
      exact visitTys_state W ts st true h.2
theorem visitArg_state (W : World) : (a : Arg) → ∀ (st : PState), WFArg W a → (visitArg st a).2 = st
  | .ty t, st, h => visitTy_state W t st true h
  | .const c, st, h => visitConst_state W st c h
theorem visitArgs_state (W : World) : (as : List Arg) → ∀ (st : PState) (sep : Bool), WFArgs W as →
    (visitArgs st sep as).2 = st
  | [], _, _, _ => rfl
  | a :: as, st, _, h => by
      show (visitArgs (visitArg st a).2 true as).2 = st
      rw [visitArg_state W a st h.1]
      exact visitArgs_state W as st true h.2
end

theorem visitTys_toks (W : World) (st : PState) : ∀ (ts : List Ty) (sep : Bool), WFTys W ts →
    (visitTys st sep ts).1 = joinToks (ts.map fun t => (visitTy st t true).1) sep := by
  intro ts
  induction ts with
  | nil => intro sep _; simp [visitTys, joinToks]
  | cons t ts ih =>
    intro sep h
    simp only [WFTys] at h
    simp only [visitTys, List.map_cons, joinToks]
    rw [visitTy_state W t st true h.1, ih true h.2]

theorem visitArgs_toks (W : World) (st : PState) : ∀ (as : List Arg) (sep : Bool), WFArgs W as →
    (visitArgs st sep as).1 = joinToks (as.map fun a => (visitArg st a).1) sep := by
  intro as
  induction as with
  | nil => intro sep _; simp [visitArgs, joinToks]
  | cons a as ih =>
    intro sep h
    simp only [WFArgs] at h
    simp only [visitArgs, List.map_cons, joinToks]
    rw [visitArg_state W a st h.1, ih true h.2]


/-! ## Stage 1 on printed first-order types -/
theorem floatToks_plain (r : String) (h : PlainFloat r) : floatToks r = [.float r] := by
  obtain ⟨h1, h2, h3⟩ := h
  unfold floatToks
  split
  · rename_i cs hcs
    simp [hcs] at h1
  · simp [h2, h3]

theorem itemOK_single (t : Tok) (a : Ast) (hc : ∀ br, isClose br t = false) (hne : t ≠ .comma)
    (hp : ∀ f rest, NoBrack rest → parseExpr (f + 1) (t :: rest) = .ok (a, rest)) :
    ItemOK ([t], a) := by
  refine ⟨⟨t, [], rfl, hc, hne⟩, fun g rest hg hnb => ?_⟩
  obtain ⟨g, rfl⟩ := Nat.exists_eq_add_one_of_ne_zero (Nat.ne_of_gt (Nat.zero_lt_of_lt hg))
  exact hp g rest hnb

theorem itemOK_ident (s : String) (v : Option Nat) : ItemOK ([.ident s v], .name s) :=
  itemOK_single _ _ (fun _ => rfl) nofun fun f rest h => parseExpr_ident f s v rest h

theorem itemOK_const (W : World) (st : PState) (hb : st.bound = []) (c : Const) (h : WFConst W c) :
    ItemOK ((visitConst st c).1, astConst c) := by
  cases c with
  | val ty v =>
    rcases h with ⟨_, n, rfl⟩ | ⟨_, b, rfl⟩ | ⟨_, r, rfl, hr⟩
    · simp only [visitConst, valToks, Int.not_lt.mpr (Int.natCast_nonneg n), ↓reduceIte, astConst]
      exact itemOK_single _ _ (fun _ => rfl) nofun fun _ _ _ => rfl
    · cases b <;> exact itemOK_single _ _ (fun _ => rfl) nofun fun _ _ _ => rfl
    · simp only [visitConst, valToks, floatToks_plain r hr, astConst]
      exact itemOK_single _ _ (fun _ => rfl) nofun fun _ _ _ => rfl
  | bvar ty n i =>
    simp only [visitConst, boundTok, hb, List.getElem?_nil, astConst]
    exact itemOK_ident n _
  | evar ty n i => exact h.elim

theorem groupAst_tuple (es : List Ast) (tr : Bool) (h : es.length ≠ 1 ∨ tr = true) :
    groupAst es tr = .tuple es := by
  unfold groupAst
  split
  · simp at h
  · rfl

theorem itemOK_paren {α} (f : α → List Tok) (g : α → Ast) (xs : List α)
    (hok : ∀ x ∈ xs, ItemOK (f x, g x)) :
    ItemOK (.lpar :: (joinToks (xs.map f) false ++ (sepToks (decide (xs.length = 1)) ++ [.rpar])),
      .tuple (xs.map g)) := by
  refine ⟨⟨.lpar, _, rfl, fun _ => rfl, nofun⟩, fun n rest hn hnb => ?_⟩
  obtain ⟨n, rfl⟩ := Nat.exists_eq_add_one_of_ne_zero (Nat.ne_of_gt (Nat.zero_lt_of_lt hn))
  have h := parseItems_join f g xs hok n false (decide (xs.length = 1)) rest
    (by rintro rfl; rfl) (by simp only [List.length_cons, List.length_append] at hn; omega)
  rw [List.cons_append, List.append_assoc, List.append_assoc, parseExpr,
    show parseItems n false (_ ++ (_ ++ ([.rpar] ++ rest))) = _ from h]
  dsimp only
  rw [groupAst_tuple]
  by_cases h1 : xs.length = 1
  · exact .inr (by simp [h1])
  · exact .inl (by simpa using h1)

theorem itemOK_subscript {α} (f : α → List Tok) (g : α → Ast) (xs : List α)
    (hok : ∀ x ∈ xs, ItemOK (f x, g x)) (name : String) (tr : Bool) (hne : xs ≠ []) :
    ItemOK (.ident name none :: .lbrack :: (joinToks (xs.map f) false ++ (sepToks tr ++ [.rbrack])),
      .sub (.name name) (groupAst (xs.map g) (decide (2 ≤ xs.length) || tr))) := by
  refine ⟨⟨.ident name none, _, rfl, fun _ => rfl, nofun⟩, fun n rest hn hnb => ?_⟩
  obtain ⟨n, rfl⟩ := Nat.exists_eq_add_one_of_ne_zero (Nat.ne_of_gt (Nat.zero_lt_of_lt hn))
  have h := parseItems_join f g xs hok n true tr rest (fun h => absurd h hne)
    (by simp only [List.length_cons, List.length_append] at hn; omega)
  rw [List.cons_append, List.cons_append, List.append_assoc, List.append_assoc, parseExpr,
    show parseItems n true (_ ++ (_ ++ ([.rbrack] ++ rest))) = _ from h]
  cases xs with
  | nil => exact absurd rfl hne
  | cons x xs => rfl

theorem itemOK_tuple (W : World) (st : PState) (ts : List Ty) (p b : Bool) (hts : WFTys W ts)
    (hall : ∀ t ∈ ts, ItemOK ((visitTy st t true).1, astTy t)) :
    ItemOK ((visitTy st (.tuple ts p) b).1, astTy (.tuple ts p)) := by
  have e : (visitTy st (.tuple ts p) b).1 = .lpar :: (joinToks (ts.map fun t => (visitTy st t true).1)
      false ++ (sepToks (decide (ts.length = 1)) ++ [.rpar])) := by
    simp only [visitTy, visitTys_toks W st ts false hts, sepToks, decide_eq_true_eq, List.cons_append,
      List.append_assoc]
  rw [e, astTy, astTys_eq_map]
  exact itemOK_paren _ astTy ts hall

theorem itemOK_named (W : World) (st : PState) (n : String) (as : List Arg) (b : Bool)
    (hwf : WFArgs W as) (hall : ∀ a ∈ as, ItemOK ((visitArg st a).1, astArg a)) :
    ItemOK ((visitTy st (.opaque n as) b).1, astTy (.opaque n as)) := by
  cases as with
  | nil => exact itemOK_ident n none
  | cons a as =>
    have e : (visitTy st (.opaque n (a :: as)) b).1 = .ident n none :: .lbrack ::
        (joinToks ((a :: as).map fun a => (visitArg st a).1) false ++
          (sepToks (soleTuple (a :: as)) ++ [.rbrack])) := by
      simp only [visitTy, List.isEmpty_cons, Bool.false_eq_true, ↓reduceIte,
        visitArgs_toks W st _ false hwf, soleTupleComma_eq, List.cons_append, List.append_assoc]
    rw [e, astTy, List.isEmpty_cons, if_neg Bool.false_ne_true, astArgs_eq_map]
    exact itemOK_subscript _ astArg (a :: as) hall n _ (List.cons_ne_nil _ _)

mutual
theorem itemOK_ty (W : World) (st : PState) (hb : st.bound = []) :
    (t : Ty) → (b : Bool) → WFTy W t → ItemOK ((visitTy st t b).1, astTy t)
  | .num k, _, _ => itemOK_ident _ _
  | .none _, _, _ => itemOK_single _ _ (fun _ => rfl) nofun fun _ _ _ => rfl
  | .bvar n i _ _, _, _ => by
      simp only [visitTy, astTy, boundTok, hb, List.getElem?_nil]
      exact itemOK_ident n _
  | .evar .., _, h => h.elim
  | .func .., _, h => h.elim
  | .tuple ts p, b, h => itemOK_tuple W st ts p b h (itemOK_tys W st hb ts h)
  | .opaque n as, b, h => itemOK_named W st n as b h.1 (itemOK_args W st hb as h.1)
  | .struct n as fs, b, h => by
      rw [visitTy_struct, astTy_struct]
      exact itemOK_named W st n as b h.1 (itemOK_args W st hb as h.1)
theorem itemOK_tys (W : World) (st : PState) (hb : st.bound = []) :
    (ts : List Ty) → WFTys W ts → ∀ t ∈ ts, ItemOK ((visitTy st t true).1, astTy t)
  | [], _ => nofun
  | t :: ts, h => List.forall_mem_cons.mpr ⟨itemOK_ty W st hb t true h.1, itemOK_tys W st hb ts h.2⟩
theorem itemOK_arg (W : World) (st : PState) (hb : st.bound = []) :
    (a : Arg) → WFArg W a → ItemOK ((visitArg st a).1, astArg a)
  | .ty t, h => itemOK_ty W st hb t true h
  | .const c, h => itemOK_const W st hb c h
theorem itemOK_args (W : World) (st : PState) (hb : st.bound = []) :
    (as : List Arg) → WFArgs W as → ∀ a ∈ as, ItemOK ((visitArg st a).1, astArg a)
  | [], _ => nofun
  | a :: as, h => List.forall_mem_cons.mpr ⟨itemOK_arg W st hb a h.1, itemOK_args W st hb as h.2⟩
end

theorem parseToks_print (W : World) (t : Ty) (h : WFTy W t) : parseToks (printToks t) = .ok (astTy t) := by
  have := (itemOK_ty W .init rfl t false h).parse (rest := []) (Nat.lt_succ_self _) nofun
  rw [List.append_nil] at this
  rw [parseToks, printToks, this]
/-! ## Stage 2 on the denoted expressions -/
theorem argsFit_length (cd : Classifier) : ∀ (ps : List Param) (as : List Arg), ArgsFit cd ps as →
    ps.length = as.length
  | [], [], _ => rfl
  | [], _ :: _, h => by simp [ArgsFit] at h
  | _ :: _, [], h => by simp [ArgsFit] at h
  | _ :: ps, _ :: as, h => by
      simp only [ArgsFit] at h
      simp [argsFit_length cd ps as h.2]

theorem normArgs_length (as : List Arg) : (normArgs as).length = as.length := by
  induction as with
  | nil => simp [normArgs]
  | cons a as ih => simp [normArgs, ih]

theorem inst_ground (full : List Arg) (t : Ty) (h : GroundConstTy t) : Ty.inst full t = some t := by
  rcases h with ⟨k, rfl⟩ | rfl
  · simp [Ty.inst]
  · simp [boolTy, Ty.inst, Arg.instList]

theorem unifyEq_ground (t : Ty) (h : GroundConstTy t) : unifyEq t t = true := by
  rcases h with ⟨k, rfl⟩ | rfl
  · simp [unifyEq]
  · simp [boolTy, unifyEq, unifyArgs]

theorem checkArg_fits (cd : Classifier) (hcd : cd.IgnoresPreserve) (full : List Arg) (p : Param) (a : Arg)
    (h : ParamFits cd p a) : checkArg cd full p (normArg a) = .ok () := by
  cases p with
  | ty i n mc md =>
    cases a with
    | ty t =>
      simp only [ParamFits] at h
      simp only [normArg, checkArg, hcd t]
      cases mc <;> cases md <;> simp_all
    | const c => simp [ParamFits] at h
  | const i n pty fc =>
    cases a with
    | ty t => simp [ParamFits] at h
    | const c =>
      simp only [ParamFits] at h
      simp only [normArg, checkArg, inst_ground full pty h.1, h.2, unifyEq_ground pty h.1, ↓reduceIte]

theorem checkEach_fits (cd : Classifier) (hcd : cd.IgnoresPreserve) (full : List Arg) :
    ∀ (ps : List Param) (as : List Arg), ArgsFit cd ps as → checkEach cd full ps (normArgs as) = .ok ()
  | [], [], _ => by simp [checkEach]
  | [], _ :: _, h => by simp [ArgsFit] at h
  | _ :: _, [], h => by simp [ArgsFit] at h
  | p :: ps, a :: as, h => by
      simp only [ArgsFit] at h
      simp only [normArgs, checkEach, checkArg_fits cd hcd full p a h.1]
      exact checkEach_fits cd hcd full ps as h.2

theorem checkAllArgs_fits (cd : Classifier) (hcd : cd.IgnoresPreserve) (ps : List Param) (as : List Arg)
    (h : ArgsFit cd ps as) : checkAllArgs cd ps (normArgs as) = .ok () := by
  simp only [checkAllArgs, normArgs_length, argsFit_length cd ps as h, bne_self_eq_false,
    Bool.false_eq_true, ↓reduceIte]
  exact checkEach_fits cd hcd _ ps as h

def Ast.isTuple : Ast → Bool
  | .tuple _ => true
  | _ => false

theorem argFromAst_sub_single {env : Env} {ctx : Ctx} {cd : Classifier} {s : String} {e : Ast} {d : Defn}
    {a : Arg} (h : e.isTuple = false) (hd : env.defs s = some d) (hp : d.parsesArgs = true)
    (ha : argFromAst env ctx cd e = .ok a) :
    argFromAst env ctx cd (.sub (.name s) e) = instDefn env cd d [a] := by
  rw [argFromAst]
  · simp only [hd, hp, ↓reduceIte, ha]
  · rintro es rfl; cases h

theorem argFromAst_sub_tuple {env : Env} {ctx : Ctx} {cd : Classifier} {s : String} {es : List Ast}
    {d : Defn} {as : List Arg} (hd : env.defs s = some d) (hp : d.parsesArgs = true)
    (ha : argsFromAst env ctx cd es = .ok as) :
    argFromAst env ctx cd (.sub (.name s) (.tuple es)) = instDefn env cd d as := by
  simp only [argFromAst, hd, hp, ↓reduceIte, ha]

theorem soleTuple_two (a b : Arg) (as : List Arg) : soleTuple (a :: b :: as) = false := by
  simp [soleTuple, soleTupleComma]

theorem astConst_isTuple (W : World) (c : Const) (h : WFConst W c) : (astConst c).isTuple = false := by
  cases c with
  | val t v => cases v <;> rfl
  | _ => rfl

theorem astArg_isTuple (a : Arg) (h : soleTuple [a] = false) : (astArg a).isTuple = false := by
  cases a with
  | const c => cases c with
    | val t v => cases v <;> rfl
    | _ => rfl
  | ty t =>
    cases t with
    | tuple ts p => cases h
    | «opaque» n as => cases as <;> rfl
    | struct n as fs => cases as <;> rfl
    | _ => rfl

theorem argFromAst_named (env : Env) (ctx : Ctx) (cd : Classifier) (n : String) (as : List Arg) (d : Defn)
    (hd : env.defs n = some d) (hp : d.parsesArgs = true)
    (h1 : ∀ a ∈ as, argFromAst env ctx cd (astArg a) = .ok (normArg a))
    (hall : argsFromAst env ctx cd (astArgs as) = .ok (normArgs as)) :
    argFromAst env ctx cd (astTy (.opaque n as)) = instDefn env cd d (normArgs as) := by
  match as with
  | [] => simp only [astTy, List.isEmpty_nil, ↓reduceIte, argFromAst, hd, normArgs]
  | [a] =>
    cases hs : soleTuple [a] with
    | true =>
      rw [astTy, List.isEmpty_cons, if_neg Bool.false_ne_true, hs,
        groupAst_tuple _ _ (.inr (Bool.or_true _))]
      exact argFromAst_sub_tuple hd hp hall
    | false =>
      rw [astTy, List.isEmpty_cons, if_neg Bool.false_ne_true, hs]
      exact argFromAst_sub_single (e := astArg a) (astArg_isTuple a hs) hd hp (h1 a List.mem_cons_self)
  | a :: b :: as =>
    rw [astTy, List.isEmpty_cons, if_neg Bool.false_ne_true, groupAst_tuple _ _ (.inl (by simp [astArgs]))]
    exact argFromAst_sub_tuple hd hp hall

theorem mem_head {α} (a : α) (as : List α) : a ∈ a :: as := List.mem_cons_self

mutual
theorem read_ty (W : World) (hcd : W.cd.IgnoresPreserve) :
    (t : Ty) → WFTy W t → argFromAst W.env W.ctx W.cd (astTy t) = .ok (.ty (normTy t))
  | .num k, h => by
      simp only [WFTy] at h
      simp [astTy, argFromAst, h, instDefn, normTy]
  | .none _, _ => rfl
  | .bvar n i c d, h => by
      simp only [WFTy] at h
      simp [astTy, argFromAst, h.1, h.2, toBound, normTy]
  | .evar .., h => h.elim
  | .func .., h => h.elim
  | .tuple ts p, h => by
      simp only [astTy, argFromAst, read_tys W hcd ts h, normTy]
  | .opaque n as, h => by
      obtain ⟨hwf, ps, nc, nd, il, hdef, hl, hfit⟩ := h
      have hil : (il && !W.env.lists) = false := by cases il <;> simp_all
      rw [argFromAst_named _ _ _ n as _ hdef rfl (read_args_each W hcd as hwf) (read_args W hcd as hwf)]
      simp only [instDefn, hil, Bool.false_eq_true, ↓reduceIte, checkAllArgs_fits W.cd hcd ps as hfit, normTy]
  | .struct n as fs, h => by
      obtain ⟨hwf, ps, hdef, hfit⟩ := h
      rw [astTy_struct, argFromAst_named _ _ _ n as _ hdef rfl (read_args_each W hcd as hwf) (read_args W hcd as hwf)]
      simp only [instDefn, checkAllArgs_fits W.cd hcd ps as hfit, normTy]
theorem read_tys (W : World) (hcd : W.cd.IgnoresPreserve) :
    (ts : List Ty) → WFTys W ts → tysFromAst W.env W.ctx W.cd (astTys ts) = .ok (normTys ts)
  | [], _ => rfl
  | t :: ts, h => by
      simp only [astTys, tysFromAst, read_ty W hcd t h.1, asType, read_tys W hcd ts h.2, normTys]
theorem read_arg (W : World) (hcd : W.cd.IgnoresPreserve) :
    (a : Arg) → WFArg W a → argFromAst W.env W.ctx W.cd (astArg a) = .ok (normArg a)
  | .ty t, h => read_ty W hcd t h
  | .const c, h => by
      cases c with
      | val ty v =>
        rcases h with ⟨rfl, n, rfl⟩ | ⟨rfl, b, rfl⟩ | ⟨rfl, r, rfl, _⟩
        · simp [astArg, astConst, argFromAst, normArg]
        · rfl
        · rfl
      | bvar ty n i =>
        obtain ⟨h1, fc, h2⟩ := h
        simp only [astArg, astConst, argFromAst, h1, h2, toBound, normArg]
      | evar ty n i => exact h.elim
theorem read_args (W : World) (hcd : W.cd.IgnoresPreserve) :
    (as : List Arg) → WFArgs W as → argsFromAst W.env W.ctx W.cd (astArgs as) = .ok (normArgs as)
  | [], _ => rfl
  | a :: as, h => by
      simp only [astArgs, argsFromAst, read_arg W hcd a h.1, read_args W hcd as h.2, normArgs]
theorem read_args_each (W : World) (hcd : W.cd.IgnoresPreserve) :
    (as : List Arg) → WFArgs W as → ∀ a ∈ as, argFromAst W.env W.ctx W.cd (astArg a) = .ok (normArg a)
  | [], _ => nofun
  | a :: as, h => List.forall_mem_cons.mpr ⟨read_arg W hcd a h.1, read_args_each W hcd as h.2⟩
end

theorem readToks_print (W : World) (hcd : W.cd.IgnoresPreserve) (t : Ty) (h : WFTy W t) :
    readToks W.env W.ctx W.cd (printToks t) = .ok (normTy t) := by
  simp [readToks, parseToks_print W t h, typeFromAst, read_ty W hcd t h, asType]

/-! ## `normTy t == t` (Python equality ignores `preserve`) -/
mutual
theorem beq_refl_ty : (t : Ty) → Ty.beq t t = true
  | .num _ => by simp [Ty.beq]
  | .none _ => by simp [Ty.beq]
  | .bvar .. => by simp [Ty.beq]
  | .evar .. => by simp [Ty.beq]
  | .tuple ts _ => by simp [Ty.beq, beq_refl_tys ts]
  | .func ins o ps cs => by
      simp [Ty.beq, beq_refl_ins ins, beq_refl_ty o, beq_refl_params ps, beq_refl_consts cs]
  | .opaque _ as => by simp [Ty.beq, beq_refl_args as]
  | .struct _ as _ => by simp [Ty.beq, beq_refl_args as]
theorem beq_refl_tys : (ts : List Ty) → Ty.beqList ts ts = true
  | [] => by simp [Ty.beqList]
  | t :: ts => by simp [Ty.beqList, beq_refl_ty t, beq_refl_tys ts]
theorem beq_refl_in : (i : FuncIn) → FuncIn.beq i i = true
  | .mk t _ => by simp [FuncIn.beq, beq_refl_ty t]
theorem beq_refl_ins : (is : List FuncIn) → FuncIn.beqList is is = true
  | [] => by simp [FuncIn.beqList]
  | i :: is => by simp [FuncIn.beqList, beq_refl_in i, beq_refl_ins is]
theorem beq_refl_arg : (a : Arg) → Arg.beq a a = true
  | .ty t => by simp [Arg.beq, beq_refl_ty t]
  | .const c => by simp [Arg.beq, beq_refl_const c]
theorem beq_refl_args : (as : List Arg) → Arg.beqList as as = true
  | [] => by simp [Arg.beqList]
  | a :: as => by simp [Arg.beqList, beq_refl_arg a, beq_refl_args as]
theorem beq_refl_const : (c : Const) → Const.beq c c = true
  | .val t _ => by simp [Const.beq, beq_refl_ty t]
  | .bvar t _ _ => by simp [Const.beq, beq_refl_ty t]
  | .evar t _ _ => by simp [Const.beq, beq_refl_ty t]
theorem beq_refl_consts : (cs : List Const) → Const.beqList cs cs = true
  | [] => by simp [Const.beqList]
  | c :: cs => by simp [Const.beqList, beq_refl_const c, beq_refl_consts cs]
theorem beq_refl_param : (p : Param) → Param.beq p p = true
  | .ty .. => by simp [Param.beq]
  | .const _ _ t _ => by simp [Param.beq, beq_refl_ty t]
theorem beq_refl_params : (ps : List Param) → Param.beqList ps ps = true
  | [] => by simp [Param.beqList]
  | p :: ps => by simp [Param.beqList, beq_refl_param p, beq_refl_params ps]
end

mutual
theorem beq_norm_ty : (t : Ty) → Ty.beq (normTy t) t = true
  | .num _ => by simp [normTy, Ty.beq]
  | .none _ => by simp [normTy, Ty.beq]
  | .bvar .. => by simp [normTy, Ty.beq]
  | .evar .. => by simp [normTy, Ty.beq]
  | .tuple ts _ => by simp [normTy, Ty.beq, beq_norm_tys ts]
  | .func ins o ps cs => by simp only [normTy]; exact beq_refl_ty _
  | .opaque _ as => by simp [normTy, Ty.beq, beq_norm_args as]
  | .struct _ as _ => by simp [normTy, Ty.beq, beq_norm_args as]
theorem beq_norm_tys : (ts : List Ty) → Ty.beqList (normTys ts) ts = true
  | [] => by simp [normTys, Ty.beqList]
  | t :: ts => by simp [normTys, Ty.beqList, beq_norm_ty t, beq_norm_tys ts]
theorem beq_norm_arg : (a : Arg) → Arg.beq (normArg a) a = true
  | .ty t => by simp [normArg, Arg.beq, beq_norm_ty t]
  | .const c => by simp [normArg, Arg.beq, beq_refl_const c]
theorem beq_norm_args : (as : List Arg) → Arg.beqList (normArgs as) as = true
  | [] => by simp [normArgs, Arg.beqList]
  | a :: as => by simp [normArgs, Arg.beqList, beq_norm_arg a, beq_norm_args as]
end

mutual
theorem cls_norm (nc : String → Bool × Bool) : (t : Ty) → ∀ ρ, cls nc ρ (normTy t) = cls nc ρ t
  | .num _, _ => by simp [normTy]
  | .none _, _ => by simp [normTy, cls]
  | .bvar .., _ => by simp [normTy]
  | .evar .., _ => by simp [normTy]
  | .tuple ts _, ρ => by simp [normTy, cls, clsTys_norm nc ts ρ]
  | .func .., _ => by simp [normTy]
  | .opaque _ as, ρ => by simp [normTy, cls, clsArgs_norm nc as ρ]
  | .struct _ as fs, ρ => by simp [normTy, cls, clsArgs_norm nc as ρ, clsArgList_norm nc as ρ]
theorem clsTys_norm (nc : String → Bool × Bool) : (ts : List Ty) → ∀ ρ, clsTys nc ρ (normTys ts) = clsTys nc ρ ts
  | [], _ => by simp [normTys]
  | t :: ts, ρ => by simp [normTys, clsTys, cls_norm nc t ρ, clsTys_norm nc ts ρ]
theorem clsArgs_norm (nc : String → Bool × Bool) : (as : List Arg) → ∀ ρ, clsArgs nc ρ (normArgs as) = clsArgs nc ρ as
  | [], _ => by simp [normArgs]
  | .ty t :: as, ρ => by simp [normArgs, normArg, clsArgs, cls_norm nc t ρ, clsArgs_norm nc as ρ]
  | .const _ :: as, ρ => by simp [normArgs, normArg, clsArgs, clsArgs_norm nc as ρ]
theorem clsArgList_norm (nc : String → Bool × Bool) : (as : List Arg) → ∀ ρ,
    clsArgList nc ρ (normArgs as) = clsArgList nc ρ as
  | [], _ => by simp [normArgs]
  | .ty t :: as, ρ => by simp [normArgs, normArg, clsArgList, cls_norm nc t ρ, clsArgList_norm nc as ρ]
  | .const _ :: as, ρ => by simp [normArgs, normArg, clsArgList, clsArgList_norm nc as ρ]
end

end GuppyVerif.Print
