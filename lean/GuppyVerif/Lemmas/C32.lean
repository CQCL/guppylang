import GuppyVerif.Spec.C32
/-! The disposition of `(k, f)` reads the visitor tables only through their rows about `k` (and, for kinds without a dispatcher,
    about the kinds that can hold a `k`).  `dispL` cuts those rows out first; `dispL_eq`: it is `disp`. -/
namespace GuppyVerif.C32

def Tables.at (T : Tables) (k : Kind) : Tables :=
  { T with visits := T.visits.filter (·.2.1 = k), reads := T.reads.filter (·.2.1 = k) }

variable (T : Tables) (k : Kind)

theorem visitHow_at (v : Visitor) : visitHow (T.at k) v k = visitHow T v k := by
  simp only [visitHow, Tables.at, List.find?_filter]
  congr 2; funext r; by_cases h : r.2.1 = k <;> simp [h]

theorem stage_at (v : Visitor) (f : Field) : stage (T.at k) v k f = stage T v k f := by
  simp only [stage, readHow, Tables.at, List.any_filter]
  congr 3 <;> (congr 2; funext r; by_cases h : r.2.1 = k <;> simp [h])

theorem stmtDisp_at (f : Field) : stmtDisp (T.at k) k f = stmtDisp T k f := by
  simp only [stmtDisp, visitHow_at, stage_at]; rfl

theorem exprDisp_at (f : Field) : exprDisp (T.at k) k f = exprDisp T k f := by
  simp only [exprDisp, consumer, visitHow_at, stage_at]; rfl

/-- `disp`, each kind looking into `T.at k`.  It exists for the kernel: evaluating `disp` for every field walks the whole of
    `visits` and `reads` a dozen times per field, while the closed term `tables.at k` is evaluated once and shared by all
    fields of `k`, after which each walk is over a handful of rows. -/
def dispL : Nat → Kind → Field → Disp
  | 0, _, _ => .ignored
  | fuel + 1, k, f =>
    match catOf T k with
    | some .stmt => stmtDisp (T.at k) k f
    | some .expr => exprDisp (T.at k) k f
    | some c =>
      match stage (T.at k) .aux k f with
      | .ignored =>
        if (parentsOf T k c).all (fun r => (dispL fuel r.kind r.field).blocked) then .unreachable else .ignored
      | d => d
    | none => .ignored

theorem dispL_eq : ∀ n k f, dispL T n k f = disp T n k f
  | 0, _, _ => rfl
  | n + 1, k, f => by
    unfold dispL disp
    simp only [stmtDisp_at, exprDisp_at, stage_at, dispL_eq n]
    rfl

/-- `coveredB` through `dispL`, on an opened pair: with `p.1` for the kind the kernel would see a different term for every field
    and share nothing between the fields of one kind -/
def coveredL (p : Kind × Field) : Bool :=
  match p with
  | (k, f) =>
    decide (dispL T fuel k f ≠ .ignored) ||
      match grammarGuard k f with
      | some g => (dispL T fuel g.1 g.2).blocked
      | none => false

theorem covered_of_coveredL {p : Kind × Field} (h : coveredL T p = true) : Covered T p.1 p.2 := by
  unfold coveredL at h
  simp only [dispL_eq] at h
  exact (coveredB_iff T p.1 p.2).1 h

end GuppyVerif.C32
