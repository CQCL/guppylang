import GuppyVerif.Lemmas.C12Sound
import GuppyVerif.Lemmas.C12Complete
/-! The literal reading of the flag clause (`norm`, `LinEq`); for assignments that keep linearity
    (`LinInv`) `unify` is sound (`Descends.lin`) and complete (`Reading.lin`) in it; under `NoLinear E` it is identity up to
    flags (`norm_eq_erase`, `Reading.flags`). -/
namespace GuppyVerif.Unify

theorem normList_eq (E : Env) (as : List Tm) : normList E as = as.map (norm E) := by
  induction as with
  | nil => rfl
  | cons a as ih => simp [normList, ih]

theorem copyableArgs_eq (E : Env) (as : List Tm) : copyableArgs E as = as.all (copyable E) := by
  induction as with
  | nil => rfl
  | cons a as ih => simp [copyableArgs, ih]

theorem droppableArgs_eq (E : Env) (as : List Tm) : droppableArgs E as = as.all (droppable E) := by
  induction as with
  | nil => rfl
  | cons a as ih => simp [droppableArgs, ih]

theorem caps_map {E : Env} {f : Tm → Tm} {fh : Head → List Tm → Head} (hf : Hom f fh)
    (hat : ∀ a, f (.atom a) = .atom a) (hfh : ∀ h as, eraseH (fh h as) = eraseH h)
    (hc : ∀ v, copyable E (f (.var v)) = copyable E (.var v))
    (hd : ∀ v, droppable E (f (.var v)) = droppable E (.var v)) :
    ∀ t : Tm, copyable E (f t) = copyable E t ∧ droppable E (f t) = droppable E t := by
  intro t
  induction t using Tm.induct with
  | var v => exact ⟨hc v, hd v⟩
  | atom a => rw [hat]; exact ⟨rfl, rfl⟩
  | node h as ih =>
    have h1 : copyableArgs E (as.map f) = copyableArgs E as := by
      rw [copyableArgs_eq, copyableArgs_eq]; exact List.all_map_congr fun a ha => (ih a ha).1
    have h2 : droppableArgs E (as.map f) = droppableArgs E as := by
      rw [droppableArgs_eq, droppableArgs_eq]; exact List.all_map_congr fun a ha => (ih a ha).2
    have hh := hfh h as
    rw [hf.node]
    generalize fh h as = h' at hh
    cases h <;> cases h' <;> simp [eraseH] at hh <;> simp [copyable, droppable, h1, h2, hh]
  | targ t ih => rw [hf.targ]; simpa [copyable, droppable] using ih
  | carg t _ => rw [hf.carg]; exact ⟨rfl, rfl⟩

theorem normFlags_length (E : Env) : ∀ (fl : List Nat) (as : List Tm), (normFlags E fl as).length = fl.length := by
  intro fl
  induction fl with
  | nil => intro as; cases as <;> rfl
  | cons f fl ih => intro as; cases as <;> simp [normFlags, ih]

theorem eraseH_normH (E : Env) (h : Head) (as : List Tm) : eraseH (normH E h as) = eraseH h := by
  cases h <;> simp [normH, eraseH, normFlags_length]

theorem Hom.norm (E : Env) : Hom (norm E) (normH E) :=
  ⟨fun _ _ => by simp [Unify.norm, normList_eq], fun _ => rfl, fun _ => rfl⟩

theorem linear_norm (E : Env) (t : Tm) : linear E (norm E t) = linear E t := by
  simp [linear, caps_map (.norm E) (fun _ => rfl) (eraseH_normH E) (fun _ => rfl) (fun _ => rfl) t]

theorem LinEq.linear {E : Env} {a b : Tm} (h : LinEq E a b) : linear E a = linear E b := by
  rw [← linear_norm E a, ← linear_norm E b, h]

theorem FlagEq.caps {E : Env} {a b : Tm} (h : FlagEq a b) :
    copyable E a = copyable E b ∧ droppable E a = droppable E b := by
  have e := caps_map (E := E) Hom.erase (fun _ => rfl) (fun h _ => by cases h <;> simp [eraseH]) (fun _ => rfl) (fun _ => rfl)
  rw [← (e a).1, ← (e a).2, ← (e b).1, ← (e b).2, show erase a = erase b from h]
  exact ⟨rfl, rfl⟩

theorem normFlags_map (E : Env) (f : Tm → Tm) : ∀ (fl : List Nat) (as : List Tm),
    (∀ a ∈ as, linear E (f a) = linear E a) → normFlags E fl (as.map f) = normFlags E fl as := by
  intro fl
  induction fl with
  | nil => intro as _; cases as <;> rfl
  | cons g fl ih =>
    intro as h
    cases as with
    | nil => rfl
    | cons a as =>
      simp only [List.map, normFlags]
      rw [h a (by simp), ih as (fun b hb => h b (by simp [hb]))]

theorem normFlags_nil (E : Env) (fl : List Nat) : normFlags E fl [] = List.replicate fl.length 0 := by
  induction fl with
  | nil => rfl
  | cons f fl ih => simp [normFlags, ih, List.replicate_succ]

theorem normFlags_iff (E : Env) : ∀ (f₁ f₂ : List Nat) (as bs : List Tm), f₁.length = f₂.length →
    as.map (linear E) = bs.map (linear E) →
    (normFlags E f₁ as = normFlags E f₂ bs ↔ flagsClash E f₁ f₂ as bs = false)
  | [], [], _, _, _, _ => by simp [normFlags, flagsClash]
  | a :: f₁, b :: f₂, [], [], hl, _ => by simp [normFlags_nil, flagsClash, Nat.succ.inj hl]
  | a :: f₁, b :: f₂, x :: as, y :: bs, hl, hlin => by
    simp only [List.map_cons, List.cons.injEq] at hlin
    have ih := normFlags_iff E f₁ f₂ as bs (Nat.succ.inj hl) hlin.2
    simp only [normFlags, flagsClash, List.cons.injEq, Bool.or_eq_false_iff, ← hlin.1, ih]
    cases linear E x <;> simp

theorem norm_inst {E : Env} {θ : V → Tm} (hθ : LinInv E θ) : ∀ t : Tm,
    norm E (inst θ t) = inst (fun v => norm E (θ v)) (norm E t) := fun t =>
  ((Hom.norm E).comp (.inst θ)).ext ((Hom.inst _).comp (.norm E)) (fun _ => rfl)
    (fun h as => by cases h <;> simp only [normH]; rw [normFlags_map E (inst θ) _ as fun a _ => hθ a]) t fun _ _ => rfl

theorem vars_norm (E : Env) : ∀ t : Tm, (norm E t).vars = t.vars := by
  intro t
  simpa [norm, Tm.vars] using (Hom.norm E).vars (fun _ => rfl) t

theorem erase_norm (E : Env) (t : Tm) : erase (norm E t) = erase t :=
  (Hom.erase.comp (.norm E)).ext .erase (fun _ => rfl) (eraseH_normH E) t fun _ _ => rfl

theorem LinEq.flagEq {E : Env} {a b : Tm} (h : LinEq E a b) : FlagEq a b := by
  unfold FlagEq; rw [← erase_norm E a, ← erase_norm E b, h]

theorem SolvesL.solves {E : Env} {θ : V → Tm} {σ : Subst} (h : SolvesL E θ σ) : Solves θ σ :=
  fun v u hv => (h v u hv).flagEq

/-- the head test on the terms as written decides agreement of the instantiated heads in the literal reading -/
theorem headsOk_iff_normH {E : Env} {θ : V → Tm} (hθ : LinInv E θ) {h₁ h₂ : Head} {as bs : List Tm}
    (hl : as.map (fun a => norm E (inst θ a)) = bs.map (fun a => norm E (inst θ a))) :
    headsOk E h₁ h₂ as bs ↔ normH E h₁ (as.map (inst θ)) = normH E h₂ (bs.map (inst θ)) := by
  cases h₁ <;> cases h₂ <;> simp only [headsOk, eraseH, normH, and_true] <;> try (simp; done)
  rename_i f₁ p₁ f₂ p₂
  have hlin : as.map (linear E) = bs.map (linear E) := by
    simpa [List.map_map, Function.comp_def, linear_norm, hθ _] using congrArg (List.map (linear E)) hl
  rw [normFlags_map E (inst θ) f₁ as (fun a _ => hθ a), normFlags_map E (inst θ) f₂ bs (fun a _ => hθ a)]
  simp only [Head.func.injEq, List.replicate_inj, or_true, and_true]
  constructor
  · rintro ⟨⟨hlen, hp⟩, hc⟩; exact ⟨(normFlags_iff E f₁ f₂ as bs hlen hlin).mpr hc, hp⟩
  · rintro ⟨hf, hp⟩
    have hlen : f₁.length = f₂.length := by simpa [normFlags_length] using congrArg List.length hf
    exact ⟨⟨hlen, hp⟩, (normFlags_iff E f₁ f₂ as bs hlen hlin).mp hf⟩

theorem Descends.lin {E : Env} {θ : V → Tm} (hθ : LinInv E θ) : Descends E θ (norm E) where
  hom := ⟨_, .norm E⟩
  node ok h := by
    simp only [inst, norm, instList_eq, normList_eq, List.map_map, (headsOk_iff_normH hθ h).mp ok]
    exact congrArg _ h

theorem Reading.lin {E : Env} {θ : V → Tm} (hθ : LinInv E θ) : Reading E θ (norm E) where
  hom := ⟨_, .norm E⟩
  flagEq h := LinEq.flagEq h
  node h := by
    simp only [inst, norm, instList_eq, normList_eq, List.map_map, Tm.node.injEq] at h
    exact ⟨(headsOk_iff_normH hθ h.2).mpr h.1, h.2⟩

theorem normFlags_noLinear {E : Env} (hE : NoLinear E) : ∀ (fl : List Nat) (as : List Tm),
    normFlags E fl as = List.replicate fl.length 0
  | [], as => by cases as <;> rfl
  | _ :: fl, [] => normFlags_nil E _
  | _ :: fl, a :: as => by simp [normFlags, hE a, normFlags_noLinear hE fl as, List.replicate_succ]

theorem norm_eq_erase {E : Env} (hE : NoLinear E) (t : Tm) : norm E t = erase t :=
  (Hom.norm E).ext .erase (fun _ => rfl) (fun h as => by cases h <;> simp [normH, eraseH, normFlags_noLinear hE]) t
    fun _ _ => rfl

theorem LinInv.of_noLinear {E : Env} (hE : NoLinear E) (θ : V → Tm) : LinInv E θ := fun x => by rw [hE, hE]

theorem Reading.flags {E : Env} (hE : NoLinear E) (θ : V → Tm) : Reading E θ erase :=
  (funext (norm_eq_erase hE) : norm E = erase) ▸ Reading.lin (LinInv.of_noLinear hE θ)

theorem noLinear_default : NoLinear {} := by
  have hc : ∀ t : Tm, copyable {} t = true := by
    intro t
    induction t using Tm.induct with
    | var v => simp [copyable]
    | atom a => cases a <;> simp [copyable]
    | node h as ih => cases h <;> simp [copyable, copyableArgs_eq, List.all_eq_true.mpr ih]
    | targ t ih => simpa [copyable] using ih
    | carg t _ => simp [copyable]
  intro t
  simp [linear, hc t]

theorem linInv_of_bounds {E : Env} {θ : V → Tm} (hc : ∀ v, copyable E (θ v) = copyable E (.var v))
    (hd : ∀ v, droppable E (θ v) = droppable E (.var v)) : LinInv E θ := by
  intro x
  simp [linear, caps_map (.inst θ) (fun _ => rfl) (fun _ _ => rfl) hc hd x]

end GuppyVerif.Unify
