import GuppyVerif.Lemmas.C14Rel
/-! `Closed` from its table-free part `ClosedH` and `TableOk`, for the three relations `Props/C14` needs. -/
namespace GuppyVerif.CopyDrop
open GuppyVerif

theorem typeBound_tupleOf_cons (h : HTy) (hs : List HTy) :
    typeBound (tupleOf (h :: hs)) = (typeBound h).join (typeBound (tupleOf hs)) := by
  simp [tupleOf, typeBound, typeBoundRows, typeBoundList, join_copyable_right]
theorem requiresDrop_tupleOf_cons (aff : List String) (h : HTy) (hs : List HTy) :
    requiresDrop aff (tupleOf (h :: hs)) = (requiresDrop aff h || requiresDrop aff (tupleOf hs)) := by
  simp [tupleOf, requiresDrop, requiresDropRows, requiresDropList]
theorem typeBound_optionOf (h : HTy) : typeBound (optionOf h) = typeBound h := by
  simp [optionOf, typeBound, typeBoundRows, typeBoundList, join_copyable_right, join_copyable_left]
theorem requiresDrop_optionOf (aff : List String) (h : HTy) :
    requiresDrop aff (optionOf h) = requiresDrop aff h := by
  simp [optionOf, requiresDrop, requiresDropRows, requiresDropList]
theorem typeBound_ext_join1 (e : String) (x : HTy) : typeBound (.ext e .joinArgs [.ty x]) = typeBound x := by
  simp [typeBound, typeBoundArgs, join_copyable_right]
theorem requiresDrop_ext1 (aff : List String) (e : String) (r : ExtRule) (x : HTy) :
    requiresDrop aff (.ext e r [.ty x]) = (aff.contains e || requiresDrop aff x) := by
  simp [requiresDrop, requiresDropArgs]
theorem typeBound_either (ls rs : List HTy) :
    typeBound (.sum [.mk ls, .mk rs]) = (typeBound (tupleOf ls)).join (typeBound (tupleOf rs)) := by
  simp [tupleOf, typeBound, typeBoundRows, join_copyable_right]
theorem requiresDrop_either (aff : List String) (ls rs : List HTy) :
    requiresDrop aff (.sum [.mk ls, .mk rs]) =
      (requiresDrop aff (tupleOf ls) || requiresDrop aff (tupleOf rs)) := by
  simp [tupleOf, requiresDrop, requiresDropRows]
/-- the part of `Closed` that does not look at the table: the type constructors and the HUGR forms the shapes build -/
structure ClosedH (aff : List String) (u : Bool) (R : Bool → Bool → HTy → Prop) : Prop where
  num : ∀ k, R true true (numT k)
  var : ∀ i c d, R c d (.var i (flagB c))
  func : ∀ is os, R true true (.func is os)
  nil : R true true (tupleOf [])
  cons : ∀ {c d h cs ds hs}, R c d h → R cs ds (tupleOf hs) → R (c && cs) (d && ds) (tupleOf (h :: hs))
  structArgs : ∀ {c d hs} (ca da : Bool), R c d (tupleOf hs) →
      R (c && (!u || ca)) (d && (!u || da)) (tupleOf hs)
  static : ∀ {h nc nd}, (typeBound h = .copyable ↔ nc = false) →
      (typeBound h = .linear → nd = false → requiresDrop aff h = true) →
      (typeBound h = .copyable → requiresDrop aff h = false) → R (!nc) (!nd) h
  option : ∀ {c d h}, R c d h → R c d (optionOf h)
  joinExt : ∀ {e c d h}, e ∉ aff → R c d h → R c d (.ext e .joinArgs [.ty h])
  linearExt : ∀ {e d} (args : List HArg), (d = true → e ∈ aff) → R false d (.ext e (.explicit .linear) args)
  either : ∀ {cl dl ls cr dr rs}, R cl dl (tupleOf ls) → R cr dr (tupleOf rs) →
      R (cl && cr) (dl && dr) (.sum [.mk ls, .mk rs])

theorem ClosedH.closed {aff : List String} {D : List OpaqueDef} {u : Bool} {R : Bool → Bool → HTy → Prop}
    (hT : TableOk aff D) (H : ClosedH aff u R) : Closed D u R := { H with  -- the six constructor fields are `H`'s
  static := by
    intro d h hd hs
    obtain ⟨h1, h2, h3⟩ := rowOk_shape (hT d hd) hs
    exact H.static h1 h2 h3
  listOpt := by
    intro d e r c dd h lin hd hs hr
    obtain ⟨rfl, hn, hdn, he⟩ := rowOk_shape (hT d hd) hs
    rw [hn, hdn]
    cases lin
    · exact H.joinExt he hr
    · exact H.joinExt he (H.option hr)
  array := by
    intro d e r c dd h a hd hs _
    obtain ⟨rfl, hn, hdn, he⟩ := rowOk_shape (hT d hd) hs
    rw [hn, hdn]
    exact H.linearExt _ fun _ => he
  staticArray := by
    intro d e r c dd h hd hs hr _
    obtain ⟨rfl, hn, hdn, he⟩ := rowOk_shape (hT d hd) hs
    rw [hn, hdn]
    exact H.joinExt he hr
  underlying := by
    intro d c dd h hd hs hr
    obtain ⟨hn, hdn⟩ := rowOk_shape (hT d hd) hs
    rw [hn, hdn]
    exact hr
  option := by
    intro d c dd h hd hs hr
    obtain ⟨hn, hdn⟩ := rowOk_shape (hT d hd) hs
    rw [hn, hdn]
    exact H.option hr
  either := by
    intro d cl dl ls cr dr rs hd hs h1 h2
    obtain ⟨hn, hdn⟩ := rowOk_shape (hT d hd) hs
    rw [hn, hdn]
    exact (H.either h1 h2 :)
  ext1 := by
    intro d e r c dd h hd hs _
    obtain ⟨rfl, hn, hdn⟩ := rowOk_shape (hT d hd) hs
    rw [hn, hdn]
    exact H.linearExt _ nofun }

def CopyableSound (aff : List String) (c _d : Bool) (h : HTy) : Prop :=
  c = true → typeBound h = .copyable ∧ requiresDrop aff h = false

theorem closed_copyableSound {aff : List String} {D : List OpaqueDef} (u : Bool) (hT : TableOk aff D)
    (hA : affOk aff = true) : Closed D u (CopyableSound aff) := ClosedH.closed hT {
  num := by
    intro k _
    simp [affOk] at hA
    cases k <;> simp [numT, typeBound, requiresDrop, requiresDropArgs, hA.1, hA.2]
  var := by
    intro i c d hc; subst hc
    simp [typeBound, requiresDrop, flagB]
  func := by intro is os _; simp [typeBound, requiresDrop]
  nil := fun _ => ⟨rfl, rfl⟩
  cons := by
    intro c d h cs ds hs h1 h2 hc
    simp only [Bool.and_eq_true] at hc
    obtain ⟨a1, a2⟩ := h1 hc.1
    obtain ⟨b1, b2⟩ := h2 hc.2
    rw [typeBound_tupleOf_cons, requiresDrop_tupleOf_cons, a1, a2, b1, b2]
    exact ⟨rfl, rfl⟩
  structArgs := by
    intro c d hs ca da h1 hc
    simp only [Bool.and_eq_true] at hc
    exact h1 hc.1
  static := by
    intro h nc nd h1 _ h3 hc
    have hb := h1.mpr (by simpa using hc)
    exact ⟨hb, h3 hb⟩
  option := by
    intro c d h h1 hc
    rw [typeBound_optionOf, requiresDrop_optionOf]
    exact h1 hc
  joinExt := by
    intro e c d h he h1 hc
    obtain ⟨a1, a2⟩ := h1 hc
    rw [typeBound_ext_join1, requiresDrop_ext1]
    simp [a1, a2, he]
  linearExt := by intro e d args _ hc; cases hc
  either := by
    intro cl dl ls cr dr rs h1 h2 hc
    simp only [Bool.and_eq_true] at hc
    obtain ⟨a1, a2⟩ := h1 hc.1
    obtain ⟨b1, b2⟩ := h2 hc.2
    rw [typeBound_either, requiresDrop_either, a1, a2, b1, b2]
    exact ⟨rfl, rfl⟩ }

def LinearNeedsDrop (aff : List String) (_c d : Bool) (h : HTy) : Prop :=
  d = true → typeBound h = .linear → requiresDrop aff h = true

theorem closed_linearNeedsDrop {aff : List String} {D : List OpaqueDef} (u : Bool) (hT : TableOk aff D) :
    Closed D u (LinearNeedsDrop aff) := ClosedH.closed hT {
  num := by intro k _ hb; cases k <;> simp [numT, typeBound] at hb
  var := by
    intro i c d _ hb
    simp only [typeBound] at hb
    simp [requiresDrop, hb]
  func := by intro is os _ hb; simp [typeBound] at hb
  nil := fun _ hb => nomatch hb
  cons := by
    intro c d h cs ds hs h1 h2 hd hb
    simp only [Bool.and_eq_true] at hd
    rw [typeBound_tupleOf_cons, join_eq_linear] at hb
    rw [requiresDrop_tupleOf_cons, Bool.or_eq_true]
    exact hb.imp (h1 hd.1) (h2 hd.2)
  structArgs := by
    intro c d hs ca da h1 hd hb
    simp only [Bool.and_eq_true] at hd
    exact h1 hd.1 hb
  static := by
    intro h nc nd _ h2 _ hd hb
    exact h2 hb (by simpa using hd)
  option := by
    intro c d h h1 hd hb
    rw [typeBound_optionOf] at hb
    rw [requiresDrop_optionOf]
    exact h1 hd hb
  joinExt := by
    intro e c d h _ h1 hd hb
    rw [typeBound_ext_join1] at hb
    rw [requiresDrop_ext1]
    simp [h1 hd hb]
  linearExt := by
    intro e d args he hd _
    simp [requiresDrop, he hd]
  either := by
    intro cl dl ls cr dr rs h1 h2 hd hb
    simp only [Bool.and_eq_true] at hd
    rw [typeBound_either, join_eq_linear] at hb
    rw [requiresDrop_either, Bool.or_eq_true]
    exact hb.imp (h1 hd.1) (h2 hd.2) }

def BoundImpliesCopyable (c _d : Bool) (h : HTy) : Prop := typeBound h = .copyable → c = true

theorem closed_boundImpliesCopyable {aff : List String} {D : List OpaqueDef} (hT : TableOk aff D) :
    Closed D false BoundImpliesCopyable := ClosedH.closed hT {
  num := by intro k _; rfl
  var := by
    intro i c d hb
    cases c <;> simp_all [typeBound, flagB]
  func := by intro is os _; rfl
  nil := by intro _; rfl
  cons := by
    intro c d h cs ds hs h1 h2 hb
    rw [typeBound_tupleOf_cons, join_eq_copyable] at hb
    simp [h1 hb.1, h2 hb.2]
  structArgs := by
    intro c d hs ca da h1 hb
    simp [h1 hb]
  static := by
    intro h nc nd h1 _ _ hb
    simpa using h1.mp hb
  option := by
    intro c d h h1 hb
    rw [typeBound_optionOf] at hb
    exact h1 hb
  joinExt := by
    intro e c d h _ h1 hb
    rw [typeBound_ext_join1] at hb
    exact h1 hb
  linearExt := by
    intro e d args _ hb
    simp [typeBound] at hb
  either := by
    intro cl dl ls cr dr rs h1 h2 hb
    rw [typeBound_either, join_eq_copyable] at hb
    simp [h1 hb.1, h2 hb.2] }

end GuppyVerif.CopyDrop
