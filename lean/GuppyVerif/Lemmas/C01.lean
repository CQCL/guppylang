import GuppyVerif.Lemmas.Basic
import GuppyVerif.Spec.C01
/-! Place-id geometry, `Ext`/`Ran`, the invariant `Holds`, `popLinear_spec`, `setitem_post`,
    `setitem_none_outside`. Post-conditions in the C01 files are structures over an operation's outcome
    (`SetOk`, `GetOk`, `AcctOk`, `…ListOk` for the children of a place), with one combinator per equation of
    the model function; the mutual inductions over `Ty` / `List Ty` only assemble them. -/
namespace GuppyVerif.DFWiring

theorem Ty.ind {P : Ty → Prop} (leaf : ∀ c d, P (.leaf c d))
    (node : ∀ k cs, (∀ t ∈ cs, P t) → P (.node k cs)) : ∀ t, P t :=
  @Ty.rec P (fun ts => ∀ t ∈ ts, P t) leaf node (fun _ h => nomatch h)
    (fun _ _ h hs _ hm => by cases hm with | head => exact h | tail _ hm => exact hs _ hm)

@[simp] theorem Locals.set_apply (L : Locals) (p q : PlaceId) (w : Wire) :
    (L.set p w) q = if q = p then some w else L q := rfl
@[simp] theorem Locals.pop_apply (L : Locals) (p q : PlaceId) :
    (L.pop p) q = if q = p then none else L q := rfl

theorem foldl_pop_apply (ps : List PlaceId) (L : Locals) (q : PlaceId) :
    (ps.foldl Locals.pop L) q = if q ∈ ps then none else L q := by
  induction ps generalizing L with
  | nil => simp
  | cons a ps ih =>
    simp only [List.foldl_cons, ih, Locals.pop_apply, List.mem_cons]
    by_cases h1 : q ∈ ps <;> by_cases h2 : q = a <;> simp [h1, h2]

theorem popEnclosing_apply (L : Locals) (p q : PlaceId) :
    (popEnclosing L p) q = if q ∈ enclosing p then none else L q := foldl_pop_apply _ _ _

/-! ## geometry of place ids (`p <:+ q`: `q` lies in the subtree of `p`) -/
theorem mem_enclosing {p q : PlaceId} (h : q ∈ enclosing p) : q <:+ p ∧ q.length < p.length := by
  induction p with
  | nil => simp [enclosing] at h
  | cons a p ih =>
    cases p with
    | nil => simp [enclosing] at h
    | cons r rest =>
      simp only [enclosing, List.mem_cons] at h
      rcases h with h | h
      · subst h; exact ⟨List.suffix_cons _ _, by simp⟩
      · have := ih h
        exact ⟨this.1.trans (List.suffix_cons _ _), by simp at this ⊢; omega⟩

theorem enclosing_cons {i : Nat} {p q : PlaceId} (h : q ∈ enclosing (i :: p)) :
    q = p ∨ q ∈ enclosing p := by
  cases p with
  | nil => simp [enclosing] at h
  | cons r rest => simpa [enclosing] using h

theorem ne_of_not_under {p q : PlaceId} (h : ¬ p <:+ q) : q ≠ p :=
  fun e => h (e ▸ List.suffix_refl _)

theorem under_child_trans {i : Nat} {p q : PlaceId} (h : (i :: p) <:+ q) : p <:+ q :=
  (List.suffix_cons i p).trans h

theorem under_child_ne {i : Nat} {p q : PlaceId} (h : (i :: p) <:+ q) : q ≠ p := by
  intro e; subst e
  have := h.length_le; simp at this; omega

theorem under_not_enclosing {p q : PlaceId} (h : p <:+ q) : q ∉ enclosing p := by
  intro e
  have h1 := (mem_enclosing e).2
  have h2 := h.length_le
  omega

theorem under_child_inj {i j : Nat} {p q : PlaceId} (h1 : (i :: p) <:+ q) (h2 : (j :: p) <:+ q) :
    i = j := by
  obtain ⟨a, ha⟩ := h1
  obtain ⟨b, hb⟩ := h2
  have := List.append_inj' (ha.trans hb.symm) (by simp)
  simpa using this.2

theorem grandchild_ne_child {j : Nat} {p q : PlaceId} (hq : (j :: p) <:+ q) (hne : q ≠ j :: p)
    (j' : Nat) : q ≠ j' :: p := by
  rintro rfl
  exact hne (by rw [under_child_inj hq (List.suffix_refl _)])

theorem sub_cons (p : PlaceId) (j : Nat) (s : List Nat) : sub p (j :: s) = sub (j :: p) s := by
  simp [sub]

theorem sub_length (p : PlaceId) (s : List Nat) : (sub p s).length = s.length + p.length := by
  simp [sub]

theorem under_sub (p : PlaceId) (s : List Nat) : p <:+ sub p s := List.suffix_append _ _

theorem at_node_cons {k : Kind} {cs : List Ty} {j : Nat} {s : List Nat} {t' : Ty}
    (h : (Ty.node k cs).at (j :: s) = some t') : ∃ tj, cs[j]? = some tj ∧ tj.at s = some t' := by
  simp only [Ty.at] at h
  cases hc : cs[j]? with
  | none => simp [hc] at h
  | some tj => exact ⟨tj, rfl, by simpa [hc] using h⟩

theorem at_nil {t t' : Ty} (h : t.at [] = some t') : t' = t := by
  cases t <;> simp [Ty.at] at h <;> exact h.symm

theorem evalOps_append (e : Env) (o1 o2 : List Op) :
    evalOps e (o1 ++ o2) = match evalOps e o1 with
      | some e1 => evalOps e1 o2
      | none => none := by
  induction o1 generalizing e with
  | nil => simp [evalOps]
  | cons o os ih =>
    simp only [List.cons_append, evalOps]
    cases evalOp e o with
    | none => rfl
    | some e' => exact ih e'

@[simp] theorem Env.set_apply (e : Env) (w x : Wire) (v : Val) :
    (e.set w v) x = if x = w then some v else e x := rfl

theorem Env.set_of_lt (e : Env) {u k : Nat} (v : Val) {x : Wire} (h : x.node < u) :
    (e.set ⟨u, k⟩ v) x = e x := by
  have : x ≠ ⟨u, k⟩ := by rintro rfl; exact Nat.lt_irrefl _ h
  simp [this]

theorem bindOuts_other (e : Env) (u i : Nat) (vs : List Val) (x : Wire)
    (h : x.node ≠ u ∨ x.port < i) : (e.bindOuts u i vs) x = e x := by
  induction vs generalizing e i with
  | nil => simp [Env.bindOuts]
  | cons v vs ih =>
    simp only [Env.bindOuts]
    rw [ih _ _ (by omega)]
    have hx : x ≠ ⟨u, i⟩ := by
      intro e; subst e; simp at h
    simp [hx]

theorem bindOuts_port (e : Env) (u i : Nat) (vs : List Val) (j : Nat) (hj : j < vs.length) :
    (e.bindOuts u i vs) ⟨u, i + j⟩ = some vs[j] := by
  induction vs generalizing e i j with
  | nil => simp at hj
  | cons v vs ih =>
    simp only [Env.bindOuts]
    cases j with
    | zero => rw [bindOuts_other _ _ _ _ _ (by simp)]; simp
    | succ j =>
      have := ih (e.set ⟨u, i⟩ v) (i + 1) j (by simpa using hj)
      rw [show i + 1 + j = i + (j + 1) by omega] at this
      simpa using this

/-- `n`, `n2`: the wire supply (next node index) before and after -/
structure Ext (env : Env) (n : Nat) (env2 : Env) (n2 : Nat) : Prop where
  le : n ≤ n2
  old : ∀ x : Wire, x.node < n → env2 x = env x

structure Ran (env : Env) (n : Nat) (ops : List Op) (env2 : Env) (n2 : Nat) : Prop
    extends Ext env n env2 n2 where
  eval : evalOps env ops = some env2

section
variable {env env1 env2 : Env} {n n1 n2 : Nat} {o1 o2 : List Op} {w : Wire} {v : Val} {vs : List Val}

theorem Ext.refl (env : Env) (n : Nat) : Ext env n env n := ⟨Nat.le_refl n, fun _ _ => rfl⟩

theorem Ext.trans (h1 : Ext env n env1 n1) (h2 : Ext env1 n1 env2 n2) : Ext env n env2 n2 :=
  ⟨Nat.le_trans h1.le h2.le, fun x hx => by rw [h2.old x (Nat.lt_of_lt_of_le hx h1.le), h1.old x hx]⟩

theorem Ext.wire (hx : Ext env n env1 n1) (hlt : w.node < n) (hv : env w = some v) :
    w.node < n1 ∧ env1 w = some v :=
  ⟨Nat.lt_of_lt_of_le hlt hx.le, by rw [hx.old w hlt]; exact hv⟩

theorem Ran.refl (env : Env) (n : Nat) : Ran env n [] env n := ⟨.refl env n, rfl⟩

theorem Ran.append (h1 : Ran env n o1 env1 n1) (h2 : Ran env1 n1 o2 env2 n2) :
    Ran env n (o1 ++ o2) env2 n2 :=
  ⟨h1.toExt.trans h2.toExt, by rw [evalOps_append, h1.eval]; exact h2.eval⟩

theorem Ran.unpack (hw : env w = some (.tup vs)) :
    Ran env n [.unpack n w vs.length] (env.bindOuts n 0 vs) (n + 1) :=
  ⟨⟨Nat.le_succ n, fun _ hx => bindOuts_other _ _ _ _ _ (Or.inl (Nat.ne_of_lt hx))⟩,
    by simp [evalOps, evalOp, hw]⟩

theorem Ran.make {ws : List Wire} (h : env.all ws = some vs) :
    Ran env n [.make n ws] (env.set ⟨n, 0⟩ (.tup vs)) (n + 1) :=
  ⟨⟨Nat.le_succ n, fun _ hx => Env.set_of_lt _ _ hx⟩, by simp [evalOps, evalOp, h]⟩

end

/-! ## the invariant: place `p : t` is stored as leaves only and denotes `v` under `env` -/
mutual
def Holds (n : Nat) (L : Locals) (env : Env) (p : PlaceId) : Ty → Val → Prop
  | .leaf _ _, v => ∃ w, L p = some w ∧ w.node < n ∧ env w = some v
  | .node _ cs, .tup vs => L p = none ∧ HoldsList n L env p 0 cs vs
  | .node _ _, .atom _ => False
def HoldsList (n : Nat) (L : Locals) (env : Env) (p : PlaceId) (i : Nat) :
    List Ty → List Val → Prop
  | [], [] => True
  | t :: ts, v :: vs => Holds n L env (i :: p) t v ∧ HoldsList n L env p (i + 1) ts vs
  | [], _ :: _ => False
  | _ :: _, [] => False
end

theorem HoldsList_iff (n : Nat) (L : Locals) (env : Env) (p : PlaceId) (i : Nat) (ts : List Ty)
    (vs : List Val) : HoldsList n L env p i ts vs ↔ ts.length = vs.length ∧
      ∀ (j : Nat) (t : Ty), ts[j]? = some t → ∃ v, vs[j]? = some v ∧ Holds n L env ((i + j) :: p) t v :=
  List.zipPred_iff (P := fun i ts vs => HoldsList n L env p i ts vs)
    (R := fun i t v => Holds n L env (i :: p) t v)
    (fun _ => trivial) (fun _ _ _ _ _ => Iff.rfl) (fun _ _ _ h => h) (fun _ _ _ h => h) ts i vs

theorem HasShapes_iff (vs : List Val) (ts : List Ty) : HasShapes vs ts ↔ vs.length = ts.length ∧
      ∀ (j : Nat) (v : Val), vs[j]? = some v → ∃ t, ts[j]? = some t ∧ v.HasShape t :=
  List.zipPred_iff (P := fun _ vs ts => HasShapes vs ts) (R := fun _ v t => v.HasShape t)
    (fun _ => trivial) (fun _ _ _ _ _ => Iff.rfl) (fun _ _ _ h => h) (fun _ _ _ h => h) vs 0 ts

theorem HoldsList.length {n : Nat} {L : Locals} {env : Env} {p : PlaceId} :
    ∀ (ts : List Ty) (i : Nat) (vs : List Val), HoldsList n L env p i ts vs → vs.length = ts.length :=
  fun _ _ _ h => ((HoldsList_iff ..).mp h).1.symm

theorem HasShapes.length : ∀ (vs : List Val) (ts : List Ty), HasShapes vs ts → vs.length = ts.length :=
  fun _ _ h => ((HasShapes_iff ..).mp h).1

theorem Holds.child {n : Nat} {L : Locals} {env : Env} {p : PlaceId} {k : Kind} {cs : List Ty}
    {vs : List Val} (h : Holds n L env p (.node k cs) (.tup vs)) {j : Nat} {tj : Ty}
    (hj : cs[j]? = some tj) : ∃ vj, vs[j]? = some vj ∧ Holds n L env (j :: p) tj vj := by
  simp only [Holds, HoldsList_iff, Nat.zero_add] at h
  exact h.2.2 j tj hj

theorem HoldsList.map {n n' : Nat} {L L' : Locals} {env env' : Env} {p : PlaceId} (ts : List Ty)
    (i : Nat) (vs : List Val)
    (hf : ∀ j tj vj, i ≤ j → ts[j - i]? = some tj → Holds n L env (j :: p) tj vj →
      Holds n' L' env' (j :: p) tj vj)
    (h : HoldsList n L env p i ts vs) : HoldsList n' L' env' p i ts vs := by
  rw [HoldsList_iff] at h ⊢
  refine ⟨h.1, fun j t ht => ?_⟩
  obtain ⟨v, hv, hh⟩ := h.2 j t ht
  exact ⟨v, hv, hf (i + j) t v (Nat.le_add_right ..) (by simpa using ht) hh⟩

theorem Holds.frame {n n' : Nat} {L L' : Locals} {env env' : Env} (hx : Ext env n env' n') (t : Ty) :
    ∀ (p : PlaceId) (v : Val), (∀ q, p <:+ q → L' q = L q) →
      Holds n L env p t v → Holds n' L' env' p t v := by
  induction t using Ty.ind with
  | leaf c d =>
    intro p v hL h
    simp only [Holds] at h ⊢
    obtain ⟨w, h1, h2, h3⟩ := h
    exact ⟨w, by rw [hL p (List.suffix_refl p)]; exact h1, hx.wire h2 h3⟩
  | node k cs ih =>
    intro p v hL h
    cases v with
    | atom _ => simp [Holds] at h
    | tup vs =>
      simp only [Holds] at h ⊢
      exact ⟨by rw [hL p (List.suffix_refl p)]; exact h.1, HoldsList.map cs 0 vs (fun j tj vj _ ht hh =>
        ih tj (List.mem_of_getElem? ht) _ vj (fun q hq => hL q (under_child_trans hq)) hh) h.2⟩

theorem HoldsList.frame {n n' : Nat} {L L' : Locals} {env env' : Env} (hx : Ext env n env' n')
    (ts : List Ty) (p : PlaceId) (i : Nat) (vs : List Val)
    (hL : ∀ j q, i ≤ j → (j :: p) <:+ q → L' q = L q) :
    HoldsList n L env p i ts vs → HoldsList n' L' env' p i ts vs :=
  HoldsList.map ts i vs fun j tj vj hj _ hh => hh.frame hx tj _ vj (hL j · hj)

/-! ## `popLinear`, the loop of `__getitem__` that forgets the linear children -/
structure Popped (L : Locals) (p : PlaceId) (i : Nat) (ts : List Ty) (L2 : Locals) : Prop where
  child : ∀ j t, i ≤ j → ts[j - i]? = some t → L2 (j :: p) = if t.linear then none else L (j :: p)
  other : ∀ q, (∀ j t, i ≤ j → ts[j - i]? = some t → q ≠ j :: p) → L2 q = L q

theorem popLinear_spec : ∀ (ts : List Ty) (L : Locals) (p : PlaceId) (i : Nat),
    (∀ j t, i ≤ j → ts[j - i]? = some t → (L (j :: p)).isSome) →
    ∃ L2, popLinear L p i ts = .ok L2 ∧ Popped L p i ts L2
  | [], L, p, i, _ => ⟨L, rfl, by simp, fun _ _ => rfl⟩
  | t :: ts, L, p, i, hpres => by
    obtain ⟨hp0, hpr⟩ := (List.forall_children_cons i t ts).mp hpres
    obtain ⟨w, hw⟩ := Option.isSome_iff_exists.mp hp0
    -- one step: child `i` is popped if linear, nothing else changes
    generalize hL' : (if t.linear then L.pop (i :: p) else L) = L'
    have step : popLinear L p i (t :: ts) = popLinear L' p (i + 1) ts := by
      subst hL'; simp only [popLinear, hw]; split <;> rfl
    have hi : L' (i :: p) = if t.linear then none else L (i :: p) := by subst hL'; split <;> simp
    have ho : ∀ q, q ≠ i :: p → L' q = L q := fun q hq => by subst hL'; split <;> simp [hq]
    have hne : ∀ j, i + 1 ≤ j → j :: p ≠ i :: p := fun j hj e => by simp at e; omega
    obtain ⟨L2, h1, P⟩ := popLinear_spec ts L' p (i + 1) fun j t' hj ht' => by
      rw [ho _ (hne j hj)]; exact hpr j t' hj ht'
    refine ⟨L2, step ▸ h1, (List.forall_children_cons i t ts).mpr ⟨?_, fun j t' hj ht' => ?_⟩,
      fun q hq => ?_⟩
    · rw [P.other _ (fun j' _ hj' _ => (hne j' hj').symm), hi]
    · rw [P.child j t' hj ht', ho _ (hne j hj)]
    · obtain ⟨hq0, hqr⟩ := (List.forall_children_cons i t ts).mp hq
      rw [P.other q hqr, ho q hq0]

/-! ## `setitem` establishes `Holds` -/

structure SetOk (L : Locals) (n : Nat) (p : PlaceId) (env : Env) (t : Ty) (v : Val)
    (L1 : Locals) (n1 : Nat) (ops : List Op) (env1 : Env) : Prop where
  ran : Ran env n ops env1 n1
  frame : ∀ q, ¬ p <:+ q → q ∉ enclosing p → L1 q = L q
  holds : Holds n1 L1 env1 p t v

def SetPost (L : Locals) (n : Nat) (p : PlaceId) (env : Env) (t : Ty) (v : Val)
    (r : Locals × Nat × List Op) : Prop :=
  ∃ env1, SetOk L n p env t v r.1 r.2.1 r.2.2 env1

structure SetListOk (L : Locals) (n : Nat) (p : PlaceId) (i : Nat) (env : Env) (ts : List Ty)
    (vs : List Val) (L1 : Locals) (n1 : Nat) (ops : List Op) (env1 : Env) : Prop where
  ran : Ran env n ops env1 n1
  frame : ∀ q, (∀ j, i ≤ j → ¬ (j :: p) <:+ q) → q ≠ p → q ∉ enclosing p → L1 q = L q
  holds : HoldsList n1 L1 env1 p i ts vs

def SetListPost (L : Locals) (n : Nat) (p : PlaceId) (i : Nat) (env : Env) (ts : List Ty)
    (vs : List Val) (r : Locals × Nat × List Op) : Prop :=
  n ≤ r.2.1 ∧
  (∀ q, (∀ j, i ≤ j → ¬ (j :: p) <:+ q) → q ≠ p → q ∉ enclosing p → r.1 q = L q) ∧
  ∃ env1, evalOps env r.2.2 = some env1 ∧ HoldsList r.2.1 r.1 env1 p i ts vs ∧
    (∀ x : Wire, x.node < n → env1 x = env x)

section
variable {L L1 L2 : Locals} {n n1 n2 : Nat} {p : PlaceId} {i : Nat} {env env1 env2 : Env} {t : Ty}
  {ts : List Ty} {v : Val} {vs : List Val} {w : Wire} {o1 o2 : List Op}

/-- `SetListPost` is the form `setitemList_post` is stated in; proofs use `SetListOk` -/
theorem setListPost_iff {r : Locals × Nat × List Op} :
    SetListPost L n p i env ts vs r ↔ ∃ env1, SetListOk L n p i env ts vs r.1 r.2.1 r.2.2 env1 :=
  ⟨fun ⟨a1, a2, env1, a3, a4, a5⟩ => ⟨env1, ⟨⟨a1, a5⟩, a3⟩, a2, a4⟩,
    fun ⟨env1, h⟩ => ⟨h.ran.le, h.frame, env1, h.ran.eval, h.holds, h.ran.old⟩⟩

theorem SetOk.leaf {c d : Bool} (hw : env w = some v) (hlt : w.node < n) :
    SetOk L n p env (.leaf c d) v ((popEnclosing L p).set p w) n [] env where
  ran := .refl env n
  frame q hq he := by simp [ne_of_not_under hq, popEnclosing_apply, he]
  holds := by simp only [Holds]; exact ⟨w, by simp, hlt, hw⟩

theorem SetOk.node {k : Kind} {cs : List Ty} (hw : env w = some (.tup vs))
    (hlen : vs.length = cs.length)
    (B : SetListOk (popEnclosing L p) (n + 1) p 0 (env.bindOuts n 0 vs) cs vs L1 n1 o1 env1) :
    SetOk L n p env (.node k cs) (.tup vs) (L1.pop p) n1 (.unpack n w cs.length :: o1) env1 where
  ran := hlen ▸ (Ran.unpack hw).append B.ran
  frame q hq he := by
    have hne := ne_of_not_under hq
    simp only [Locals.pop_apply, hne, ↓reduceIte]
    rw [B.frame q (fun j _ hj => hq (under_child_trans hj)) hne he, popEnclosing_apply]
    simp [he]
  holds := by
    simp only [Holds]
    exact ⟨by simp, B.holds.frame (.refl ..) cs p 0 vs fun j q _ hq => by simp [under_child_ne hq]⟩

theorem SetListOk.nil : SetListOk L n p i env [] [] L n [] env :=
  ⟨.refl env n, fun _ _ _ _ => rfl, trivial⟩

theorem SetListOk.cons (A : SetOk L n (i :: p) env t v L1 n1 o1 env1)
    (B : SetListOk L1 n1 p (i + 1) env1 ts vs L2 n2 o2 env2) :
    SetListOk L n p i env (t :: ts) (v :: vs) L2 n2 (o1 ++ o2) env2 where
  ran := A.ran.append B.ran
  frame q hq hne he := by
    rw [B.frame q (fun j hj => hq j (by omega)) hne he]
    exact A.frame q (hq i (Nat.le_refl i)) fun hin => (enclosing_cons hin).elim hne he
  holds := ⟨A.holds.frame B.ran.toExt t (i :: p) v fun q hq =>
      B.frame q (fun j hj hq' => by have := under_child_inj hq hq'; omega) (under_child_ne hq)
        (under_not_enclosing (under_child_trans hq)),
    B.holds⟩

end

mutual
theorem setitem_post : ∀ (t : Ty) (L : Locals) (n : Nat) (p : PlaceId) (w : Wire) (env : Env)
    (v : Val), env w = some v → w.node < n → v.HasShape t →
    SetPost L n p env t v (setitem L n p false w t)
  | .leaf _ _, L, n, p, w, env, v, hw, hlt, _ => ⟨env, .leaf hw hlt⟩
  | .node _ cs, L, n, p, w, env, .tup vs, hw, hlt, hs => by
    simp only [Val.HasShape] at hs
    obtain ⟨env1, B⟩ := setListPost_iff.mp (setitemList_post cs (popEnclosing L p) (n + 1) p 0 n
      (env.bindOuts n 0 vs) vs (Nat.lt_succ_self n)
      (fun j hj => by simpa using bindOuts_port env n 0 vs j hj) hs)
    exact ⟨env1, .node hw (HasShapes.length vs cs hs) B⟩
  | .node _ _, _, _, _, _, _, .atom _, _, _, hs => by simp [Val.HasShape] at hs
theorem setitemList_post : ∀ (ts : List Ty) (L : Locals) (n : Nat) (p : PlaceId) (i u : Nat)
    (env : Env) (vs : List Val), u < n →
    (∀ j (hj : j < vs.length), env ⟨u, i + j⟩ = some vs[j]) → HasShapes vs ts →
    SetListPost L n p i env ts vs (setitemList L n p i u ts)
  | [], L, n, p, i, u, env, [], _, _, _ => setListPost_iff.mpr ⟨env, .nil⟩
  | t :: ts, L, n, p, i, u, env, v :: vs, hu, hport, hs => by
    simp only [HasShapes] at hs
    obtain ⟨env1, A⟩ := setitem_post t L n (i :: p) ⟨u, i⟩ env v
      (by have := hport 0 (by simp); simpa using this) hu hs.1
    obtain ⟨env2, B⟩ := setListPost_iff.mp (setitemList_post ts _ _ p (i + 1) u env1 vs
      (Nat.lt_of_lt_of_le hu A.ran.le) (fun j hj => by
        rw [A.ran.old _ hu, show i + 1 + j = i + (j + 1) by omega]
        have := hport (j + 1) (by simpa using hj)
        simpa using this) hs.2)
    exact setListPost_iff.mpr ⟨env2, .cons A B⟩
  | [], _, _, _, _, _, _, _ :: _, _, _, hs => by simp [HasShapes] at hs
  | _ :: _, _, _, _, _, _, _, [], _, _, hs => by simp [HasShapes] at hs
end

/-! ## `setitem` and the rest of `locals` (no value hypotheses, any `isRet`) -/
mutual
theorem setitem_none_outside : ∀ (t : Ty) (L : Locals) (n : Nat) (p : PlaceId) (isRet : Bool)
    (w : Wire) (q : PlaceId), ¬ p <:+ q → L q = none → (setitem L n p isRet w t).1 q = none
  | .leaf _ _, L, n, p, isRet, w, q, hq, hL => by
    simp only [setitem, Locals.set_apply, ne_of_not_under hq, ↓reduceIte, popEnclosing_apply, hL]
    split <;> rfl
  | .node _ cs, L, n, p, isRet, w, q, hq, hL => by
    have hne := ne_of_not_under hq
    have hpe : popEnclosing L p q = none := by
      simp only [popEnclosing_apply, hL]; split <;> rfl
    simp only [setitem]
    cases isRet with
    | true => simp [hne, hpe]
    | false =>
      simp only [Bool.false_eq_true, ↓reduceIte, Locals.pop_apply, hne]
      exact setitemList_none_outside cs (popEnclosing L p) (n + 1) p 0 n q hq hpe
theorem setitemList_none_outside : ∀ (ts : List Ty) (L : Locals) (n : Nat) (p : PlaceId)
    (i u : Nat) (q : PlaceId), ¬ p <:+ q → L q = none → (setitemList L n p i u ts).1 q = none
  | [], L, n, p, i, u, q, _, hL => by simpa [setitemList] using hL
  | t :: ts, L, n, p, i, u, q, hq, hL => by
    simp only [setitemList]
    exact setitemList_none_outside ts _ _ p (i + 1) u q hq
      (setitem_none_outside t L n (i :: p) false ⟨u, i⟩ q
        (fun h => hq (under_child_trans h)) hL)
end

theorem setitem_enclosing_none (t : Ty) (L : Locals) (n : Nat) (p : PlaceId) (w : Wire)
    (isRet : Bool) : ∀ q ∈ enclosing p, (setitem L n p isRet w t).1 q = none := by
  intro q hq
  have : (setitem (popEnclosing L p) n p isRet w t).1 q = none :=
    setitem_none_outside t _ n p isRet w q (fun hs => under_not_enclosing hs hq)
      (by simp [popEnclosing_apply, hq])
  have hidem : popEnclosing (popEnclosing L p) p = popEnclosing L p := by
    funext x; simp only [popEnclosing_apply]; split <;> rfl
  cases t with
  | leaf c d => simpa [setitem, hidem] using this
  | node k cs => cases isRet <;> simpa [setitem, hidem] using this

end GuppyVerif.DFWiring
