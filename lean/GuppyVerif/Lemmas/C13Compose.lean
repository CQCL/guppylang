import GuppyVerif.Spec.C13
/-! The `Instantiator` is the identity on closed arguments, and two complete instantiations compose
    (`comp_ty` and its companions over the type family). -/
namespace GuppyVerif.Instantiate
open GuppyVerif

theorem lookTy_full (σ : List Arg) (n : String) (i : Nat) (c d : Bool) :
    lookTy (full σ) false n i c d =
      if i < σ.length then
        match σ[i]? with
        | some (.ty t) => some (some t)
        | _ => none
      else some (some (.bvar n (i - σ.length) c d)) := by
  unfold lookTy full
  simp only [List.length_map, List.getElem?_map]
  split
  · cases h : σ[i]? with
    | none => simp
    | some x => cases x <;> simp
  · rfl

theorem higherRank_of_closed : ∀ (as : List Arg), argClosedL as = true → higherRank as = false
  | [], _ => rfl
  | a :: as, h => by
    simp only [argClosedL, Bool.and_eq_true] at h
    have ih := higherRank_of_closed as h.2
    unfold higherRank at ih ⊢
    simp only [List.any_cons, ih, Bool.or_false]
    cases a with
    | const c => rfl
    | ty t =>
      cases t with
      | func ins o ps cs =>
        cases ps with
        | nil => rfl
        | cons p ps => simp [argClosed, tyClosed] at h
      | _ => rfl

theorem rootC_nonvar (σ : PInst) (ap : Bool) (t : Ty) (h : tyClosed t = true) : rootC σ ap t = some t := by
  cases t with
  | bvar n i c d => simp [tyClosed] at h
  | func ins o ps cs =>
    simp only [tyClosed, Bool.and_eq_true] at h
    simp [rootC, h.1.1.1]
  | _ => rfl

/-! A const is a leaf for the `Instantiator`: its type is rewritten at the root only. -/
theorem instConst_closed (σ : PInst) (ap : Bool) : ∀ (t : Const), constClosed t = true → instConst σ ap t = some t
  | .val _ _, _ => rfl
  | .bvar _ _ _, h => nomatch h
  | .evar t n i, h => by
    simp only [constClosed] at h
    simp [instConst, rootC_nonvar σ ap t h]
theorem instConstL_closed (σ : PInst) (ap : Bool) : ∀ (ts : List Const), constClosedL ts = true → instConstL σ ap ts = some ts
  | [], _ => rfl
  | t :: ts, h => by
    simp only [constClosedL, Bool.and_eq_true] at h
    simp [instConstL, instConst_closed σ ap t h.1, instConstL_closed σ ap ts h.2]

mutual
theorem instTy_closed (σ : PInst) (ap : Bool) : ∀ (t : Ty), tyClosed t = true → instTy σ ap t = some t
  | .num _, _ | .none _, _ | .evar _ _ _ _, _ => rfl
  | .bvar _ _ _ _, h => nomatch h
  | .tuple ts p, h => by
    simp only [tyClosed] at h
    simp [instTy, instTyL_closed σ ap ts h]
  | .func ins o ps cs, h => by
    simp only [tyClosed, Bool.and_eq_true] at h
    simp [instTy, List.isEmpty_iff.mp h.1.1.1, instInL_closed σ ap ins h.1.1.2, instTy_closed σ ap o h.1.2,
      instConstL_closed σ ap cs h.2]
  | .opaque n as, h => by
    simp only [tyClosed] at h
    simp [instTy, instArgL_closed σ ap as h, higherRank_of_closed as h]
  | .struct n as fs, h => by
    simp only [tyClosed] at h
    simp [instTy, instArgL_closed σ ap as h, higherRank_of_closed as h]
theorem instTyL_closed (σ : PInst) (ap : Bool) : ∀ (ts : List Ty), tyClosedL ts = true → instTyL σ ap ts = some ts
  | [], _ => rfl
  | t :: ts, h => by
    simp only [tyClosedL, Bool.and_eq_true] at h
    simp [instTyL, instTy_closed σ ap t h.1, instTyL_closed σ ap ts h.2]
theorem instIn_closed (σ : PInst) (ap : Bool) : ∀ (t : FuncIn), inClosed t = true → instIn σ ap t = some t
  | .mk t f, h => by
    simp only [inClosed] at h
    simp [instIn, instTy_closed σ ap t h]
theorem instInL_closed (σ : PInst) (ap : Bool) : ∀ (ts : List FuncIn), inClosedL ts = true → instInL σ ap ts = some ts
  | [], _ => rfl
  | t :: ts, h => by
    simp only [inClosedL, Bool.and_eq_true] at h
    simp [instInL, instIn_closed σ ap t h.1, instInL_closed σ ap ts h.2]
theorem instArg_closed (σ : PInst) (ap : Bool) : ∀ (t : Arg), argClosed t = true → instArg σ ap t = some t
  | .ty t, h => by
    simp only [argClosed] at h
    simp [instArg, instTy_closed σ ap t h]
  | .const c, h => by
    simp only [argClosed] at h
    simp [instArg, instConst_closed σ ap c h]
theorem instArgL_closed (σ : PInst) (ap : Bool) : ∀ (ts : List Arg), argClosedL ts = true → instArgL σ ap ts = some ts
  | [], _ => rfl
  | t :: ts, h => by
    simp only [argClosedL, Bool.and_eq_true] at h
    simp [instArgL, instArg_closed σ ap t h.1, instArgL_closed σ ap ts h.2]
end

def IsVarAt (k : Nat) : Arg → Prop
  | .ty (.bvar _ j _ _) => j = k
  | .const (.bvar _ _ j) => j = k
  | _ => False

/-- `σ` then `τ` instantiates like `ρ`: each entry of `σ` is closed (`ρ` has it too) or a bare variable `k` (`ρ` has `τ[k]`) -/
structure Rel (σ τ ρ : List Arg) : Prop where
  len : ρ.length = σ.length
  pt : ∀ (i : Nat) (x : Arg), σ[i]? = some x →
    (argClosed x = true ∧ ρ[i]? = some x) ∨ (∃ (k : Nat) (y : Arg), IsVarAt k x ∧ τ[k]? = some y ∧ ρ[i]? = some y)

theorem comp_var {σ τ ρ : List Arg} (R : Rel σ τ ρ) (n : String) (i : Nat) (c d : Bool) (t' : Ty)
    (hi : i < σ.length) (h : instTy (full σ) false (.bvar n i c d) = some t') :
    instTy (full τ) false t' = instTy (full ρ) false (.bvar n i c d) := by
  have hρ : i < ρ.length := R.len ▸ hi
  simp only [instTy, lookTy_full, hi, hρ, ↓reduceIte] at h ⊢
  cases hx : σ[i]? with
  | none => simp [hx] at h
  | some x =>
    cases x with
    | const cc => simp [hx] at h
    | ty s =>
      simp only [hx, Option.some.injEq] at h
      subst h
      rcases R.pt i _ hx with ⟨hc, hr⟩ | ⟨k, y, hv, hτ, hr⟩
      · simp only [argClosed] at hc
        simp [hr, instTy_closed _ _ _ hc]
      · cases s with
        | bvar n' j c' d' =>
          simp only [IsVarAt] at hv
          subst hv
          have hk : j < τ.length := (List.getElem?_eq_some_iff.mp hτ).1
          simp only [instTy, lookTy_full, hk, ↓reduceIte, hτ, hr]
          cases y <;> rfl
        | _ => simp [IsVarAt] at hv

theorem instConst_full_bvar (σ : List Arg) (t : Ty) (n : String) (i : Nat) :
    instConst (full σ) false (.bvar t n i) =
      if i < σ.length then
        match σ[i]? with
        | some (.const c) => some c
        | _ => none
      else some (.bvar t n (i - σ.length)) := by
  simp only [instConst, full, List.length_map, List.getElem?_map]
  split
  · cases h : σ[i]? with
    | none => simp
    | some x => cases x <;> simp
  · rfl

theorem comp_cvar {σ τ ρ : List Arg} (R : Rel σ τ ρ) (t : Ty) (n : String) (i : Nat) (c' : Const)
    (hi : i < σ.length) (h : instConst (full σ) false (.bvar t n i) = some c') :
    instConst (full τ) false c' = instConst (full ρ) false (.bvar t n i) := by
  have hρ : i < ρ.length := R.len ▸ hi
  simp only [instConst_full_bvar, hi, hρ, ↓reduceIte] at h ⊢
  cases hx : σ[i]? with
  | none => simp [hx] at h
  | some x =>
    cases x with
    | ty s => simp [hx] at h
    | const s =>
      simp only [hx, Option.some.injEq] at h
      subst h
      rcases R.pt i _ hx with ⟨hc, hr⟩ | ⟨k, y, hv, hτ, hr⟩
      · simp only [argClosed] at hc
        simp [hr, instConst_closed _ _ _ hc]
      · cases s with
        | bvar t' n' j =>
          simp only [IsVarAt] at hv
          subst hv
          have hk : j < τ.length := (List.getElem?_eq_some_iff.mp hτ).1
          simp only [instConst_full_bvar, hk, ↓reduceIte, hτ, hr]
        | _ => simp [IsVarAt] at hv

theorem rootC_full_bvar (σ : List Arg) (n : String) (i : Nat) (c d : Bool) :
    rootC (full σ) false (.bvar n i c d) =
      if i < σ.length then
        match σ[i]? with
        | some (.ty s) => if tyUnsolved s then none else some s
        | _ => none
      else some (.bvar n (i - σ.length) c d) := by
  simp only [rootC, lookTy_full]
  by_cases hi : i < σ.length
  · simp only [hi, ↓reduceIte]
    cases h : σ[i]? with
    | none => rfl
    | some x => cases x <;> rfl
  · simp [hi, tyUnsolved]

theorem comp_root {σ τ ρ : List Arg} (R : Rel σ τ ρ) (t t1 : Ty) (hs : tyScoped σ.length t = true)
    (h : rootC (full σ) false t = some t1) : rootC (full τ) false t1 = rootC (full ρ) false t := by
  cases t with
  | bvar n i c d =>
    simp only [tyScoped, decide_eq_true_eq] at hs
    have hρ : i < ρ.length := R.len ▸ hs
    simp only [rootC_full_bvar, hs, hρ, ↓reduceIte] at h ⊢
    cases hx : σ[i]? with
    | none => simp [hx] at h
    | some x =>
      cases x with
      | const cc => simp [hx] at h
      | ty s =>
        simp only [hx] at h
        split at h
        · cases h
        · simp only [Option.some.injEq] at h
          subst h
          rename_i hu
          rcases R.pt i _ hx with ⟨hc, hr⟩ | ⟨k, y, hv, hτ, hr⟩
          · simp only [argClosed] at hc
            rw [rootC_nonvar _ _ _ hc]
            simp [hr, hu]
          · cases s with
            | bvar n' j c' d' =>
              simp only [IsVarAt] at hv
              subst hv
              have hk : j < τ.length := (List.getElem?_eq_some_iff.mp hτ).1
              simp only [rootC_full_bvar, hk, ↓reduceIte, hτ, hr]
            | _ => simp [IsVarAt] at hv
  | func ins o ps cs =>
    simp only [rootC] at h ⊢
    split at h
    · cases h; simp [*]
    · cases h
  | num k => cases h; rfl
  | none p => cases h; rfl
  | evar n i c d => cases h; rfl
  | tuple ts p => cases h; rfl
  | «opaque» n as => cases h; rfl
  | struct n as fs => cases h; rfl

section comp
set_option linter.unusedSectionVars false
variable {σ τ ρ : List Arg} (R : Rel σ τ ρ)
include R

theorem comp_const : ∀ (t t' : Const), constScoped σ.length t = true → instConst (full σ) false t = some t' →
    instConst (full τ) false t' = instConst (full ρ) false t
  | .val _ _, t', _, h => by cases h; rfl
  | .bvar t n i, t', hs, h => by
    simp only [constScoped, Bool.and_eq_true, decide_eq_true_eq] at hs
    exact comp_cvar R t n i t' hs.1 h
  | .evar t n i, t', hs, h => by
    simp only [constScoped] at hs
    simp only [instConst] at h
    obtain ⟨t1, h1, ⟨⟩⟩ := Option.bind_eq_some_iff.mp h
    simp only [instConst, comp_root R t t1 hs h1]
theorem comp_constL : ∀ (ts ts' : List Const), constScopedL σ.length ts = true →
    instConstL (full σ) false ts = some ts' → instConstL (full τ) false ts' = instConstL (full ρ) false ts
  | [], ts', _, h => by cases h; rfl
  | t :: ts, ts', hs, h => by
    simp only [constScopedL, Bool.and_eq_true] at hs
    simp only [instConstL] at h
    obtain ⟨t1, h1, h⟩ := Option.bind_eq_some_iff.mp h
    obtain ⟨ts1, h2, ⟨⟩⟩ := Option.bind_eq_some_iff.mp h
    simp only [instConstL, comp_const R t t1 hs.1 h1, comp_constL ts ts1 hs.2 h2]

mutual
theorem comp_ty : ∀ (t t' : Ty), tyScoped σ.length t = true → instTy (full σ) false t = some t' →
    instTy (full τ) false t' = instTy (full ρ) false t
  | .num _, t', _, h | .none _, t', _, h | .evar _ _ _ _, t', _, h => by cases h; rfl
  | .bvar n i c d, t', hs, h => by
    simp only [tyScoped, decide_eq_true_eq] at hs
    exact comp_var R n i c d t' hs h
  | .tuple ts p, t', hs, h => by
    simp only [tyScoped] at hs
    simp only [instTy] at h
    obtain ⟨ts', h1, ⟨⟩⟩ := Option.bind_eq_some_iff.mp h
    simp only [instTy, comp_tyL ts ts' hs h1]
  | .func ins o ps cs, t', hs, h => by
    simp only [tyScoped, Bool.and_eq_true] at hs
    simp only [instTy] at h
    split at h
    · rename_i hps
      obtain ⟨ins', h1, h⟩ := Option.bind_eq_some_iff.mp h
      obtain ⟨o', h2, h⟩ := Option.bind_eq_some_iff.mp h
      obtain ⟨cs', h3, ⟨⟩⟩ := Option.bind_eq_some_iff.mp h
      simp only [instTy, hps, List.isEmpty_nil, ↓reduceIte, comp_inL ins ins' hs.1.1 h1,
        comp_ty o o' hs.1.2 h2, comp_constL R cs cs' hs.2 h3]
    · cases h
  | .opaque n as, t', hs, h => by
    simp only [tyScoped] at hs
    simp only [instTy] at h
    obtain ⟨as', h1, h⟩ := Option.bind_eq_some_iff.mp h
    split at h
    · cases h
    · cases h
      simp only [instTy, comp_argL as as' hs h1]
  | .struct n as fs, t', hs, h => by
    simp only [tyScoped] at hs
    simp only [instTy] at h
    obtain ⟨as', h1, h⟩ := Option.bind_eq_some_iff.mp h
    split at h
    · cases h
    · cases h
      simp only [instTy, comp_argL as as' hs h1]
termination_by structural x => x
theorem comp_tyL : ∀ (ts ts' : List Ty), tyScopedL σ.length ts = true → instTyL (full σ) false ts = some ts' →
    instTyL (full τ) false ts' = instTyL (full ρ) false ts
  | [], ts', _, h => by cases h; rfl
  | t :: ts, ts', hs, h => by
    simp only [tyScopedL, Bool.and_eq_true] at hs
    simp only [instTyL] at h
    obtain ⟨t1, h1, h⟩ := Option.bind_eq_some_iff.mp h
    obtain ⟨ts1, h2, ⟨⟩⟩ := Option.bind_eq_some_iff.mp h
    simp only [instTyL, comp_ty t t1 hs.1 h1, comp_tyL ts ts1 hs.2 h2]
termination_by structural x => x
theorem comp_in : ∀ (t t' : FuncIn), inScoped σ.length t = true → instIn (full σ) false t = some t' →
    instIn (full τ) false t' = instIn (full ρ) false t
  | .mk t f, t', hs, h => by
    simp only [inScoped] at hs
    simp only [instIn] at h
    obtain ⟨t1, h1, ⟨⟩⟩ := Option.bind_eq_some_iff.mp h
    simp only [instIn, comp_ty t t1 hs h1]
termination_by structural x => x
theorem comp_inL : ∀ (ts ts' : List FuncIn), inScopedL σ.length ts = true → instInL (full σ) false ts = some ts' →
    instInL (full τ) false ts' = instInL (full ρ) false ts
  | [], ts', _, h => by cases h; rfl
  | t :: ts, ts', hs, h => by
    simp only [inScopedL, Bool.and_eq_true] at hs
    simp only [instInL] at h
    obtain ⟨t1, h1, h⟩ := Option.bind_eq_some_iff.mp h
    obtain ⟨ts1, h2, ⟨⟩⟩ := Option.bind_eq_some_iff.mp h
    simp only [instInL, comp_in t t1 hs.1 h1, comp_inL ts ts1 hs.2 h2]
termination_by structural x => x
theorem comp_arg : ∀ (t t' : Arg), argScoped σ.length t = true → instArg (full σ) false t = some t' →
    instArg (full τ) false t' = instArg (full ρ) false t
  | .ty t, t', hs, h => by
    simp only [argScoped] at hs
    simp only [instArg] at h
    obtain ⟨t1, h1, ⟨⟩⟩ := Option.bind_eq_some_iff.mp h
    simp only [instArg, comp_ty t t1 hs h1]
  | .const c, t', hs, h => by
    simp only [argScoped] at hs
    simp only [instArg] at h
    obtain ⟨t1, h1, ⟨⟩⟩ := Option.bind_eq_some_iff.mp h
    simp only [instArg, comp_const R c t1 hs h1]
termination_by structural x => x
theorem comp_argL : ∀ (ts ts' : List Arg), argScopedL σ.length ts = true → instArgL (full σ) false ts = some ts' →
    instArgL (full τ) false ts' = instArgL (full ρ) false ts
  | [], ts', _, h => by cases h; rfl
  | t :: ts, ts', hs, h => by
    simp only [argScopedL, Bool.and_eq_true] at hs
    simp only [instArgL] at h
    obtain ⟨t1, h1, h⟩ := Option.bind_eq_some_iff.mp h
    obtain ⟨ts1, h2, ⟨⟩⟩ := Option.bind_eq_some_iff.mp h
    simp only [instArgL, comp_arg t t1 hs.1 h1, comp_argL ts ts1 hs.2 h2]
termination_by structural x => x
end
end comp

end GuppyVerif.Instantiate
