import GuppyVerif.Spec.C13
/-! `bound_vars` collects exactly the occurring variables; what the loop of `partially_monomorphize_args`
    marks (`StepSpec`); what `require_monomorphization` selects. -/
namespace GuppyVerif.Instantiate
open GuppyVerif

mutual
theorem occ_ty (j : Nat) : ∀ (t : Ty), j ∈ tyBV t ↔ OccTy j t
  | .num _ => by simp only [tyBV, List.not_mem_nil, false_iff]; intro h; cases h
  | .none _ => by simp only [tyBV, List.not_mem_nil, false_iff]; intro h; cases h
  | .evar _ _ _ _ => by simp only [tyBV, List.not_mem_nil, false_iff]; intro h; cases h
  | .bvar n i c d => by
    simp only [tyBV, List.mem_singleton]
    constructor
    · intro h; subst h; exact .bvar n j c d
    · intro h; cases h; rfl
  | .tuple ts p => by
    simp only [tyBV, occ_tyL j ts]
    constructor
    · rintro ⟨t, ht, h⟩; exact .tuple ht h
    · intro h; cases h with | tuple ht h => exact ⟨_, ht, h⟩
  | .func ins o ps cs => by
    cases ps with
    | cons p ps =>
      simp only [tyBV, List.isEmpty_cons, Bool.false_eq_true, ↓reduceIte, List.not_mem_nil, false_iff]
      intro h; cases h
    | nil =>
      simp only [tyBV, List.isEmpty_nil, ↓reduceIte, List.mem_append, occ_inL j ins, occ_ty j o,
        occ_constL j cs]
      constructor
      · rintro ((⟨t, f, ht, h⟩ | h) | ⟨c, hc, h⟩)
        · exact .funcIn ht h
        · exact .funcOut h
        · exact .funcC hc h
      · intro h
        cases h with
        | funcIn ht h => exact Or.inl (Or.inl ⟨_, _, ht, h⟩)
        | funcOut h => exact Or.inl (Or.inr h)
        | funcC hc h => exact Or.inr ⟨_, hc, h⟩
  | .opaque n as => by
    simp only [tyBV, occ_argL j as]
    constructor
    · rintro (⟨t, ht, h⟩ | ⟨c, hc, h⟩)
      · exact .opaqueT ht h
      · exact .opaqueC hc h
    · intro h
      cases h with
      | opaqueT ht h => exact Or.inl ⟨_, ht, h⟩
      | opaqueC hc h => exact Or.inr ⟨_, hc, h⟩
  | .struct n as fs => by
    simp only [tyBV, occ_argL j as]
    constructor
    · rintro (⟨t, ht, h⟩ | ⟨c, hc, h⟩)
      · exact .structT ht h
      · exact .structC hc h
    · intro h
      cases h with
      | structT ht h => exact Or.inl ⟨_, ht, h⟩
      | structC hc h => exact Or.inr ⟨_, hc, h⟩
theorem occ_tyL (j : Nat) : ∀ (ts : List Ty), j ∈ tyBVL ts ↔ ∃ t, t ∈ ts ∧ OccTy j t
  | [] => by simp [tyBVL]
  | t :: ts => by
    simp only [tyBVL, List.mem_append, occ_ty j t, occ_tyL j ts, List.mem_cons, exists_eq_or_imp]
theorem occ_inL (j : Nat) : ∀ (ts : List FuncIn), j ∈ inBVL ts ↔ ∃ t f, FuncIn.mk t f ∈ ts ∧ OccTy j t
  | [] => by simp [inBVL]
  | .mk t f :: ts => by
    simp only [inBVL, inBV, List.mem_append, occ_ty j t, occ_inL j ts, List.mem_cons, FuncIn.mk.injEq,
      or_and_right, exists_or, and_assoc, exists_and_left, exists_eq_left]
theorem occ_argL (j : Nat) : ∀ (ts : List Arg), j ∈ argBVL ts ↔
    (∃ t, Arg.ty t ∈ ts ∧ OccTy j t) ∨ (∃ c, Arg.const c ∈ ts ∧ OccConst j c)
  | [] => by simp [argBVL]
  | .ty t :: ts => by
    simp only [argBVL, argBV, List.mem_append, occ_ty j t, occ_argL j ts, List.mem_cons, Arg.ty.injEq,
      reduceCtorEq, false_or, exists_eq_or_imp, or_assoc]
  | .const c :: ts => by
    simp only [argBVL, argBV, List.mem_append, occ_const j c, occ_argL j ts, List.mem_cons, Arg.const.injEq,
      reduceCtorEq, false_or, exists_eq_or_imp, or_left_comm]
theorem occ_const (j : Nat) : ∀ (c : Const), j ∈ constBV c ↔ OccConst j c
  | .val t v => by
    simp only [constBV, occ_ty j t]
    constructor
    · intro h; exact .valTy h
    · intro h; cases h with | valTy h => exact h
  | .bvar t n i => by
    simp only [constBV, List.mem_cons, occ_ty j t]
    constructor
    · rintro (h | h)
      · subst h; exact .self t n j
      · exact .bvarTy h
    · intro h
      cases h with
      | self => exact Or.inl rfl
      | bvarTy h => exact Or.inr h
  | .evar t n i => by
    simp only [constBV, occ_ty j t]
    constructor
    · intro h; exact .evarTy h
    · intro h; cases h with | evarTy h => exact h
theorem occ_constL (j : Nat) : ∀ (ts : List Const), j ∈ constBVL ts ↔ ∃ c, c ∈ ts ∧ OccConst j c
  | [] => by simp [constBVL]
  | c :: ts => by
    simp only [constBVL, List.mem_append, occ_const j c, occ_constL j ts, List.mem_cons, exists_eq_or_imp]
end

theorem setAt?_eq {α : Type} : ∀ (l : List α) (i : Nat) (v : α),
    setAt? l i v = if i < l.length then some (l.set i v) else none
  | [], _, _ => by simp [setAt?]
  | _ :: _, 0, _ => by simp [setAt?]
  | x :: xs, i + 1, v => by simp [setAt?, setAt?_eq xs i v]; split <;> simp

theorem setAt?_spec {α : Type} (l : List α) (i : Nat) (v : α) (l' : List α) (h : setAt? l i v = some l') :
    l'.length = l.length ∧ i < l.length ∧ ∀ j, l'[j]? = if j = i then some v else l[j]? := by
  rw [setAt?_eq] at h
  split at h <;> cases h
  refine ⟨by simp, ‹_›, fun j => ?_⟩
  rw [List.getElem?_set]
  by_cases e : i = j
  · subst e; simp [*]
  · simp [e, Ne.symm e]

theorem isNat_iff (t : Ty) : isNat t = true ↔ t = natTy := by
  cases t with
  | num k => cases k <;> simp [isNat, natTy]
  | _ => simp [isNat, natTy]

theorem isNat_false_iff (t : Ty) : isNat t = false ↔ t ≠ natTy := by
  rw [Ne, ← isNat_iff, Bool.not_eq_true]

/-- what the iteration for parameter `p` asks to monomorphize -/
def StepNeed (args : List Arg) : Param → Nat → Prop
  | .const idx _ ty _, j =>
      (ty ≠ natTy ∧ OccTy j ty) ∨ (j = idx ∧ ∃ ty', instTy (full args) false ty = some ty' ∧ ty' ≠ natTy)
  | .ty _ _ _ _, _ => False

/-- a stretch of the loop of `partially_monomorphize_args` takes `mono_args` from `m` to `m'`, asking for the positions `need` -/
structure StepSpec (args : List Arg) (need : Nat → Prop) (m m' : PInst) : Prop where
  len : m'.length = m.length
  mono : ∀ (j : Nat) (x : Arg), m[j]? = some (some x) → args[j]? = some x → m'[j]? = some (some x)
  only : ∀ (j : Nat) (x : Arg), m'[j]? = some (some x) → m[j]? = some (some x) ∨ (args[j]? = some x ∧ need j)
  covers : ∀ (j : Nat), need j → ∃ x, args[j]? = some x ∧ m'[j]? = some (some x)

theorem StepSpec.refl (args : List Arg) (m : PInst) : StepSpec args (fun _ => False) m m :=
  ⟨rfl, fun _ _ h _ => h, fun _ _ h => Or.inl h, fun _ h => h.elim⟩

theorem StepSpec.trans {args : List Arg} {n1 n2 : Nat → Prop} {m m1 m2 : PInst}
    (S1 : StepSpec args n1 m m1) (S2 : StepSpec args n2 m1 m2) :
    StepSpec args (fun j => n1 j ∨ n2 j) m m2 := by
  refine ⟨S2.len.trans S1.len, fun j x hm hx => S2.mono j x (S1.mono j x hm hx) hx, fun j x hm => ?_,
    fun j hn => ?_⟩
  · rcases S2.only j x hm with h | ⟨hx, hn⟩
    · rcases S1.only j x h with h | ⟨hx, hn⟩
      · exact Or.inl h
      · exact Or.inr ⟨hx, Or.inl hn⟩
    · exact Or.inr ⟨hx, Or.inr hn⟩
  · rcases hn with hn | hn
    · obtain ⟨x, hx, hm⟩ := S1.covers j hn
      exact ⟨x, hx, S2.mono j x hm hx⟩
    · exact S2.covers j hn

theorem StepSpec.congr {args : List Arg} {n n' : Nat → Prop} {m m' : PInst}
    (h : ∀ j, n j ↔ n' j) (S : StepSpec args n m m') : StepSpec args n' m m' :=
  ⟨S.len, S.mono, fun j x hm => (S.only j x hm).imp id (fun ⟨a, b⟩ => ⟨a, (h j).mp b⟩),
    fun j hn => S.covers j ((h j).mpr hn)⟩

theorem setAt_StepSpec (args : List Arg) (idx : Nat) (a : Arg) (m m' : PInst)
    (ha : args[idx]? = some a) (h : setAt? m idx (some a) = some m') : StepSpec args (· = idx) m m' := by
  obtain ⟨l, _, g⟩ := setAt?_spec m idx (some a) m' h
  refine ⟨l, fun j x hm hx => ?_, fun j x hm => ?_, fun j hj => ?_⟩
  · rw [g j]
    by_cases hji : j = idx
    · subst hji; simp_all
    · simp only [hji, ↓reduceIte]; exact hm
  · rw [g j] at hm
    by_cases hji : j = idx
    · subst hji
      simp only [↓reduceIte, Option.some.injEq] at hm
      subst hm
      exact Or.inr ⟨ha, rfl⟩
    · simp only [hji, ↓reduceIte] at hm
      exact Or.inl hm
  · subst hj
    exact ⟨a, ha, by rw [g j]; simp⟩

theorem markVars_StepSpec (args : List Arg) : ∀ (js : List Nat) (m m' : PInst),
    markVars args js m = some m' → StepSpec args (· ∈ js) m m'
  | [], m, m', h => by cases h; exact (StepSpec.refl args m).congr fun j => by simp
  | j0 :: js, m, m', h => by
    simp only [markVars] at h
    obtain ⟨a, h1, h⟩ := Option.bind_eq_some_iff.mp h
    obtain ⟨m1, h2, h⟩ := Option.bind_eq_some_iff.mp h
    exact ((setAt_StepSpec args j0 a m m1 h1 h2).trans (markVars_StepSpec args js m1 m' h)).congr
      fun j => by simp [List.mem_cons]

/-- the hypothesis is a conjunct of `monoStep_const` as it stands -/
theorem StepSpec.guard {args : List Arg} {need : Nat → Prop} {c : Bool} {P : Prop} {m m' : PInst}
    (h : if c = true then m = m' else P) (hf : P → StepSpec args need m m') :
    StepSpec args (fun j => c = false ∧ need j) m m' := by
  cases c with
  | false => exact (hf h).congr fun j => by simp
  | true => cases (show m = m' from h); exact (StepSpec.refl args m).congr fun j => by simp

theorem monoStep_const {args : List Arg} {m m' : PInst} {idx : Nat} {n : String} {ty : Ty} {f : Bool} {a : Arg}
    (h : monoStep args m (.const idx n ty f) a = some m') :
    ∃ ty' m1, instTy (full args) false ty = some ty' ∧
      (if isNat ty = true then m = m1 else markVars args (tyBV ty) m = some m1) ∧
      (if isNat ty' = true then m1 = m' else setAt? m1 idx (some a) = some m') := by
  simp only [monoStep] at h
  obtain ⟨ty', h1, h⟩ := Option.bind_eq_some_iff.mp h
  refine ⟨ty', ?_⟩
  revert h
  cases isNat ty <;> cases isNat ty' <;> simp [h1, Option.bind_eq_some_iff]

def paramIdx : Param → Nat
  | .ty i _ _ _ => i
  | .const i _ _ _ => i

theorem monoStep_spec (args : List Arg) (m m' : PInst) (p : Param) (a : Arg)
    (ha : args[paramIdx p]? = some a) (h : monoStep args m p a = some m') :
    StepSpec args (StepNeed args p) m m' := by
  cases p with
  | ty i n c d =>
    cases h
    exact (StepSpec.refl args m).congr (fun j => by simp [StepNeed])
  | const idx n ty f =>
    obtain ⟨ty', m1, h1, h2, h3⟩ := monoStep_const h
    have S := (StepSpec.guard h2 (markVars_StepSpec args _ m m1)).trans
      (StepSpec.guard h3 (setAt_StepSpec args idx a m1 m' ha))
    exact S.congr fun j => by simp [StepNeed, h1, and_comm, isNat_false_iff, occ_ty]

theorem monoLoop_spec (args : List Arg) : ∀ (ps : List Param) (k : Nat) (as : List Arg) (m m' : PInst),
    paramIdxOk k ps = true → args.drop k = as → monoLoop args ps as m = some m' →
    StepSpec args (fun j => ∃ p, p ∈ ps ∧ StepNeed args p j) m m'
  | [], _, [], m, m', _, _, h => by cases h; exact (StepSpec.refl args m).congr (fun j => by simp)
  | [], _, _ :: _, _, _, _, _, h | _ :: _, _, [], _, _, _, _, h => by cases h
  | p :: ps, k, a :: as, m, m', hok, hd, h => by
    simp only [monoLoop] at h
    obtain ⟨m1, h1, h⟩ := Option.bind_eq_some_iff.mp h
    have hk : paramIdx p = k ∧ paramIdxOk (k + 1) ps = true := by
      cases p <;> simpa [paramIdxOk, paramIdx] using hok
    have ha : args[k]? = some a := by
      have := congrArg (·[0]?) hd
      simpa [List.getElem?_drop] using this
    have has : args.drop (k + 1) = as := by
      have := congrArg List.tail hd
      simpa [List.tail_drop] using this
    exact ((monoStep_spec args m m1 p a (hk.1 ▸ ha) h1).trans
      (monoLoop_spec args ps (k + 1) as m1 m' hk.2 has h)).congr
        fun j => by simp only [List.mem_cons, exists_eq_or_imp]

/-- the length without `paramIdxOk`, which `rem_args_spec` does not assume -/
theorem monoStep_len (args : List Arg) (m m' : PInst) (p : Param) (a : Arg)
    (h : monoStep args m p a = some m') : m'.length = m.length := by
  cases p with
  | ty i n c d => cases h; rfl
  | const idx n ty f =>
    obtain ⟨ty', m1, _, h2, h3⟩ := monoStep_const h
    have l1 : m1.length = m.length := by
      split at h2
      · rw [← h2]
      · exact (markVars_StepSpec args _ m m1 h2).len
    split at h3
    · rw [← h3, l1]
    · exact (setAt?_spec m1 idx (some a) m' h3).1.trans l1

theorem monoLoop_len (args : List Arg) : ∀ (ps : List Param) (as : List Arg) (m m' : PInst),
    monoLoop args ps as m = some m' → m'.length = m.length
  | [], [], m, m', h => by cases h; rfl
  | [], _ :: _, _, _, h | _ :: _, [], _, _, h => by cases h
  | p :: ps, a :: as, m, m', h => by
    simp only [monoLoop] at h
    obtain ⟨m1, h1, h⟩ := Option.bind_eq_some_iff.mp h
    exact (monoLoop_len args ps as m1 m' h).trans (monoStep_len args m m1 p a h1)

theorem partiallyMonomorphizeArgs_some {ps : List Param} {args : List Arg} {cur : Option PInst} {mono : PInst}
    {rem : List Arg} (h : partiallyMonomorphizeArgs ps args cur = some (mono, rem)) :
    ∃ args', normaliseArgs args cur = some args' ∧
      monoLoop args' ps args' (args'.map fun _ => none) = some mono ∧ mono.length = args'.length ∧
      (∀ x, some x ∈ mono → argBV x = []) ∧ rem = remArgs args' mono := by
  unfold partiallyMonomorphizeArgs at h
  obtain ⟨args', h0, h⟩ := Option.bind_eq_some_iff.mp h
  obtain ⟨m, h1, h⟩ := Option.bind_eq_some_iff.mp h
  split at h
  · rename_i hall
    cases h
    refine ⟨args', h0, h1, by simpa using monoLoop_len args' ps args' _ _ h1, fun x hx => ?_, rfl⟩
    simpa [optArgBV] using List.all_eq_true.mp hall (some x) hx
  · cases h

theorem lookupAll_spec (params : List Param) : ∀ (js : List Nat) (r : List Param),
    lookupAll params js = some r → ∀ p, p ∈ r ↔ ∃ j, j ∈ js ∧ params[j]? = some p
  | [], r, h => by cases h; simp
  | j :: js, r, h => by
    simp only [lookupAll] at h
    obtain ⟨q, h1, h⟩ := Option.bind_eq_some_iff.mp h
    obtain ⟨r', h2, ⟨⟩⟩ := Option.bind_eq_some_iff.mp h
    intro p
    simp only [List.mem_cons, lookupAll_spec params js r' h2 p, exists_eq_or_imp, h1, Option.some.injEq,
      eq_comm (a := p) (b := q)]

/-- what `require_monomorphization` selects because of the const parameter `q` -/
def Selects (params : List Param) : Param → Param → Prop
  | .const i n ty f, p =>
      ty ≠ natTy ∧ (p = .const i n ty f ∨ ∃ j, OccTy j ty ∧ params[j]? = some p)
  | .ty _ _ _ _, _ => False

theorem requireStep_spec (params : List Param) (q : Param) (r : List Param)
    (h : requireStep params q = some r) : ∀ p, p ∈ r ↔ Selects params q p := by
  cases q with
  | ty i n c d => simp only [requireStep, Option.some.injEq] at h; subst h; simp [Selects]
  | const i n ty f =>
    simp only [requireStep] at h
    cases hn : isNat ty with
    | true =>
      simp only [hn, ↓reduceIte, Option.some.injEq] at h
      subst h
      intro p
      simp [Selects, (isNat_iff ty).mp hn]
    | false =>
      simp only [hn, Bool.false_eq_true, ↓reduceIte] at h
      obtain ⟨deps, h1, ⟨⟩⟩ := Option.bind_eq_some_iff.mp h
      intro p
      simp only [List.mem_cons, lookupAll_spec params _ deps h1 p, Selects, ne_eq,
        (isNat_false_iff ty).mp hn, not_false_eq_true, true_and, occ_ty]

theorem requireLoop_spec (params : List Param) : ∀ (qs : List Param) (r : List Param),
    requireLoop params qs = some r → ∀ p, p ∈ r ↔ ∃ q, q ∈ qs ∧ Selects params q p
  | [], r, h => by cases h; simp
  | q :: qs, r, h => by
    simp only [requireLoop] at h
    obtain ⟨a, h1, h⟩ := Option.bind_eq_some_iff.mp h
    obtain ⟨r', h2, ⟨⟩⟩ := Option.bind_eq_some_iff.mp h
    intro p
    simp only [List.mem_append, requireStep_spec params q a h1 p, requireLoop_spec params qs r' h2 p,
      List.mem_cons, exists_eq_or_imp]

end GuppyVerif.Instantiate
