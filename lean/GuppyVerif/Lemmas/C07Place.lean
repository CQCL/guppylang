import GuppyVerif.Lemmas.Basic
import GuppyVerif.Lemmas.C07
/-! Place level of C07: runs of the interpreter `runA`.  Everything rests on `sandwich`:
    "`load j`; one step inside container `j`; `store j`" is a lens update at `s_j` of the root. -/
namespace GuppyVerif.Places

theorem upd_same (s : Slots) (j : Nat) (v : V) : upd s j v j = v := by simp [upd]
theorem upd_other (s : Slots) (j k : Nat) (v : V) (h : k ≠ j) : upd s j v k = s k := by simp [upd, h]

theorem stepsOf_append (a b : List Chunk) : stepsOf (a ++ b) = stepsOf a ++ stepsOf b := by
  induction a with
  | nil => rfl
  | cons c cs ih => simp [stepsOf, ih]

/-- steps of the place `s_j` (the first `j` chunks) -/
def pathTo (cs : List Chunk) (j : Nat) : List Step := stepsOf (cs.take j)

theorem pathTo_succ (cs : List Chunk) (j : Nat) (c : Chunk) (h : cs[j]? = some c) :
    pathTo cs (j + 1) = pathTo cs j ++ c.steps := by
  unfold pathTo
  rw [List.take_add_one, h, stepsOf_append]
  simp [stepsOf]

theorem Chunk.steps_ne_nil (c : Chunk) : c.steps ≠ [] := by simp [Chunk.steps]

theorem pathTo_length (cs : List Chunk) : pathTo cs cs.length = stepsOf cs := by simp [pathTo]

theorem getP_idx (i : Nat) (x e : V) (h : getP [.idx i] x = some e) :
    ∃ cs, x = .arr cs ∧ cs[i]? = some e := by
  cases x <;> simp [getP] at h
  rename_i cs
  cases hc : cs[i]? with
  | none => simp [hc] at h
  | some c => simp [hc] at h; exact ⟨cs, rfl, by rw [hc, h]⟩

theorem chunk_get (c : Chunk) (x e : V) (h : getP c.steps x = some e) :
    ∃ cells, getP (c.projs.map .proj) x = some (.arr cells) ∧ cells[c.idx]? = some e := by
  unfold Chunk.steps at h
  rw [getP_append] at h
  cases ha : getP (c.projs.map .proj) x with
  | none => simp [ha] at h
  | some a =>
    simp only [ha, Option.bind_some] at h
    obtain ⟨cells, rfl, hc⟩ := getP_idx _ _ _ h
    exact ⟨cells, rfl, hc⟩

theorem chunk_put (c : Chunk) (x new x' e : V) (cells : List V)
    (ha : getP (c.projs.map .proj) x = some (.arr cells)) (hi : cells[c.idx]? = some e)
    (h : putP c.steps new x = some x') :
    putP (c.projs.map .proj) (.arr (cells.set c.idx new)) x = some x' := by
  unfold Chunk.steps at h
  rw [putP_append _ _ _ _ _ ha] at h
  simpa [putP, hi] using h

theorem runA_append (f : V → V) (p : CPath) (a b : List AOp) (s : Slots) :
    runA f p (a ++ b) s = (runA f p a s >>= runA f p b) := by
  induction a generalizing s with
  | nil => rfl
  | cons o os ih =>
    simp only [List.cons_append, runA, bind_assoc]
    exact bind_congr ih

theorem runA_mid (f : V → V) (p : CPath) (a b : List AOp) (o : AOp) (s s' : Slots) :
    runA f p (a ++ [o] ++ b) s = .ok s' ↔
      ∃ s1 s2, runA f p a s = .ok s1 ∧ stepA f p s1 o = .ok s2 ∧ runA f p b s2 = .ok s' := by
  rw [runA_append, runA_append]
  constructor
  · intro h
    obtain ⟨s2, h12, h3⟩ := Except.bind_eq_ok.mp h
    obtain ⟨s1, h1, h2⟩ := Except.bind_eq_ok.mp h12
    obtain ⟨_, hs, he⟩ := Except.bind_eq_ok.mp h2
    exact ⟨s1, s2, h1, hs.trans he, h3⟩
  · rintro ⟨s1, s2, h1, h2, h3⟩
    rw [h1]
    simp only [Except.ok_bind, runA, h2, Except.pure_eq_ok]
    exact h3

theorem load_succ (j : Nat) : load (j + 1) = load j ++ [.borrow (j + 1)] ++ store j := rfl
theorem store_succ (j : Nat) : store (j + 1) = load j ++ [.ret (j + 1)] ++ store j := rfl

theorem stepA_borrow_inv (f : V → V) (p : CPath) (j : Nat) (s s2 : Slots)
    (h : stepA f p s (.borrow (j + 1)) = .ok s2) :
    ∃ c cells e cont, p.chunks[j]? = some c ∧ getP (c.projs.map .proj) (s j) = some (.arr cells) ∧
      cells[c.idx]? = some e ∧ e.isHole = false ∧
      putP (c.projs.map .proj) (.arr (cells.set c.idx .hole)) (s j) = some cont ∧
      s2 = upd (upd s j cont) (j + 1) e := by
  simp only [stepA, Nat.add_sub_cancel] at h
  -- each `split` peels one `match` / `if` of `stepA`; `cases h` closes its error branch
  split at h <;> try cases h
  split at h <;> try cases h
  split at h <;> try cases h
  split at h <;> cases h
  rename_i _ c hc _ e hg he _ cont hp
  obtain ⟨cells, hga, hce⟩ := chunk_get _ _ _ hg
  exact ⟨c, cells, e, cont, hc, hga, hce, by simpa using he, chunk_put _ _ _ _ _ _ hga hce hp, rfl⟩

theorem stepA_ret_inv (f : V → V) (p : CPath) (j : Nat) (s s2 : Slots)
    (h : stepA f p s (.ret (j + 1)) = .ok s2) :
    ∃ c cells cont, p.chunks[j]? = some c ∧ getP (c.projs.map .proj) (s j) = some (.arr cells) ∧
      cells[c.idx]? = some .hole ∧
      putP (c.projs.map .proj) (.arr (cells.set c.idx (s (j + 1)))) (s j) = some cont ∧
      s2 = upd s j cont := by
  simp only [stepA, Nat.add_sub_cancel] at h
  split at h <;> try cases h
  split at h <;> try cases h
  split at h <;> try cases h
  split at h <;> cases h
  rename_i _ c hc _ e hg he _ cont hp
  cases e <;> simp [V.isHole] at he
  obtain ⟨cells, hga, hce⟩ := chunk_get _ _ _ hg
  exact ⟨c, cells, cont, hc, hga, hce, chunk_put _ _ _ _ _ _ hga hce hp, rfl⟩

theorem stepA_call_iff {f : V → V} {p : CPath} {s s2 : Slots} : stepA f p s .call = .ok s2 ↔
    ∃ v cont, getP p.tailSteps (s p.chunks.length) = some v ∧
      putP p.tailSteps (f v) (s p.chunks.length) = some cont ∧ s2 = upd s p.chunks.length cont := by
  simp only [stepA]
  constructor
  · intro h
    split at h <;> try cases h
    split at h <;> cases h
    rename_i _ v hg _ cont hp
    exact ⟨v, cont, hg, hp, rfl⟩
  · rintro ⟨v, cont, hg, hp, rfl⟩
    simp [hg, hp]

/-- `load j` and `store j` touch the containers up to `j` only, whatever the store -/
theorem ls_frame (f : V → V) (p : CPath) : ∀ j,
    (∀ s s', runA f p (load j) s = .ok s' → ∀ k, j < k → s' k = s k) ∧
    (∀ s s', runA f p (store j) s = .ok s' → ∀ k, j < k → s' k = s k) := by
  intro j
  induction j with
  | zero =>
    constructor <;> intro s s' h k _ <;> simp [load, store, loadStore, runA] at h <;>
      rw [← h]
  | succ j ih =>
    obtain ⟨ihL, ihS⟩ := ih
    constructor
    · intro s s' h k hk
      rw [load_succ] at h
      obtain ⟨s1, s2, h1, h2, h3⟩ := (runA_mid ..).mp h
      obtain ⟨_, _, e, cont, _, _, _, _, _, rfl⟩ := stepA_borrow_inv _ _ _ _ _ h2
      rw [ihS _ _ h3 k (by omega), upd_other _ _ _ _ (by omega), upd_other _ _ _ _ (by omega),
        ihL _ _ h1 k (by omega)]
    · intro s s' h k hk
      rw [store_succ] at h
      obtain ⟨s1, s2, h1, h2, h3⟩ := (runA_mid ..).mp h
      obtain ⟨_, _, cont, _, _, _, _, rfl⟩ := stepA_ret_inv _ _ _ _ _ h2
      rw [ihS _ _ h3 k (by omega), upd_other _ _ _ _ (by omega), ihL _ _ h1 k (by omega)]

theorem callBorrowA_ok_iff {f : V → V} {p : CPath} {X X' : V} : callBorrowA f p X = .ok X' ↔
    ∃ s3, runA f p (load p.chunks.length ++ [.call] ++ store p.chunks.length) (initSlots X) = .ok s3 ∧
      X' = s3 0 := by
  simp only [callBorrowA, emitAbs, Except.bind_eq_ok, Except.pure_eq_ok, Except.ok.injEq]
  exact exists_congr fun _ => and_congr_right fun _ => eq_comm

section cascade
variable (f : V → V) (p : CPath)

/-- `load j` lends the value at `s_j` into slot `j` and leaves a hole there in the root.  Slot `0`
    IS the root: at level `0` nothing is lent, so the clauses about the root are for `0 < j` only. -/
def LoadSpec (j : Nat) : Prop :=
  ∀ (s : Slots) (E : V), getP (pathTo p.chunks j) (s 0) = some E → (0 < j → E.isHole = false) →
    ∃ s', runA f p (load j) s = .ok s' ∧ s' j = E ∧
      (0 < j → putP (pathTo p.chunks j) .hole (s 0) = some (s' 0))

/-- `store j` puts slot `j` back into the hole at `s_j` of the root -/
def StoreSpec (j : Nat) : Prop :=
  ∀ (s : Slots), (0 < j → getP (pathTo p.chunks j) (s 0) = some .hole) →
    ∃ s', runA f p (store j) s = .ok s' ∧ (j = 0 → s' = s) ∧
      (0 < j → putP (pathTo p.chunks j) (s j) (s 0) = some (s' 0)) ∧ ∀ k, j < k → s' k = s k

/-- after `load j` left a hole at `s_j` in the root (`s1`), and container `j` was updated to `C`
    (`s2`), `store j` puts `C` at `s_j` of the *original* root -/
theorem finish (j : Nat) (hst : StoreSpec f p j) (s s1 s2 : Slots) (C : V)
    (hroot1 : 0 < j → putP (pathTo p.chunks j) .hole (s 0) = some (s1 0))
    (hs2j : s2 j = C) (hs20 : 0 < j → s2 0 = s1 0) :
    ∃ s3, runA f p (store j) s2 = .ok s3 ∧ putP (pathTo p.chunks j) C (s 0) = some (s3 0) ∧
      ∀ k, j < k → s3 k = s2 k := by
  rcases Nat.eq_zero_or_pos j with hj | hj
  · subst hj
    obtain ⟨s3, hrun, h0, _, hk⟩ := hst s2 (fun h => absurd h (Nat.lt_irrefl 0))
    refine ⟨s3, hrun, ?_, hk⟩
    rw [h0 rfl]
    simp [pathTo, stepsOf, putP, hs2j]
  · have hpre : getP (pathTo p.chunks j) (s2 0) = some .hole := by
      rw [hs20 hj]; exact getP_putP _ _ _ _ (hroot1 hj)
    obtain ⟨s3, hrun, _, hroot3, hk⟩ := hst s2 (fun _ => hpre)
    refine ⟨s3, hrun, ?_, hk⟩
    have := hroot3 hj
    rw [hs2j, hs20 hj, putP_putP _ _ _ _ _ (hroot1 hj)] at this
    exact this

/-- `load j; o; store j`, where the step `o` puts `new` at `q` inside container `j` (and leaves the
    root alone when `0 < j`), puts `new` at `s_j.q` of the root -/
theorem sandwich (j : Nat) (hL : LoadSpec f p j) (hS : StoreSpec f p j) (o : AOp) (q : List Step)
    (new e : V) (s : Slots) (g : Slots → V → Slots)
    (hget : getP (pathTo p.chunks j ++ q) (s 0) = some e) (hnh : q = [] → e.isHole = false)
    (hstep : ∀ s1 Ej', getP q (s1 j) = some e → putP q new (s1 j) = some Ej' →
      (∀ k, j < k → s1 k = s k) → stepA f p s1 o = .ok (g s1 Ej'))
    (hgj : ∀ s1 Ej', g s1 Ej' j = Ej') (hg0 : ∀ s1 Ej', 0 < j → g s1 Ej' 0 = s1 0) :
    ∃ s1 Ej' s3, runA f p (load j ++ [o] ++ store j) s = .ok s3 ∧
      putP (pathTo p.chunks j ++ q) new (s 0) = some (s3 0) ∧ ∀ k, j < k → s3 k = g s1 Ej' k := by
  rw [getP_append] at hget
  obtain ⟨Ej, hEj, hge⟩ := Option.bind_eq_some_iff.mp hget
  -- container `j` is not itself lent: something is read inside it, or it is `e`
  have hEjn : Ej.isHole = false := by
    cases q with
    | nil => simp only [getP, Option.some.injEq] at hge; exact hge ▸ hnh rfl
    | cons a r => cases Ej <;> first | rfl | (rw [getP_hole_cons] at hge; cases hge)
  obtain ⟨s1, hrun1, rfl, hroot1⟩ := hL s Ej hEj (fun _ => hEjn)
  obtain ⟨Ej', hput⟩ := putP_isSome_of_getP q new _ _ hge
  obtain ⟨s3, hrun3, hroot3, hk3⟩ := finish f p j hS s s1 (g s1 Ej') Ej' hroot1 (hgj s1 Ej')
    (hg0 s1 Ej')
  refine ⟨s1, Ej', s3, (runA_mid ..).mpr ⟨s1, _, hrun1,
    hstep s1 Ej' hge hput ((ls_frame f p j).1 _ _ hrun1), hrun3⟩, ?_, hk3⟩
  rw [putP_append _ _ _ _ _ hEj, hput]; exact hroot3

theorem loadStore_spec : ∀ j, j ≤ p.chunks.length → LoadSpec f p j ∧ StoreSpec f p j := by
  intro j
  induction j with
  | zero =>
    intro _
    constructor
    · intro s E hget _
      exact ⟨s, rfl, by simpa [pathTo, stepsOf, getP] using hget, fun h => absurd h (Nat.lt_irrefl 0)⟩
    · intro s _
      exact ⟨s, rfl, fun _ => rfl, fun h => absurd h (Nat.lt_irrefl 0), fun _ _ => rfl⟩
  | succ j ih =>
    intro hle
    obtain ⟨ihL, ihS⟩ := ih (Nat.le_of_succ_le hle)
    have hc : p.chunks[j]? = some p.chunks[j] := List.getElem?_eq_getElem hle
    have hpath := pathTo_succ p.chunks j _ hc
    constructor
    · intro s E hget hnh
      rw [hpath] at hget
      obtain ⟨s1, Ej', s3, hrun, hroot, hk3⟩ := sandwich f p j ihL ihS (.borrow (j + 1))
        p.chunks[j].steps .hole E s (fun s1 Ej' => upd (upd s1 j Ej') (j + 1) E) hget
        (fun h => absurd h (Chunk.steps_ne_nil _))
        (fun s1 Ej' hg hp _ => by simp [stepA, hc, hg, hnh (Nat.succ_pos j), hp])
        (fun _ _ => by rw [upd_other _ _ _ _ (by omega), upd_same])
        (fun _ _ _ => by rw [upd_other _ _ _ _ (by omega), upd_other _ _ _ _ (by omega)])
      exact ⟨s3, load_succ j ▸ hrun, by rw [hk3 (j + 1) (by omega), upd_same],
        fun _ => hpath ▸ hroot⟩
    · intro s hpre
      have hget := hpre (Nat.succ_pos j)
      rw [hpath] at hget
      obtain ⟨s1, Ej', s3, hrun, hroot, _⟩ := sandwich f p j ihL ihS (.ret (j + 1))
        p.chunks[j].steps (s (j + 1)) .hole s (fun s1 Ej' => upd s1 j Ej') hget
        (fun h => absurd h (Chunk.steps_ne_nil _))
        (fun s1 Ej' hg hp hk => by simp [stepA, hc, hg, V.isHole, hk (j + 1) (by omega), hp])
        (fun _ _ => upd_same _ _ _) (fun _ _ _ => upd_other _ _ _ _ (by omega))
      exact ⟨s3, store_succ j ▸ hrun, fun h => by omega, fun _ => hpath ▸ hroot,
        (ls_frame f p (j + 1)).2 _ _ hrun⟩

theorem callBorrowA_eq (π : CPath) (x v : V) (hget : getP π.steps x = some v)
    (hv : v.isHole = false) :
    ∃ x', putP π.steps (f v) x = some x' ∧ callBorrowA f π x = .ok x' := by
  obtain ⟨hL, hS⟩ := loadStore_spec f π π.chunks.length (Nat.le_refl _)
  obtain ⟨s1, Em', s3, hrun, hroot, _⟩ := sandwich f π _ hL hS .call π.tailSteps (f v) v
    (initSlots x) (fun s1 Em' => upd s1 π.chunks.length Em')
    (by rw [pathTo_length]; exact hget) (fun _ => hv)
    (fun s1 Em' hg hp _ => stepA_call_iff.mpr ⟨v, Em', hg, hp, rfl⟩)
    (fun _ _ => upd_same _ _ _) (fun _ _ h => upd_other _ _ _ _ (by omega))
  rw [pathTo_length] at hroot
  exact ⟨s3 0, hroot, callBorrowA_ok_iff.mpr ⟨s3, hrun, rfl⟩⟩

theorem assignSet_run (π : CPath) (x old v : V) (hm : 0 < π.chunks.length)
    (htl : π.tail = []) (hget : getP π.steps x = some old) (hold : old.isHole = false) :
    ∃ x', putP π.steps v x = some x' ∧ assignSetA f π x v = .ok x' := by
  obtain ⟨j, hj⟩ : ∃ j, π.chunks.length = j + 1 := ⟨π.chunks.length - 1, by omega⟩
  have hjlt : j < π.chunks.length := by omega
  have hc : π.chunks[j]? = some π.chunks[j] := List.getElem?_eq_getElem hjlt
  have hsteps : π.steps = pathTo π.chunks j ++ π.chunks[j].steps := by
    rw [← pathTo_succ π.chunks j _ hc, ← hj, pathTo_length]
    simp [CPath.steps, CPath.tailSteps, htl]
  obtain ⟨hL, hS⟩ := loadStore_spec f π j (by omega)
  have hs0 : upd (initSlots x) (j + 1) v 0 = x := upd_other _ _ _ _ (by omega)
  rw [hsteps, ← hs0] at hget
  obtain ⟨s1, Ej', s3, hrun, hroot, _⟩ := sandwich f π j hL hS (.cset (j + 1))
    π.chunks[j].steps v old (upd (initSlots x) (j + 1) v) (fun s1 Ej' => upd s1 j Ej') hget
    (fun h => absurd h (Chunk.steps_ne_nil _))
    (fun s1 Ej' hg hp hk => by
      simp [stepA, hc, hg, hold, (hk (j + 1) (by omega)).trans (upd_same _ _ _), hp])
    (fun _ _ => upd_same _ _ _) (fun _ _ _ => upd_other _ _ _ _ (by omega))
  rw [hs0, ← hsteps] at hroot
  exact ⟨s3 0, hroot, by unfold assignSetA emitAssignSetAbs; rw [hj, Nat.add_sub_cancel, hrun]; rfl⟩

end cascade
end GuppyVerif.Places
