import GuppyVerif.Lemmas.Basic
import GuppyVerif.Model.Places
/-! Vocabulary of the wire level: the place table, `Sem` (the emitted instructions run to the wire
    environment) and `Emits` (one or more emission steps, composed by `Emits.trans`).  Rests on the
    model and the shared list facts of `Lemmas/Basic`, not on the lens. -/
namespace GuppyVerif.Places

theorem find?_filter_ne (l : List (PlaceId × Nat)) {p q : PlaceId} (h : q ≠ p) :
    (l.filter (·.1 != p)).find? (·.1 == q) = l.find? (·.1 == q) := by
  rw [List.find?_filter]
  congr 1; funext a
  by_cases ha : a.1 = q <;> simp [ha, h]

theorem CS.find_set (s : CS) (p q : PlaceId) (w : Nat) :
    (s.set p w).find q = if q = p then some w else s.find q := by
  unfold CS.find CS.set
  by_cases h : q = p
  · simp [h]
  · rw [if_neg h, List.find?_cons_of_neg (by simp [Ne.symm h]), find?_filter_ne _ h]

theorem CS.find_pop (s : CS) (p q : PlaceId) :
    (s.pop p).find q = if q = p then none else s.find q := by
  unfold CS.find CS.pop
  by_cases h : q = p
  · simp [h, List.find?_eq_none]
  · rw [if_neg h, find?_filter_ne _ h]

theorem CS.addOp_find (s : CS) (op : Op) (args : List Nat) (n : Nat) (q : PlaceId) :
    (s.addOp op args n).1.find q = s.find q := rfl

theorem CS.addOp_bad (s : CS) (op : Op) (args : List Nat) (n : Nat) :
    (s.addOp op args n).1.bad = s.bad := rfl

theorem dget_found (ty : Ty) (p : PlaceId) (s : CS) (w : Nat) (h : s.find p = some w) :
    dget ty p s = (s, w) := by
  cases ty <;> simp [dget, h]

theorem dset_leaf {ty : Ty} (hleaf : ∀ ts, ty ≠ .tup ts) (p : PlaceId) (w : Nat) (s : CS) :
    dset ty p w s = s.set p w := by
  cases ty with
  | tup ts => exact absurd rfl (hleaf ts)
  | _ => simp [dset]

theorem runInstrsW_append (f : V → V) (a b : List Instr) (env : List W) :
    runInstrsW f (a ++ b) env = (runInstrsW f a env >>= runInstrsW f b) := by
  induction a generalizing env with
  | nil => rfl
  | cons i is ih =>
    simp only [List.cons_append, runInstrsW, bind_assoc]
    refine bind_congr fun args => bind_congr fun outs => ?_
    split
    · exact ih _
    · rfl

theorem lookupW_of (env : List W) (ws : List Nat) (vs : List W)
    (h : ws.map (fun w => env[w]?) = vs.map some) : lookupW env ws = .ok vs := by
  induction ws generalizing vs with
  | nil => cases vs with
    | nil => rfl
    | cons v vs => simp at h
  | cons w ws ih =>
    cases vs with
    | nil => simp at h
    | cons v vs =>
      simp only [List.map_cons, List.cons.injEq] at h
      simp only [lookupW, h.1, ih vs h.2, Except.ok_bind, Except.pure_eq_ok]

/-- the instructions emitted so far, run on the inputs, produce `env`; wires are allocated densely -/
def Sem (f : V → V) (inputs : List W) (cs : CS) (env : List W) : Prop :=
  runInstrsW f cs.instrs.reverse inputs = .ok env ∧ env.length = cs.next

/-- one or more emission steps from `cs` to `cs'`; `out` are the places whose binding they leave
    alone -/
structure Emits (f : V → V) (inputs : List W) (out : PlaceId → Prop) (cs : CS) (env : List W)
    (cs' : CS) (env' : List W) : Prop where
  sem : Sem f inputs cs' env'
  pre : env <+: env'
  bad : cs'.bad = cs.bad
  frame : ∀ q, out q → cs'.find q = cs.find q

namespace Emits
variable {f : V → V} {inputs : List W} {out out' : PlaceId → Prop} {cs cs1 cs2 : CS}
  {env env1 env2 : List W}

theorem refl (S : Sem f inputs cs env) : Emits f inputs out cs env cs env :=
  ⟨S, List.prefix_refl _, rfl, fun _ _ => rfl⟩

theorem trans (h1 : Emits f inputs out cs env cs1 env1) (h2 : Emits f inputs out cs1 env1 cs2 env2) :
    Emits f inputs out cs env cs2 env2 :=
  ⟨h2.sem, h1.pre.trans h2.pre, h2.bad.trans h1.bad, fun q hq => (h2.frame q hq).trans (h1.frame q hq)⟩

theorem mono (h : Emits f inputs out cs env cs1 env1) (ho : ∀ q, out' q → out q) :
    Emits f inputs out' cs env cs1 env1 :=
  ⟨h.sem, h.pre, h.bad, fun q hq => h.frame q (ho q hq)⟩

theorem get (h : Emits f inputs out cs env cs1 env1) {w : Nat} {x : W} (hw : env[w]? = some x) :
    env1[w]? = some x := h.pre.getElem?_of_some hw

/-- `Sem` looks at the instructions and the wire counter only: binding or forgetting a place emits
    nothing -/
theorem set (h : Emits f inputs out cs env cs1 env1) (p : PlaceId) (w : Nat)
    (hp : ∀ q, out q → q ≠ p) : Emits f inputs out cs env (cs1.set p w) env1 :=
  ⟨h.sem, h.pre, h.bad, fun q hq => by rw [CS.find_set, if_neg (hp q hq)]; exact h.frame q hq⟩

theorem pop (h : Emits f inputs out cs env cs1 env1) (p : PlaceId) (hp : ∀ q, out q → q ≠ p) :
    Emits f inputs out cs env (cs1.pop p) env1 :=
  ⟨h.sem, h.pre, h.bad, fun q hq => by rw [CS.find_pop, if_neg (hp q hq)]; exact h.frame q hq⟩

theorem addOp (h : Emits f inputs out cs env cs1 env1) (op : Op) (args : List Nat) (n : Nat)
    (vals outs : List W) (hl : lookupW env1 args = .ok vals) (hs : stepW f op vals = .ok outs)
    (hn : outs.length = n) :
    Emits f inputs out cs env (cs1.addOp op args n).1 (env1 ++ outs) ∧
      (cs1.addOp op args n).2 = (List.range n).map (· + env1.length) := by
  obtain ⟨hrun, hlen⟩ := h.sem
  refine ⟨⟨⟨?_, ?_⟩, h.pre.trans (List.prefix_append _ _), (CS.addOp_bad ..).trans h.bad,
    fun q hq => (CS.addOp_find ..).trans (h.frame q hq)⟩, ?_⟩
  · simp only [CS.addOp, List.reverse_cons, runInstrsW_append, hrun, Except.ok_bind, runInstrsW,
      hl, hs, hn, ↓reduceIte]
    rfl
  · simp [CS.addOp, hlen, hn]
  · simp [CS.addOp, hlen]

/-- the four fields written out, around a payload: the form of `dsetChildren_spec` and
    `dgetChildren_spec` -/
theorem ofTuple {cs' : CS} {Q : List W → Prop}
    (h : ∃ d, Sem f inputs cs' (env ++ d) ∧ Q d ∧ cs'.bad = cs.bad ∧
      ∀ q, out q → cs'.find q = cs.find q) : ∃ d, Emits f inputs out cs env cs' (env ++ d) ∧ Q d :=
  let ⟨d, S, hQ, b, F⟩ := h
  ⟨d, ⟨S, List.prefix_append _ _, b, F⟩, hQ⟩

end Emits

theorem loadW_succ_eq (lv : List Level) (j : Nat) (l : Level) (h : lv[j]? = some l) (cs : CS) :
    (loadStoreW lv (j + 1)).1 cs =
      dset l.elemTy (subId l (j + 1)) (borrowStepW l ((loadStoreW lv j).1 cs)).2
        ((loadStoreW lv j).2 (borrowStepW l ((loadStoreW lv j).1 cs)).1) := by
  simp only [loadStoreW, h]

theorem storeW_succ_eq (lv : List Level) (j : Nat) (l : Level) (h : lv[j]? = some l) (cs : CS) :
    (loadStoreW lv (j + 1)).2 cs =
      (loadStoreW lv j).2 (retStepW l (dget l.elemTy (subId l (j + 1)) cs).2
        ((loadStoreW lv j).1 (dget l.elemTy (subId l (j + 1)) cs).1)) := by
  simp only [loadStoreW, h]

/-! A place-table predicate for paths of subscripts only.  Nothing uses it: the theorem for such
    paths, `wire_sim_subscripts`, is an instance of `wire_sim`. -/

def sid : Nat → PlaceId
  | 0 => []
  | j + 1 => sid j ++ [.sub (j + 1)]

/-- containers `0 … J` are bound to wires that carry the abstract slot values -/
def RepUpTo (cs : CS) (env : List W) (s : Slots) (J : Nat) : Prop :=
  ∀ k, k ≤ J → ∃ w, cs.find (sid k) = some w ∧ env[w]? = some (.val (s k))

theorem RepUpTo_ext {cs : CS} {env d : List W} {s : Slots} {J : Nat} (h : RepUpTo cs env s J) :
    RepUpTo cs (env ++ d) s J :=
  fun k hk => by obtain ⟨w, h1, h2⟩ := h k hk; exact ⟨w, h1, List.getElem?_append_of_some h2⟩

end GuppyVerif.Places
