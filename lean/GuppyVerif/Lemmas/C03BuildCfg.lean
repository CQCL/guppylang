import GuppyVerif.Lemmas.C03StmtSem
/-! # C03: what a successful `buildCfg` returns (`buildCfg_ok`): the pruned blocks of the final builder state, flagged by graph
    reachability from the entry (`reachable_iff_path`, `Flagged`).  A run inside a set of blocks closed under successors
    transfers to any CFG with the same block cores (`steps_transfer`), so the run that `sem_stmt` gives halts in the pruned
    CFG (`run_pruned`): `buildCfg_correct`. -/
namespace GuppyVerif.Builder
open GuppyVerif.Surface

/-! ### `update_reachable` computes exactly graph reachability from the entry -/

theorem mem_addAll {acc xs : List Nat} {x : Nat} : x ∈ addAll acc xs ↔ x ∈ acc ∨ x ∈ xs :=
  List.mem_foldl_addNew

theorem mem_reachStep {blocks : List Block} {seen : List Nat} {x : Nat} :
    x ∈ reachStep blocks seen ↔ x ∈ seen ∨ ∃ b ∈ seen, x ∈ (blkL blocks b).succs := by
  have : ∀ (l acc : List Nat), x ∈ l.foldl (fun acc b => addAll acc (blocks[b]?.getD {}).succs) acc ↔
      x ∈ acc ∨ ∃ b ∈ l, x ∈ (blkL blocks b).succs := by
    intro l
    induction l with
    | nil => simp
    | cons y ys ih => intro acc; rw [List.foldl_cons, ih, mem_addAll]; simp [blkL, or_assoc]
  exact this seen seen

theorem reachIter_mono (blocks : List Block) (n : Nat) (seen : List Nat) :
    ∀ x ∈ seen, x ∈ reachIter blocks n seen := by
  induction n generalizing seen with
  | zero => exact fun _ h => h
  | succ n ih => exact fun x hx => ih _ x (mem_reachStep.mpr (.inl hx))

theorem reachable_fix {blocks : List Block} {rs : List Nat} (h : reachable blocks = some rs) :
    rs = reachIter blocks blocks.length [0] ∧ reachStep blocks rs = rs := by
  simp only [reachable] at h
  split at h
  · cases h; exact ⟨rfl, eq_of_beq ‹_›⟩
  · cases h

theorem reachable_spec {blocks : List Block} {rs : List Nat} (h : reachable blocks = some rs) :
    0 ∈ rs ∧ ∀ b ∈ rs, ∀ s ∈ (blkL blocks b).succs, s ∈ rs := by
  obtain ⟨hrs, hfix⟩ := reachable_fix h
  exact ⟨hrs ▸ reachIter_mono _ _ _ 0 (List.mem_singleton.mpr rfl),
    fun b hb s hs => hfix ▸ mem_reachStep.mpr (.inr ⟨b, hb, hs⟩)⟩

/-- there is a path over real edges -/
inductive Path (blocks : List Block) : Nat → Nat → Prop where
  | refl (a : Nat) : Path blocks a a
  | step {a b c : Nat} : Path blocks a b → c ∈ (blkL blocks b).succs → Path blocks a c

theorem reachIter_sound (blocks : List Block) (n : Nat) (seen : List Nat) (h : ∀ x ∈ seen, Path blocks 0 x) :
    ∀ x ∈ reachIter blocks n seen, Path blocks 0 x := by
  induction n generalizing seen with
  | zero => exact h
  | succ n ih =>
    refine ih _ fun x hx => ?_
    rcases mem_reachStep.mp hx with h1 | ⟨b, hb, hxb⟩
    · exact h x h1
    · exact (h b hb).step hxb

theorem reachable_iff_path {blocks : List Block} {rs : List Nat} (h : reachable blocks = some rs) (b : Nat) :
    b ∈ rs ↔ Path blocks 0 b := by
  obtain ⟨h0, hcl⟩ := reachable_spec h
  refine ⟨fun hb => ?_, fun hp => ?_⟩
  · rw [(reachable_fix h).1] at hb
    exact reachIter_sound blocks _ [0] (by simpa using Path.refl 0) b hb
  · induction hp with
    | refl => exact h0
    | step _ hc ih => exact hcl _ ih _ hc

theorem blkL_setReach (rs : List Nat) (bl : List Block) (i : Nat) :
    blkL (setReach rs bl) i = { blkL bl i with reach := rs.contains i && decide (i < bl.length) } := by
  by_cases hi : i < bl.length <;> simp [blkL, setReach, hi]

theorem length_setReach (rs : List Nat) (bl : List Block) : (setReach rs bl).length = bl.length := by
  simp [setReach]

theorem blkL_prune (bl : List Block) (i : Nat) (hi : i < bl.length) :
    blkL (prune bl) i =
      { blkL bl i with
        succs := if (blkL bl i).reach then (blkL bl i).succs else (blkL bl i).succs.filter fun s => !(blkL bl s).reach
        dsuccs := (blkL bl i).dsuccs.filter fun s => !(blkL bl s).reach } := by
  simp [blkL, prune, List.getElem?_map, List.getElem?_eq_getElem hi]

theorem length_prune (bl : List Block) : (prune bl).length = bl.length := by simp [prune]

theorem prune_edges (bl : List Block) (i : Nat) (hi : i < bl.length) :
    ((blkL (prune bl) i).reach = false → ∀ s ∈ (blkL (prune bl) i).succs, (blkL bl s).reach = false) ∧
    (∀ s ∈ (blkL (prune bl) i).dsuccs, (blkL bl s).reach = false) := by
  rw [blkL_prune bl i hi]
  constructor
  · intro h s hs
    simp only at h
    simp only [h, Bool.false_eq_true, if_false, List.mem_filter] at hs
    simpa using hs.2
  · intro s hs
    simp only [List.mem_filter] at hs
    simpa using hs.2

/-! ### transfer of executions to a CFG that agrees on the blocks visited -/

theorem stepB_core {env : Env} {B B' : Block} (h : B'.core = B.core) (c : Config) :
    stepB env B' c = stepB env B c := by
  simp only [stepB, core_stmts h, core_succs h, core_pred h]

theorem stepB_target {env : Env} {B : Block} {c c' : Config} (h : stepB env B c = some c') :
    c'.b = c.b ∨ c'.b ∈ B.succs := by
  simp only [stepB] at h
  split at h
  · rename_i st _
    simp only [Option.some.injEq] at h; subst h
    left
    cases st <;> simp only [execB] <;> first | rfl | (split <;> rfl)
  · split at h
    · rename_i t ht
      simp only [Option.some.injEq] at h; subst h
      right; rw [ht]; simp
    · rename_i f t ht
      split at h
      · simp only [Option.some.injEq] at h; subst h
        right; rw [ht]; simp only
        split <;> simp
      · cases h
    · cases h

theorem step_transfer {env : Env} {bl bl' : List Block} {c c' : Config} (R : Nat → Prop)
    (hlen : bl.length = bl'.length)
    (hcore : ∀ b, R b → (blkL bl' b).core = (blkL bl b).core)
    (hclosed : ∀ b, R b → ∀ s ∈ (blkL bl b).succs, R s)
    (hR : R c.b) (hs : step env bl c = some c') : step env bl' c = some c' ∧ R c'.b := by
  have hc := hcore c.b hR
  simp only [step] at hs ⊢
  by_cases hb : c.b < bl.length
  · rw [blkL_some hb] at hs
    rw [blkL_some (hlen ▸ hb)]
    simp only at hs ⊢
    rw [stepB_core hc]
    refine ⟨hs, ?_⟩
    rcases stepB_target hs with h | h
    · rw [h]; exact hR
    · exact hclosed c.b hR _ h
  · rw [List.getElem?_eq_none (Nat.le_of_not_lt hb)] at hs; cases hs

theorem steps_transfer {env : Env} {bl bl' : List Block} {c c' : Config} (R : Nat → Prop)
    (hlen : bl.length = bl'.length)
    (hcore : ∀ b, R b → (blkL bl' b).core = (blkL bl b).core)
    (hclosed : ∀ b, R b → ∀ s ∈ (blkL bl b).succs, R s)
    (hR : R c.b) (hs : Steps env bl c c') : Steps env bl' c c' ∧ R c'.b := by
  induction hs with
  | refl _ => exact ⟨.refl _, hR⟩
  | head h _ ih =>
    obtain ⟨h1, h2⟩ := step_transfer R hlen hcore hclosed hR h
    obtain ⟨h3, h4⟩ := ih h2
    exact ⟨.head h1 h3, h4⟩

theorem Steps.path {env : Env} {bl : List Block} {c c' : Config} (hs : Steps env bl c c') {a : Nat}
    (h : Path bl a c.b) : Path bl a c'.b :=
  (steps_transfer (Path bl a) rfl (fun _ _ => rfl) (fun _ hb _ hs => hb.step hs) h hs).2

theorem run_of_steps {env : Env} {bl : List Block} {c c' : Config} (hs : Steps env bl c c')
    (hh : step env bl c' = none) : ∃ n, run env bl n c = some c' := by
  induction hs with
  | refl _ => exact ⟨1, by simp [run, hh]⟩
  | head h _ ih =>
    obtain ⟨n, hn⟩ := ih hh
    exact ⟨n + 1, by simp [run, h, hn]⟩

theorem core_default : ({} : Block).core = ([], none, []) := rfl

theorem halt_of_core {env : Env} {bl : List Block} {b : Nat} (h : (blkL bl b).core = ([], none, []))
    (s : S) (rv : Option Val) : step env bl ⟨b, 0, s, rv⟩ = none := by
  simp only [step]
  cases hb : bl[b]? with
  | none => rfl
  | some B =>
    have : blkL bl b = B := by simp [blkL, hb]
    rw [this] at h
    have h := h.trans core_default.symm
    simp [stepB, core_stmts h, core_succs h]

theorem core_prune_reach (bl : List Block) (b : Nat) (hr : (blkL bl b).reach = true) :
    (blkL (prune bl) b).core = (blkL bl b).core := by
  by_cases hb : b < bl.length
  · rw [blkL_prune bl b hb]; simp [Block.core, hr]
  · have h1 : blkL bl b = {} := by simp [blkL, List.getElem?_eq_none (Nat.le_of_not_lt hb)]
    rw [h1] at hr; cases hr

/-- `σ'` is `σ` with reachability flags, set exactly where `F` holds (what `buildCfg` prunes) -/
structure Flagged (σ : BState) (F : Nat → Prop) (σ' : BState) : Prop where
  len : σ'.len = σ.len
  core : ∀ j, (σ'.blk j).core = (σ.blk j).core
  dsuccs : ∀ j, (σ'.blk j).dsuccs = (σ.blk j).dsuccs
  reach : ∀ j, j < σ.len → ((σ'.blk j).reach = true ↔ F j)

theorem flagged_setReach (σ : BState) (rs : List Nat) :
    Flagged σ (· ∈ rs) { σ with blocks := setReach rs σ.blocks } := by
  have hb : ∀ j, ({ σ with blocks := setReach rs σ.blocks } : BState).blk j =
      { σ.blk j with reach := rs.contains j && decide (j < σ.len) } := blkL_setReach rs σ.blocks
  exact ⟨length_setReach rs σ.blocks, fun j => by rw [hb]; rfl, fun j => by rw [hb], fun j hj => by rw [hb]; simp [hj]⟩

theorem flagged_link {σ σ' : BState} {F : Nat → Prop} (h : Flagged σ F σ') (a t : Nat) :
    Flagged (link a t σ) F (link a t σ') := by
  have hb : ∀ j, ((link a t σ').blk j).core = ((link a t σ).blk j).core ∧
      ((link a t σ').blk j).dsuccs = ((link a t σ).blk j).dsuccs ∧
      ((link a t σ').blk j).reach = (σ'.blk j).reach := by
    intro j
    simp only [link, blk_upd, h.len]
    split
    · exact ⟨by simp only [Block.core, core_stmts (h.core j), core_pred (h.core j), core_succs (h.core j)],
        h.dsuccs j, rfl⟩
    · exact ⟨h.core j, h.dsuccs j, rfl⟩
  exact ⟨by simp [h.len], fun j => (hb j).1, fun j => (hb j).2.1,
    fun j hj => by rw [(hb j).2.2]; exact h.reach j (by simpa using hj)⟩

/-- flagging one more block (`buildCfg` flags the exit when the final block is reachable) -/
theorem flagged_setFlag {σ σ' : BState} {F : Nat → Prop} (h : Flagged σ F σ') (k : Nat) :
    Flagged σ (fun j => F j ∨ j = k) (σ'.upd k fun B => { B with reach := true }) := by
  have hb : ∀ j, (σ'.upd k fun B => { B with reach := true }).blk j =
      { σ'.blk j with reach := (σ'.blk j).reach || decide (k = j ∧ j < σ'.len) } := by
    intro j
    rw [blk_upd]
    split <;> simp [*]
  refine ⟨by simp [h.len], fun j => by rw [hb]; exact h.core j, fun j => by rw [hb]; exact h.dsuccs j, ?_⟩
  intro j hj
  rw [hb]
  simp [h.reach j hj, h.len, hj, eq_comm (a := k)]

theorem Flagged.congr {σ σ' : BState} {F F' : Nat → Prop} (h : Flagged σ F σ') (hF : ∀ j, F j ↔ F' j) :
    Flagged σ F' σ' :=
  ⟨h.len, h.core, h.dsuccs, fun j hj => (h.reach j hj).trans (hF j)⟩

theorem Path.mono {bl bl' : List Block} (h : ∀ j i, i ∈ (blkL bl j).succs → i ∈ (blkL bl' j).succs) {a b : Nat}
    (p : Path bl a b) : Path bl' a b := by
  induction p with
  | refl => exact .refl _
  | step _ hc ih => exact ih.step (h _ _ hc)

theorem mem_succs_link {σ : BState} {a : Nat} (t : Nat) (ha : a < σ.len) (b c : Nat) :
    c ∈ ((link a t σ).blk b).succs ↔ c ∈ (σ.blk b).succs ∨ (b = a ∧ c = t) := by
  by_cases hb : b = a
  · subst hb; rw [blk_link_same _ _ _ ha]; simp
  · rw [blk_link_other _ _ _ _ hb]; simp [hb]

theorem path_link {σ : BState} {a t : Nat} (ha : a < σ.len) (ht : (σ.blk t).succs = []) (hne : a ≠ t) (j : Nat) :
    Path (link a t σ).blocks 0 j ↔ Path σ.blocks 0 j ∨ (Path σ.blocks 0 a ∧ j = t) := by
  have hm := mem_succs_link t ha
  constructor
  · intro p
    induction p with
    | refl => exact .inl (.refl 0)
    | @step b c _ hc ih =>
      rcases ih, (hm b c).mp hc with ⟨ih | ⟨_, rfl⟩, hc | ⟨rfl, rfl⟩⟩
      · exact .inl (ih.step hc)
      · exact .inr ⟨ih, rfl⟩
      · rw [ht] at hc; cases hc
      · exact absurd rfl hne
  · rintro (p | ⟨p, rfl⟩)
    · exact p.mono fun b c h => (hm b c).mpr (.inl h)
    · exact (p.mono fun b c h => (hm b c).mpr (.inl h)).step ((hm a j).mpr (.inr ⟨rfl, rfl⟩))

/-- the state `build` leaves for a function body -/
abbrev bodyBuild (p : Stmt) : BState × Option Nat := build p 0 (some 0) ⟨1, none, none⟩ initState

theorem init_open : (0 : Nat) < initState.len ∧ (initState.blk 0).succs = [] := by decide

theorem bodyBuild_built (p : Stmt) : BuiltS initState 0 ⟨1, none, none⟩ (bodyBuild p) :=
  builtS p 0 0 ⟨1, none, none⟩ initState init_open.1 init_open.2

/-- the state whose blocks `buildCfg` flags and prunes: `build`'s, with the final block (when the body can fall off
    its end) linked to the exit -/
def finalState (p : Stmt) : BState :=
  match (bodyBuild p).2 with
  | none => (bodyBuild p).1
  | some fin => link fin 1 (bodyBuild p).1

theorem finalState_none {p : Stmt} (h : (bodyBuild p).2 = none) : finalState p = (bodyBuild p).1 := by
  simp only [finalState, h]

theorem finalState_some {p : Stmt} {fin : Nat} (h : (bodyBuild p).2 = some fin) :
    finalState p = link fin 1 (bodyBuild p).1 := by
  simp only [finalState, h]

theorem exit_empty (p : Stmt) : ((bodyBuild p).1.blk 1).core = ([], none, []) := by
  rw [(bodyBuild_built p).touch.frame 1 (by decide) (by decide)]; rfl

theorem final_open {p : Stmt} {fin : Nat} (h : (bodyBuild p).2 = some fin) :
    fin ≠ 1 ∧ fin < (bodyBuild p).1.len ∧ ((bodyBuild p).1.blk fin).succs = [] := by
  obtain ⟨f1, f2, f3⟩ := (bodyBuild_built p).cur fin h
  have : initState.len = 2 := rfl
  exact ⟨by omega, f2, f3⟩

theorem finalState_ext (p : Stmt) : Ext (bodyBuild p).1 (finalState p).blocks := by
  cases h : (bodyBuild p).2 with
  | none => rw [finalState_none h]; exact Ext.refl _
  | some fin => rw [finalState_some h]; exact (touch_link fin 1 _).ext (final_open h).2.2

theorem finalState_exit (p : Stmt) : ((finalState p).blk 1).core = ([], none, []) := by
  cases h : (bodyBuild p).2 with
  | none => rw [finalState_none h]; exact exit_empty p
  | some fin => rw [finalState_some h, blk_link_other _ _ _ _ (final_open h).1.symm]; exact exit_empty p

theorem finalState_fall {env : Env} {p : Stmt} {fin : Nat} (h : (bodyBuild p).2 = some fin) (s : S) (rv : Option Val) :
    step env (finalState p).blocks ⟨fin, ((bodyBuild p).1.blk fin).stmts.length, s, rv⟩ = some ⟨1, 0, s, rv⟩ := by
  rw [finalState_some h]
  exact step_linked (final_open h).2.1 (final_open h).2.2 (Ext.refl _) s rv

/-- a successful `buildCfg` returns the pruned blocks of the final state with the reachability flags set exactly on
    the blocks reachable from the entry; it insists on `returns_none` when the final block is one of them -/
theorem buildCfg_ok {p : Stmt} {rn : Bool} {g : Cfg} (hb : buildCfg rn p = .ok g) :
    (bodyBuild p).1.internal = false ∧ ∃ σ', g.blocks = prune σ'.blocks ∧
      Flagged (finalState p) (Path (finalState p).blocks 0) σ' ∧
      ∀ fin, (bodyBuild p).2 = some fin → Path (finalState p).blocks 0 fin → rn = true := by
  simp only [buildCfg] at hb
  by_cases hbad : (bodyBuild p).1.bad = true
  · rw [if_pos hbad] at hb; cases hb
  by_cases hint : (bodyBuild p).1.internal = true
  · rw [if_neg hbad, if_pos hint] at hb; cases hb
  rw [if_neg hbad, if_neg hint] at hb
  refine ⟨by simpa using hint, ?_⟩
  cases hreach : reachable (bodyBuild p).1.blocks with
  | none => rw [hreach] at hb; cases hb
  | some rs =>
    rw [hreach] at hb
    have hrs := reachable_iff_path hreach
    have hF := flagged_setReach (bodyBuild p).1 rs
    cases hr2 : (bodyBuild p).2 with
    | none =>
      rw [hr2] at hb; cases hb
      rw [finalState_none hr2]
      -- `by rfl`, so that the flagged state is taken from `hF`: the unifier would look for it by unfolding `build`
      exact ⟨_, by rfl, hF.congr hrs, fun _ h => by cases h⟩
    | some fin =>
      obtain ⟨hne, hlt, _⟩ := final_open hr2
      -- the flags were computed before the final block was linked: the link adds the exit iff that block is flagged
      have hpl : ∀ j, Path (link fin 1 (bodyBuild p).1).blocks 0 j ↔ j ∈ rs ∨ (fin ∈ rs ∧ j = 1) := fun j => by
        rw [path_link hlt (core_succs ((exit_empty p).trans core_default.symm)) hne, ← hrs, ← hrs]
      rw [hr2] at hb; rw [finalState_some hr2]
      simp only at hb
      by_cases hc : rs.contains fin = true
      · rw [if_pos hc] at hb
        have hc := List.contains_iff_mem.mp hc
        by_cases hrn : rn = true
        · rw [if_pos hrn] at hb; cases hb
          exact ⟨_, by rfl, (flagged_setFlag (flagged_link hF fin 1) 1).congr fun j => by simp [hpl, hc], fun _ _ _ => hrn⟩
        · rw [if_neg hrn] at hb; cases hb
      · rw [if_neg hc] at hb; cases hb
        have hc : fin ∉ rs := fun h => hc (List.contains_iff_mem.mpr h)
        exact ⟨_, by rfl, (flagged_link hF fin 1).congr fun j => by simp [hpl, hc],
          fun f hf hp => by cases hf; simp [hpl, hc] at hp⟩

theorem run_pruned {env : Env} {σ σ' : BState} (h : Flagged σ (Path σ.blocks 0) σ') {c : Config} {e : Nat} {s : S}
    {rv : Option Val} (h0 : Path σ.blocks 0 c.b) (hs : Steps env σ.blocks c ⟨e, 0, s, rv⟩)
    (he : (σ.blk e).core = ([], none, [])) : ∃ n, run env (prune σ'.blocks) n c = some ⟨e, 0, s, rv⟩ := by
  have hcore : ∀ b, Path σ.blocks 0 b → (blkL (prune σ'.blocks) b).core = (σ.blk b).core := by
    intro b hb
    by_cases hbl : b < σ.len
    · rw [core_prune_reach _ _ ((h.reach b hbl).mpr hb)]; exact h.core b
    · rw [empty_of_ge σ (Nat.le_of_not_lt hbl)]
      have : blkL (prune σ'.blocks) b = {} := by
        simp [blkL, List.getElem?_eq_none (show (prune σ'.blocks).length ≤ b by
          rw [length_prune]; have := h.len; show σ'.len ≤ b; omega)]
      rw [this]
  obtain ⟨t1, t2⟩ := steps_transfer _ (by rw [length_prune]; exact h.len.symm) hcore (fun _ hb _ hs => hb.step hs) h0 hs
  exact run_of_steps t1 (halt_of_core (by rw [hcore e t2]; exact he) s rv)

theorem buildCfg_correct {env : Env} {p : Stmt} {rn : Bool} {g : Cfg} {st0 : Store} {o : Outcome} {st' : S}
    (hu : userS p = true) (hsc : loopScoped p false = true)
    (hb : buildCfg rn p = .ok g) (hex : Exec env p (st0, []) o st') :
    ∃ (n : Nat) (c : Config), run env g.blocks n ⟨0, 0, (st0, []), none⟩ = some c ∧ c.b = 1 ∧
      c.s.2 = st'.2 ∧ agreeU c.s.1 st'.1 ∧
      ((∃ v, o = .ret v ∧ c.ret = some v) ∨ (o = .normal ∧ c.ret = none ∧ rn = true)) := by
  obtain ⟨stc, q1, q2, _, q3⟩ : PostS env (finalState p).blocks ⟨1, none, none⟩ (bodyBuild p) o ⟨0, 0, (st0, []), none⟩ 0 st' :=
    (sem_stmt hex).1 0 0 ⟨1, none, none⟩ initState _ false (st0, []) none hu hsc
      (fun h => by cases h) init_open.1 init_open.2 (finalState_ext p) (agreeU.refl _) rfl
  obtain ⟨_, σ', hg, hFl, hrn⟩ := buildCfg_ok hb
  rw [hg]
  cases o with
  | brk => obtain ⟨t, e1, _⟩ := q3; cases e1
  | cont => obtain ⟨t, e1, _⟩ := q3; cases e1
  | ret v =>
    obtain ⟨n, hn⟩ := run_pruned hFl (.refl 0) q3 (finalState_exit p)
    exact ⟨n, _, hn, rfl, q2, q1, Or.inl ⟨v, rfl, rfl⟩⟩
  | normal =>
    -- the run comes to the end of the final block, which is therefore flagged, and falls through to the exit
    obtain ⟨fin, e1, e2⟩ := q3
    obtain ⟨n, hn⟩ := run_pruned hFl (.refl 0) (e2.trans (Steps.single (finalState_fall e1 stc none))) (finalState_exit p)
    exact ⟨n, _, hn, rfl, q2, q1, Or.inr ⟨rfl, rfl, hrn fin e1 (e2.path (.refl 0))⟩⟩

end GuppyVerif.Builder
