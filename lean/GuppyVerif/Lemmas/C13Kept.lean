import GuppyVerif.Spec.C13
/-! Un-monomorphized positions (`keptIdx`), `compile_variable_idx`, `rem_args`: by induction on the mono args,
    a `None` in front is position 0 and the positions of the rest move up by one. -/
namespace GuppyVerif.Instantiate
open GuppyVerif

theorem keptFrom_succ : ∀ (m : PInst) (k : Nat), keptFrom (k + 1) m = (keptFrom k m).map (· + 1)
  | [], _ => rfl
  | none :: m, k => by simp only [keptFrom, List.map_cons, keptFrom_succ m (k + 1)]
  | some _ :: m, k => by simp only [keptFrom, keptFrom_succ m (k + 1)]

theorem keptIdx_none_cons (m : PInst) : keptIdx (none :: m) = 0 :: (keptIdx m).map (· + 1) := by
  simp only [keptIdx, keptFrom, keptFrom_succ]

theorem keptIdx_some_cons (v : Arg) (m : PInst) : keptIdx (some v :: m) = (keptIdx m).map (· + 1) := by
  simp only [keptIdx, keptFrom, keptFrom_succ]

theorem keptIdx_sorted : ∀ m : PInst, (keptIdx m).Pairwise (· < ·)
  | [] => .nil
  | none :: m => by
    rw [keptIdx_none_cons, List.pairwise_cons, List.pairwise_map]
    exact ⟨fun i hi => by obtain ⟨_, _, rfl⟩ := List.mem_map.mp hi; exact Nat.succ_pos _,
      (keptIdx_sorted m).imp Nat.succ_lt_succ⟩
  | some _ :: m => by
    rw [keptIdx_some_cons, List.pairwise_map]
    exact (keptIdx_sorted m).imp Nat.succ_lt_succ

theorem keptIdx_get : ∀ (m : PInst) (j i : Nat),
    (keptIdx m)[j]? = some i ↔ (m[i]? = some none ∧ (m.take i).countP Option.isNone = j)
  | [], j, i => by simp [keptIdx, keptFrom]
  | none :: m, 0, 0 => by simp [keptIdx_none_cons]
  | none :: m, 0, i + 1 => by simp [keptIdx_none_cons]
  | none :: m, j + 1, 0 => by simp [keptIdx_none_cons]
  | none :: m, j + 1, i + 1 => by simp [keptIdx_none_cons, keptIdx_get m j i]
  | some v :: m, j, 0 => by simp [keptIdx_some_cons]
  | some v :: m, j, i + 1 => by simp [keptIdx_some_cons, keptIdx_get m j i]

theorem compileVariableIdx_iff (m : PInst) (i j : Nat) :
    compileVariableIdx i m = some j ↔ (keptIdx m)[j]? = some i := by
  rw [keptIdx_get, compileVariableIdx]
  rcases m[i]? with _ | _ | _ <;> simp

theorem mem_keptIdx (m : PInst) (i : Nat) : i ∈ keptIdx m ↔ m[i]? = some none := by
  simp only [List.mem_iff_getElem?, keptIdx_get, exists_and_left, exists_eq', and_true]

theorem remArgs_get : ∀ (args : List Arg) (m : PInst) (j i : Nat), args.length = m.length →
    (keptIdx m)[j]? = some i → (remArgs args m)[j]? = args[i]? ∧ (args[i]?).isSome
  | [], [], _, _, _, h => by cases h
  | [], _ :: _, _, _, hl, _ | _ :: _, [], _, _, hl, _ => by cases hl
  | a :: args, none :: m, 0, i, _, h => by
    rw [keptIdx_none_cons] at h
    cases h
    exact ⟨rfl, rfl⟩
  | a :: args, none :: m, j + 1, i, hl, h => by
    rw [keptIdx_none_cons, List.getElem?_cons_succ, List.getElem?_map, Option.map_eq_some_iff] at h
    obtain ⟨i', h, rfl⟩ := h
    exact remArgs_get args m j i' (Nat.succ.inj hl) h
  | a :: args, some v :: m, j, i, hl, h => by
    rw [keptIdx_some_cons, List.getElem?_map, Option.map_eq_some_iff] at h
    obtain ⟨i', h, rfl⟩ := h
    exact remArgs_get args m j i' (Nat.succ.inj hl) h

theorem remArgs_length : ∀ (args : List Arg) (m : PInst), args.length = m.length →
    (remArgs args m).length = (keptIdx m).length
  | [], [], _ => rfl
  | [], _ :: _, hl | _ :: _, [], hl => by cases hl
  | a :: args, none :: m, hl => by
    simp only [keptIdx_none_cons, remArgs, Option.isNone_none, ↓reduceIte, List.length_cons, List.length_map,
      remArgs_length args m (Nat.succ.inj hl)]
  | a :: args, some v :: m, hl => by
    simp only [keptIdx_some_cons, remArgs, Option.isNone_some, Bool.false_eq_true, ↓reduceIte, List.length_map,
      remArgs_length args m (Nat.succ.inj hl)]

end GuppyVerif.Instantiate
