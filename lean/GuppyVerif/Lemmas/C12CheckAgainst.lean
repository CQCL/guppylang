import GuppyVerif.Lemmas.C12Fuel
import GuppyVerif.Lemmas.C12Lin
/-! `check_type_against` on a generic function value (`checkAgainst`), with the facts about `instB` (`Instantiator`),
    `resolve` (`resolve_subst`) and well-sortedness it shares with the call path. -/
namespace GuppyVerif.Unify

theorem bound_of_closed_apply {σ : Subst} {t : Tm} {f : V} (hf : f ∈ t.vars) (hc : (apply σ t).vars = []) :
    ∃ u, lookup σ f = some u ∧ u.vars = [] :=
  asFun_closed_iff.mp (List.flatMap_eq_nil_iff.mp (vars_inst (asFun σ) t ▸ hc) f hf)

theorem wfArgs_cons (a : Tm) (as : List Tm) : wfArgs (a :: as) = (wfArgs [a] && wfArgs as) := by
  cases a <;> simp [wfArgs]

theorem wfArgs_iff (as : List Tm) : wfArgs as = true ↔ ∀ a ∈ as, wfArgs [a] = true := by
  induction as with
  | nil => simp [wfArgs]
  | cons a as ih => rw [wfArgs_cons]; simp [ih]

theorem wf_of_hom {f : Tm → Tm} {fh : Head → List Tm → Head} (hf : Hom f fh) (hv : ∀ v, (f (.var v)).wf = true)
    (ha : ∀ a, (f (.atom a)).wf = true) :
    ∀ t : Tm, (t.wf = true → (f t).wf = true) ∧ (wfArgs [t] = true → wfArgs [f t] = true) := by
  intro t
  induction t using Tm.induct with
  | var v => exact ⟨fun _ => hv v, fun h => by simp [wfArgs] at h⟩
  | atom a => exact ⟨fun _ => ha a, fun h => by simp [wfArgs] at h⟩
  | node h as ih =>
    refine ⟨fun hw => ?_, fun h => by simp [wfArgs] at h⟩
    rw [hf.node]
    simp only [Tm.wf] at hw ⊢
    rw [wfArgs_iff] at hw ⊢
    intro b hb
    obtain ⟨a, ha, rfl⟩ := List.mem_map.mp hb
    exact (ih a ha).2 (hw a ha)
  | targ t ih => exact ⟨fun h => by simp [Tm.wf] at h, fun h => by rw [hf.targ]; simpa [wfArgs] using ih.1 (by simpa [wfArgs] using h)⟩
  | carg t ih => exact ⟨fun h => by simp [Tm.wf] at h, fun h => by rw [hf.carg]; simpa [wfArgs] using ih.1 (by simpa [wfArgs] using h)⟩

theorem wf_inst {θ : V → Tm} (hθ : ∀ v, (θ v).wf = true) {t : Tm} (h : t.wf = true) : (inst θ t).wf = true :=
  (wf_of_hom (.inst θ) hθ (fun _ => rfl) t).1 h

theorem wf_apply {σ : Subst} (hσ : WfSubst σ) {t : Tm} (ht : t.wf = true) : (apply σ t).wf = true := by
  refine wf_inst (fun v => ?_) ht
  cases hl : lookup σ v with
  | none => rw [asFun_of_none hl]; rfl
  | some u => rw [asFun_of_some hl]; exact hσ v u hl

theorem instBList_eq (ρ : List Tm) (as : List Tm) : instBList ρ as = as.map (instB ρ) := by
  induction as with
  | nil => rfl
  | cons a as ih => simp [instBList, ih]

theorem Hom.instB (ρ : List Tm) : Hom (instB ρ) (fun h _ => h) :=
  ⟨fun _ _ => by simp [Unify.instB, instBList_eq], fun _ => rfl, fun _ => rfl⟩

theorem instB_atom_of {P : Tm → Prop} {ρ : List Tm} (hρ : ∀ r ∈ ρ, P r) (ha : ∀ b, P (.atom b)) (a : Atom) :
    P (instB ρ (.atom a)) := by
  cases a with
  | bvar i | cbvar i =>
    simp only [instB]
    split
    · exact hρ _ (List.getElem_mem _)
    · exact ha _
  | _ => exact ha _

/-- a map that fixes atoms can be applied to `ρ` instead of to the entry that replaces a bound variable -/
theorem instB_atom_map (g : Tm → Tm) (hg : ∀ b, g (.atom b) = .atom b) (ρ : List Tm) (a : Atom) :
    g (instB ρ (.atom a)) = instB (ρ.map g) (.atom a) := by
  cases a with
  | bvar i | cbvar i => simp only [instB, List.length_map]; split <;> simp [hg]
  | _ => exact hg _

theorem varsList_nil {as : List Tm} (h : varsList as = []) : ∀ a ∈ as, a.vars = [] := by
  rw [varsList_eq] at h
  exact List.flatMap_eq_nil_iff.mp h

/-- instantiating the fresh variables of `unquantified()` afterwards = instantiating the parameters directly -/
theorem inst_instB (θ : V → Tm) (fresh : List V) (t : Tm) (ht : t.vars = []) :
    inst θ (instB (fresh.map .var) t) = instB (fresh.map θ) t :=
  ((Hom.inst θ).comp (.instB _)).ext (.instB _)
    (fun a => by rw [instB_atom_map (inst θ) (fun _ => rfl), List.map_map]; rfl) (fun _ _ => rfl) t (by simp [ht])

theorem erase_instB (ρ : List Tm) (t : Tm) : erase (instB ρ t) = instB (ρ.map erase) (erase t) :=
  (Hom.erase.comp (.instB ρ)).ext ((Hom.instB _).comp .erase) (instB_atom_map erase (fun _ => rfl) ρ)
    (fun _ _ => rfl) t fun _ _ => rfl

theorem mem_vars_instB {ρ : List Tm} {z : V} : ∀ t : Tm, z ∈ (instB ρ t).vars →
    z ∈ t.vars ∨ ∃ r ∈ ρ, z ∈ r.vars := by
  intro t
  induction t using Tm.induct with
  | var v => exact .inl
  | atom a =>
    exact instB_atom_of (P := fun t => z ∈ t.vars → _) (fun r hr hz => .inr ⟨r, hr, hz⟩) (fun _ => .inl) a
  | node h as ih =>
    intro hz
    simp only [instB, Tm.vars, instBList_eq] at hz ⊢
    obtain ⟨b, hb, hzb⟩ := mem_varsList.mp hz
    obtain ⟨a, ha, rfl⟩ := List.mem_map.mp hb
    exact (ih a ha hzb).imp_left fun h => mem_varsList.mpr ⟨a, ha, h⟩
  | targ t ih => exact ih
  | carg t ih => exact ih

theorem vars_instB_closed (ρ : List Tm) (hρ : ∀ r ∈ ρ, r.vars = []) {t : Tm} (ht : t.vars = []) :
    (instB ρ t).vars = [] := by
  refine List.eq_nil_iff_forall_not_mem.mpr fun z hz => ?_
  rcases mem_vars_instB t hz with h | ⟨r, hr, h⟩
  · rw [ht] at h; cases h
  · rw [hρ r hr] at h; cases h

theorem vars_instB_fresh (fresh : List V) {t : Tm} (ht : t.vars = []) {z : V}
    (hz : z ∈ (instB (fresh.map Tm.var) t).vars) : z ∈ fresh := by
  rcases mem_vars_instB t hz with h | ⟨r, hr, h⟩
  · rw [ht] at h; cases h
  · obtain ⟨f, hf, rfl⟩ := List.mem_map.mp hr
    simp only [Tm.vars, List.mem_singleton] at h
    exact h ▸ hf

theorem wf_instB {ρ : List Tm} (hρ : ∀ r ∈ ρ, r.wf = true) {t : Tm} (h : t.wf = true) : (instB ρ t).wf = true :=
  (wf_of_hom (.instB ρ) (fun _ => rfl) (instB_atom_of hρ fun _ => rfl) t).1 h

theorem wf_instB_vars (fresh : List V) {t : Tm} (h : t.wf = true) : (instB (fresh.map Tm.var) t).wf = true :=
  wf_instB (fun r hr => by obtain ⟨v, _, rfl⟩ := List.mem_map.mp hr; rfl) h

theorem map_asFun_zip : ∀ (fresh : List V) (ρ : List Tm), fresh.Nodup → ρ.length = fresh.length →
    fresh.map (asFun (fresh.zip ρ)) = ρ := by
  intro fresh
  induction fresh with
  | nil => intro ρ _ h; exact (List.length_eq_zero_iff.mp h).symm
  | cons f fresh ih =>
    intro ρ hnd hl
    cases ρ with
    | nil => simp at hl
    | cons r ρ =>
      have hnd' := List.nodup_cons.mp hnd
      simp only [List.zip_cons_cons, List.map_cons, List.cons.injEq]
      refine ⟨by simp [asFun, lookup_cons], ?_⟩
      rw [← ih ρ hnd'.2 (by simpa using hl)]
      refine List.map_congr_left fun g hg => ?_
      have : f ≠ g := fun e => hnd'.1 (e ▸ hg)
      simp only [asFun, lookup_cons, this, if_false]
      rw [ih ρ hnd'.2 (by simpa using hl)]

theorem asFun_resolve (σ : Subst) : asFun (resolve σ) = passes σ (σ.length + 1) := by
  funext y
  rw [passes_succ_inst]
  unfold asFun resolve
  rw [lookup_map_snd]
  cases hl : lookup σ y with
  | none => simp [inst, passes_unbound hl]
  | some u => exact applyN_eq_inst σ _ u

theorem resolve_solves {σ : Subst} (ha : Acyclic σ) : Solves (asFun (resolve σ)) σ :=
  asFun_resolve σ ▸ SolvesX.solves (passes_len_solves ha (Nat.le_succ _))

theorem firstBad_eq_none {σ : Subst} : ∀ (fresh : List V) (i : Nat),
    firstBad σ i fresh = none ↔ ∀ f ∈ fresh, ∃ u, lookup σ f = some u ∧ u.vars = [] := by
  intro fresh
  induction fresh with
  | nil => intro i; simp [firstBad]
  | cons g fresh ih =>
    intro i
    simp only [firstBad, List.mem_cons, forall_eq_or_imp]
    cases lookup σ g with
    | none => simp
    | some u => by_cases hu : u.vars = [] <;> simp [hu, ih]

theorem firstBad_ne_ok {σ : Subst} (ins : List Tm) (σ' : Subst) : ∀ (fresh : List V) (i : Nat),
    firstBad σ i fresh ≠ some (.ok ins σ') := by
  intro fresh
  induction fresh with
  | nil => intro i h; cases h
  | cons g fresh ih =>
    intro i h
    simp only [firstBad] at h
    split at h
    · cases h
    · split at h
      · exact ih _ h
      · cases h

theorem checkAgainst_ok_iff {E : Env} {fuel p0 : Nat} {exp : Tm} {fresh : List V} {fl : List Nat} {p : Nat}
    {args ins : List Tm} {σ' : Subst} :
    checkAgainst E fuel p0 exp fresh (.node (.func fl p) args) = .ok ins σ' ↔
      ∃ σ, unify E fuel exp (.node (.func fl p0) (instBList (fresh.map .var) args)) [] = .ok σ ∧
        (∀ f ∈ fresh, ∃ u, lookup (resolve σ) f = some u ∧ u.vars = []) ∧
        ins = fresh.map (asFun (resolve σ)) ∧ σ' = (resolve σ).filter fun p => exp.vars.contains p.1 := by
  simp only [checkAgainst]
  cases unify E fuel exp (.node (.func fl p0) (instBList (fresh.map .var) args)) [] with
  | oof => simp
  | fail => simp
  | ok σ =>
    simp only [Res.ok.injEq, exists_eq_left', ← firstBad_eq_none fresh 0]
    cases hb : firstBad (resolve σ) 0 fresh with
    | some r => simp only [reduceCtorEq, false_and, iff_false]; rintro rfl; exact firstBad_ne_ok _ _ _ _ hb
    | none =>
      simp only [CallRes.ok.injEq, true_and]
      exact ⟨fun h => ⟨h.1.symm, h.2.symm⟩, fun h => ⟨h.1.symm, h.2.symm⟩⟩

theorem checkAgainst_sound {E : Env} {fuel p0 : Nat} {exp : Tm} {fresh : List V} {fl : List Nat} {p : Nat}
    {args ins : List Tm} {σ' : Subst} (hact : ∀ a ∈ args, a.vars = [])
    (h : checkAgainst E fuel p0 exp fresh (.node (.func fl p) args) = .ok ins σ') :
    FlagEq (apply σ' exp) (.node (.func fl p0) (instBList ins args)) ∧
      ins.length = fresh.length ∧ ∀ t ∈ ins, t.vars = [] := by
  obtain ⟨σ, hu, hsolved, rfl, rfl⟩ := checkAgainst_ok_iff.mp h
  have g := unify_good hu
  refine ⟨?_, by simp, ?_⟩
  · -- both sides are instances under the resolved substitution, which solves `σ`
    have e1 : apply ((resolve σ).filter fun p => exp.vars.contains p.1) exp = inst (asFun (resolve σ)) exp := by
      refine inst_congr _ fun y hy => ?_
      unfold asFun
      rw [lookup_filter fun v => exp.vars.contains v]
      simp [hy]
    have e2 : inst (asFun (resolve σ)) (.node (.func fl p0) (instBList (fresh.map .var) args)) =
        .node (.func fl p0) (instBList (fresh.map (asFun (resolve σ))) args) := by
      simp only [inst, instList_eq, instBList_eq, List.map_map, Tm.node.injEq, true_and]
      exact List.map_congr_left fun a ha => inst_instB _ fresh a (hact a ha)
    rw [e1, ← e2]
    exact g.eq _ (resolve_solves (g.acyc acyclic_nil))
  · intro t ht
    obtain ⟨f, hf, rfl⟩ := List.mem_map.mp ht
    exact asFun_closed_iff.mpr (hsolved f hf)

/-- any expected type, inference variables allowed; the right-hand side says that the principal instantiation is
    variable-free -/
theorem checkAgainst_iff (E : Env) (hE : NoLinear E) (p0 : Nat) (exp : Tm) (fresh : List V)
    (fl : List Nat) (p : Nat) (args : List Tm) (hexpwf : exp.wf = true) (hactwf : wfArgs args = true) :
    (∃ n ins σ', checkAgainst E n p0 exp fresh (.node (.func fl p) args) = .ok ins σ') ↔
      (∃ θ, Unifies θ exp (.node (.func fl p0) (instBList (fresh.map .var) args))) ∧
        ∀ θ, Unifies θ exp (.node (.func fl p0) (instBList (fresh.map .var) args)) → ∀ f ∈ fresh, (θ f).vars = [] := by
  have hbw : (Tm.node (.func fl p0) (instBList (fresh.map .var) args)).wf = true := by
    simpa [instB] using wf_instB_vars fresh (t := .node (.func fl p0) args) (by simpa [Tm.wf] using hactwf)
  constructor
  · rintro ⟨n, ins, σ', h⟩
    obtain ⟨σ, hu, hsolved, -, -⟩ := checkAgainst_ok_iff.mp h
    have g := unify_good hu
    refine ⟨⟨_, g.eq _ (resolve_solves (g.acyc acyclic_nil))⟩, fun θ hθ f hf => ?_⟩
    -- most general: `θ = θ ∘ σᵏ` up to flags, and `|σ|+1` passes of `σ` map `f` to a variable-free term
    have hsol := (unify_complBy (Reading.flags hE θ) n _ _ [] hexpwf hbw wfSubst_nil (.nil _ θ) hθ).solves hu
    obtain ⟨u, hl, hv⟩ := hsolved f hf
    have := SolvesBy.applyN erase_inst_congr hsol (σ.length + 1) (.var f)
    rw [show applyN σ (σ.length + 1) (.var f) = asFun (resolve σ) f from congrFun (asFun_resolve σ).symm f] at this
    rw [asFun_of_some hl, inst_closed hv] at this
    exact closed_of_flagEq this.symm hv
  · rintro ⟨⟨θ₀, hθ₀⟩, hcl⟩
    obtain ⟨n, σ, hst⟩ := unify_ok_of_not_fail E exp _ [] acyclic_nil fun n =>
      (unify_complBy (Reading.flags hE θ₀) n exp _ [] hexpwf hbw wfSubst_nil (.nil _ θ₀) hθ₀).ne_fail
    have g := unify_good (hst n (Nat.le_refl _))
    refine ⟨n, _, _, checkAgainst_ok_iff.mpr ⟨σ, hst n (Nat.le_refl _), fun f hf => ?_, rfl, rfl⟩⟩
    -- the resolved result is itself a unifier
    exact asFun_closed_iff.mp (hcl _ (g.eq _ (resolve_solves (g.acyc acyclic_nil))) f hf)

end GuppyVerif.Unify
