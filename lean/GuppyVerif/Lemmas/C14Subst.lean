import GuppyVerif.Lemmas.Basic
import GuppyVerif.Lemmas.C14Basic
/-! Substitution lemmas: evaluating the definition's field types under the environment of the arguments equals
    evaluating the instantiated field types (what Python does); for the flags, then for `toHugrE`. -/
namespace GuppyVerif.CopyDrop
open GuppyVerif

theorem instVar_some {σ : List Arg} {n : String} {i : Nat} {c d : Bool} {t' : Ty}
    (h : instVar σ n i c d = some t') :
    σ[i]? = some (.ty t') ∨ (¬ i < σ.length ∧ t' = .bvar n (i - σ.length) c d) := by
  unfold instVar at h
  split at h
  · split at h
    · cases h; exact .inl ‹_›
    · cases h
  · cases h; exact .inr ⟨‹_›, rfl⟩

mutual
theorem flagG_subst (D : List OpaqueDef) (u : Bool) (s : Sel) :
    ∀ (t : Ty) (σ : List Arg) (ρ : List Bool) (t' : Ty), Ty.inst σ t = some t' →
      flagG D u s ρ t' = flagG D u s (flagEnvArgs D u s ρ σ ++ ρ) t
  | .num _, _, _, _, h | .none _, _, _, _, h | .evar _ _ _ _, _, _, _, h => by cases h; rfl
  | .bvar n i c d, σ, ρ, t', h => by
      simp only [flagG, flagEnvArgs_eq_map]
      rcases instVar_some h with hs | ⟨hge, rfl⟩
      · rw [List.getElem?_map_append_of_some _ _ hs]; rfl
      · rw [List.getElem?_map_append_of_ge _ _ _ hge]; rfl
  | .tuple ts p, σ, ρ, t', h => by
      simp only [Ty.inst] at h
      obtain ⟨ts', hts, ⟨⟩⟩ := Option.bind_eq_some_iff.mp h
      simp only [flagG, flagGList_subst D u s ts σ ρ ts' hts]
  | .func ins o ps cs, σ, ρ, t', h => by
      simp only [Ty.inst] at h
      split at h
      · obtain ⟨_, _, h⟩ := Option.bind_eq_some_iff.mp h
        obtain ⟨_, _, h⟩ := Option.bind_eq_some_iff.mp h
        obtain ⟨_, _, ⟨⟩⟩ := Option.bind_eq_some_iff.mp h
        rfl
      · cases h
  | .opaque n as, σ, ρ, t', h => by
      simp only [Ty.inst] at h
      obtain ⟨as', has, ⟨⟩⟩ := Option.bind_eq_some_iff.mp h
      simp only [flagG, (flagGArgs_subst D u s as σ ρ as' has).1]
  | .struct n as fs, σ, ρ, t', h => by
      simp only [Ty.inst] at h
      obtain ⟨as', has, ⟨⟩⟩ := Option.bind_eq_some_iff.mp h
      simp only [flagG, (flagGArgs_subst D u s as σ ρ as' has).1, (flagGArgs_subst D u s as σ ρ as' has).2]
termination_by structural x => x
theorem flagGList_subst (D : List OpaqueDef) (u : Bool) (s : Sel) :
    ∀ (ts : List Ty) (σ : List Arg) (ρ : List Bool) (ts' : List Ty), Ty.instList σ ts = some ts' →
      flagGList D u s ρ ts' = flagGList D u s (flagEnvArgs D u s ρ σ ++ ρ) ts
  | [], σ, ρ, ts', h => by cases h; rfl
  | t :: r, σ, ρ, ts', h => by
      simp only [Ty.instList] at h
      obtain ⟨t', h1, h⟩ := Option.bind_eq_some_iff.mp h
      obtain ⟨r', h2, ⟨⟩⟩ := Option.bind_eq_some_iff.mp h
      simp only [flagGList, flagG_subst D u s t σ ρ _ h1, flagGList_subst D u s r σ ρ _ h2]
termination_by structural x => x
theorem flagGArgs_subst (D : List OpaqueDef) (u : Bool) (s : Sel) :
    ∀ (as : List Arg) (σ : List Arg) (ρ : List Bool) (as' : List Arg), Arg.instList σ as = some as' →
      flagGArgs D u s ρ as' = flagGArgs D u s (flagEnvArgs D u s ρ σ ++ ρ) as ∧
      flagEnvArgs D u s ρ as' = flagEnvArgs D u s (flagEnvArgs D u s ρ σ ++ ρ) as
  | [], σ, ρ, as', h => by cases h; exact ⟨rfl, rfl⟩
  | .ty t :: r, σ, ρ, as', h => by
      simp only [Arg.instList, Arg.inst] at h
      obtain ⟨_, h, h'⟩ := Option.bind_eq_some_iff.mp h
      obtain ⟨t', h1, ⟨⟩⟩ := Option.bind_eq_some_iff.mp h
      obtain ⟨r', h2, ⟨⟩⟩ := Option.bind_eq_some_iff.mp h'
      simp only [flagGArgs, flagEnvArgs, flagG_subst D u s t σ ρ _ h1, flagGArgs_subst D u s r σ ρ _ h2,
        and_self]
  | .const c :: r, σ, ρ, as', h => by
      simp only [Arg.instList, Arg.inst] at h
      obtain ⟨_, h, h'⟩ := Option.bind_eq_some_iff.mp h
      obtain ⟨c', _, ⟨⟩⟩ := Option.bind_eq_some_iff.mp h
      obtain ⟨r', h2, ⟨⟩⟩ := Option.bind_eq_some_iff.mp h'
      simp only [flagGArgs, flagEnvArgs, flagGArgs_subst D u s r σ ρ _ h2, and_self]
termination_by structural x => x
end

/-- an environment entry with its two flags reduced to `lin` (`EnvE.data`); only `argData_subst` at the end of the file speaks of it -/
inductive ArgData where
  | ty (h : Option HTy) (row : Option (List HTy)) (lin : Bool)
  | const (a : Option HArg)

def argData (D : List OpaqueDef) (ρ : List EnvE) : Arg → ArgData
  | .ty t => .ty (toHugrE D ρ t) (rowOf ρ t (toHugrE D ρ t))
      (!flagE D .copy (flagEnv .copy ρ) t && !flagE D .drop (flagEnv .drop ρ) t)
  | .const c => .const (constArgE ρ c)

def EnvE.data : EnvE → ArgData
  | .ty c d h row => .ty h row (!c && !d)
  | .const a => .const a

theorem map_argData (D : List OpaqueDef) (ρ : List EnvE) (as : List Arg) :
    as.map (argData D ρ) = (envArgs D ρ as).map EnvE.data := by
  rw [envArgs_eq_map, List.map_map]
  exact List.map_congr_left fun a _ => by cases a <;> rfl

theorem flagEnv_append (D : List OpaqueDef) (s : Sel) (ρ : List EnvE) (σ : List Arg) :
    flagEnv s (envArgs D ρ σ ++ ρ) = flagEnvArgs D true s (flagEnv s ρ) σ ++ flagEnv s ρ := by
  rw [flagEnv, List.map_append, envArgs_eq_map, flagEnvArgs_eq_map, List.map_map]
  congr 1
  exact List.map_congr_left fun a _ => by cases a <;> cases s <;> rfl

theorem flagE_subst (D : List OpaqueDef) (ρ : List EnvE) (σ : List Arg) (t t' : Ty)
    (h : Ty.inst σ t = some t') (s : Sel) :
    flagE D s (flagEnv s ρ) t' = flagE D s (flagEnv s (envArgs D ρ σ ++ ρ)) t := by
  rw [flagEnv_append]
  exact flagG_subst D true s t σ (flagEnv s ρ) t' h

theorem constArgE_subst (D : List OpaqueDef) (ρ : List EnvE) (σ : List Arg) (c c' : Const)
    (h : Const.inst σ c = some c') : constArgE ρ c' = constArgE (envArgs D ρ σ ++ ρ) c := by
  cases c with
  | val t v =>
    cases h
    -- a value does not look at the environment
    cases t <;> try rfl
    rename_i k; cases k <;> cases v <;> rfl
  | evar t n i =>
    simp only [Const.inst] at h
    obtain ⟨_, _, ⟨⟩⟩ := Option.bind_eq_some_iff.mp h
    rfl
  | bvar t n i =>
    simp only [Const.inst] at h
    simp only [constArgE, envArgs_eq_map]
    split at h
    · split at h
      · cases h; rw [List.getElem?_map_append_of_some _ _ ‹_›]; rfl
      · cases h
    · cases h
      rw [List.getElem?_map_append_of_ge _ _ _ ‹_›]
      simp only [List.length_append, List.length_map, Nat.sub_sub]

theorem subst_pair {D : List OpaqueDef} {ρ ρ' : List EnvE} {t t' : Ty}
    (e : toHugrE D ρ t' = toHugrE D ρ' t) (hr : ∀ h, rowOf ρ t' h = rowOf ρ' t h) :
    toHugrE D ρ t' = toHugrE D ρ' t ∧ toRowE D ρ t' = toRowE D ρ' t :=
  ⟨e, by rw [toRowE, toRowE, e, hr]⟩

mutual
theorem toHugrE_subst (D : List OpaqueDef) :
    ∀ (t : Ty) (σ : List Arg) (ρ : List EnvE) (t' : Ty), Ty.inst σ t = some t' →
      toHugrE D ρ t' = toHugrE D (envArgs D ρ σ ++ ρ) t ∧
      toRowE D ρ t' = toRowE D (envArgs D ρ σ ++ ρ) t
  | .num _, _, _, _, h | .evar _ _ _ _, _, _, _, h => by cases h; exact ⟨rfl, rfl⟩
  | .none p, _, _, _, h => by cases h; cases p <;> exact ⟨rfl, rfl⟩
  | .bvar n i c d, σ, ρ, t', h => by
      simp only [toHugrE, toRowE, rowOf, varH, varRow, envArgs_eq_map]
      rcases instVar_some h with hs | ⟨hge, rfl⟩
      · rw [List.getElem?_map_append_of_some _ _ hs]; exact ⟨rfl, rfl⟩
      · rw [List.getElem?_map_append_of_ge _ _ _ hge]
        simp only [toHugrE, varH, List.length_append, List.length_map, Nat.sub_sub, and_self]
  | .tuple ts p, σ, ρ, t', h => by
      simp only [Ty.inst] at h
      obtain ⟨ts', hts, ⟨⟩⟩ := Option.bind_eq_some_iff.mp h
      exact subst_pair (by simp only [toHugrE, toHugrEList_subst D ts σ ρ ts' hts]) fun _ => by cases p <;> rfl
  | .func ins o ps cs, σ, ρ, t', h => by
      simp only [Ty.inst] at h
      split at h
      · rename_i hps
        obtain ⟨ins', h1, h⟩ := Option.bind_eq_some_iff.mp h
        obtain ⟨o', h2, h⟩ := Option.bind_eq_some_iff.mp h
        obtain ⟨cs', _, ⟨⟩⟩ := Option.bind_eq_some_iff.mp h
        have ei := funcIns_subst D ins σ ρ ins' h1
        have eo := (toHugrE_subst D o σ ρ o' h2).2
        simp only [toRowE] at eo
        exact subst_pair (by simp only [toHugrE, hps, ei.1, ei.2, eo, List.isEmpty_nil]) fun _ => rfl
      · cases h
  | .struct n as fs, σ, ρ, t', h => by
      simp only [Ty.inst] at h
      obtain ⟨as', has, ⟨⟩⟩ := Option.bind_eq_some_iff.mp h
      exact subst_pair (by simp only [toHugrE, envArgs_subst D as σ ρ as' has]) fun _ => rfl
  | .opaque n as, σ, ρ, t', h => by
      simp only [Ty.inst] at h
      obtain ⟨as', has, ⟨⟩⟩ := Option.bind_eq_some_iff.mp h
      exact subst_pair (by simp only [toHugrE_opaque_eq, envArgs_subst D as σ ρ as' has]) fun _ => rfl
termination_by structural x => x
theorem toHugrEList_subst (D : List OpaqueDef) :
    ∀ (ts : List Ty) (σ : List Arg) (ρ : List EnvE) (ts' : List Ty), Ty.instList σ ts = some ts' →
      toHugrEList D ρ ts' = toHugrEList D (envArgs D ρ σ ++ ρ) ts
  | [], σ, ρ, ts', h => by cases h; rfl
  | t :: r, σ, ρ, ts', h => by
      simp only [Ty.instList] at h
      obtain ⟨t', h1, h⟩ := Option.bind_eq_some_iff.mp h
      obtain ⟨r', h2, ⟨⟩⟩ := Option.bind_eq_some_iff.mp h
      simp only [toHugrEList, (toHugrE_subst D t σ ρ _ h1).1, toHugrEList_subst D r σ ρ _ h2]
termination_by structural x => x
theorem funcIns_subst (D : List OpaqueDef) :
    ∀ (ins : List FuncIn) (σ : List Arg) (ρ : List EnvE) (ins' : List FuncIn),
      FuncIn.instList σ ins = some ins' →
      funcInsE D ρ ins' = funcInsE D (envArgs D ρ σ ++ ρ) ins ∧
      funcInoutsE D ρ ins' = funcInoutsE D (envArgs D ρ σ ++ ρ) ins
  | [], σ, ρ, ins', h => by cases h; exact ⟨rfl, rfl⟩
  | .mk t f :: r, σ, ρ, ins', h => by
      simp only [FuncIn.instList, FuncIn.inst] at h
      obtain ⟨_, h, h'⟩ := Option.bind_eq_some_iff.mp h
      obtain ⟨t', h1, ⟨⟩⟩ := Option.bind_eq_some_iff.mp h
      obtain ⟨r', h2, ⟨⟩⟩ := Option.bind_eq_some_iff.mp h'
      simp only [funcInsE, funcInoutsE, (toHugrE_subst D t σ ρ _ h1).1, funcIns_subst D r σ ρ _ h2, and_self]
termination_by structural x => x
theorem envArgs_subst (D : List OpaqueDef) :
    ∀ (as : List Arg) (σ : List Arg) (ρ : List EnvE) (as' : List Arg), Arg.instList σ as = some as' →
      envArgs D ρ as' = envArgs D (envArgs D ρ σ ++ ρ) as
  | [], σ, ρ, as', h => by cases h; rfl
  | .ty t :: r, σ, ρ, as', h => by
      simp only [Arg.instList, Arg.inst] at h
      obtain ⟨_, h, h'⟩ := Option.bind_eq_some_iff.mp h
      obtain ⟨t', h1, ⟨⟩⟩ := Option.bind_eq_some_iff.mp h
      obtain ⟨r', h2, ⟨⟩⟩ := Option.bind_eq_some_iff.mp h'
      have e := toHugrE_subst D t σ ρ _ h1
      simp only [toRowE] at e
      simp only [envArgs]
      rw [e.2, e.1, flagE_subst D ρ σ t _ h1, flagE_subst D ρ σ t _ h1, envArgs_subst D r σ ρ _ h2]
  | .const c :: r, σ, ρ, as', h => by
      simp only [Arg.instList, Arg.inst] at h
      obtain ⟨_, h, h'⟩ := Option.bind_eq_some_iff.mp h
      obtain ⟨c', h1, ⟨⟩⟩ := Option.bind_eq_some_iff.mp h
      obtain ⟨r', h2, ⟨⟩⟩ := Option.bind_eq_some_iff.mp h'
      simp only [envArgs, constArgE_subst D ρ σ c _ h1, envArgs_subst D r σ ρ _ h2]
termination_by structural x => x
end

-- `envArgs_subst` read through `EnvE.data`; nothing uses it
theorem argData_subst (D : List OpaqueDef) :
    ∀ (as : List Arg) (σ : List Arg) (ρ : List EnvE) (as' : List Arg), Arg.instList σ as = some as' →
      as'.map (argData D ρ) = as.map (argData D (envArgs D ρ σ ++ ρ))
  | as, σ, ρ, as', h => by rw [map_argData, map_argData, envArgs_subst D as σ ρ as' h]

end GuppyVerif.CopyDrop
