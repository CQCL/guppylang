import GuppyVerif.Lemmas.C08Bfs
/-! Termination of the model of `check_cfg`: the BFS pops every queued edge once and compiles every
    block at most once, so an explicit amount of fuel always suffices.  Of C08Bfs only the equations of `findC` and
    `revEnum` are used. -/
namespace GuppyVerif.UseDef
open GuppyVerif.Dataflow

/-- total number of outgoing (real and dummy) edges of the listed blocks that are not compiled yet -/
def pendingW (U : UCfg) (comp : Compiled) : List Blk → Nat
  | [] => 0
  | c :: cs => (if (findC c comp).isNone then (U.succ c ++ U.dsucc c).length else 0) + pendingW U comp cs

/-- recording `b` takes its out-edges off the weight -/
theorem pendingW_cons (U : UCfg) {b : Blk} (r : Row × List Row) {comp : Compiled}
    (hn : findC b comp = none) (l : List Blk) :
    pendingW U ((b, r) :: comp) l + (if b ∈ l then (U.succ b ++ U.dsucc b).length else 0) ≤
      pendingW U comp l := by
  induction l with
  | nil => exact Nat.le_refl _
  | cons c cs ih =>
    simp only [pendingW, findC_cons, List.mem_cons]
    by_cases hcb : c = b
    · subst hcb
      simp only [↓reduceIte, Option.isNone_some, hn, Option.isNone_none, true_or, Bool.false_eq_true]
      split at ih <;> omega
    · have hbc : ¬ b = c := fun e => hcb e.symm
      simp only [hcb, hbc, false_or, ↓reduceIte]
      omega

theorem length_revEnum (p : Blk) (ss : List Blk) : (revEnum p ss).length = ss.length := by
  simp [revEnum, enumFrom_eq]

theorem mem_revEnum_succ {p q : Blk} {i : Nat} {s : Blk} {ss : List Blk}
    (h : (q, i, s) ∈ revEnum p ss) : s ∈ ss :=
  List.mem_of_getElem? (mem_revEnum.mp h).2

theorem bfs_isSome (U : UCfg) (A : Ana)
    (hcl : ∀ b ∈ U.blocks, ∀ s ∈ U.succ b ++ U.dsucc b, s ∈ U.blocks) :
    ∀ (fuel : Nat) (q : List (Blk × Nat × Blk)) (comp : Compiled),
      (∀ e ∈ q, e.2.2 ∈ U.blocks) → q.length + pendingW U comp U.blocks ≤ fuel →
      (bfs U A fuel q comp).isSome = true := by
  intro fuel
  induction fuel with
  | zero =>
    intro q comp _ hle
    cases q with
    | nil => simp [bfs]
    | cons a q => simp at hle
  | succ n ih =>
    intro q comp hq hle
    cases q with
    | nil => simp [bfs]
    | cons a q =>
      obtain ⟨p, i, b⟩ := a
      simp only [bfs]
      have hb : b ∈ U.blocks := hq (p, i, b) List.mem_cons_self
      have hq' : ∀ e ∈ q, e.2.2 ∈ U.blocks := fun e he => hq e (List.mem_cons_of_mem _ he)
      simp only [List.length_cons] at hle
      split
      · rfl
      · split
        · split
          · exact ih q comp hq' (by omega)
          · rfl
        · rename_i hfb
          split
          · rfl
          · rename_i inputRow _ _ _ outs _
            apply ih
            · intro e he
              rw [List.mem_append] at he
              rcases he with he | he
              · exact hq' e he
              · obtain ⟨q1, i1, s1⟩ := e
                exact hcl b hb s1 (mem_revEnum_succ he)
            · have := pendingW_cons U (inputRow, outs) hfb U.blocks
              simp only [hb, ↓reduceIte, List.length_append, length_revEnum] at this ⊢
              omega

/-- fuel that always suffices for `check_cfg`'s BFS -/
def bfsBound (U : UCfg) : Nat :=
  (U.succ U.entry ++ U.dsucc U.entry).length + pendingW U [] U.blocks

theorem checkCfg_isSome (U : UCfg) (hU : U.WF) (A : Ana) (fuel : Nat) (hf : bfsBound U ≤ fuel) :
    (checkCfg U A fuel).isSome = true := by
  unfold checkCfg
  split
  · rfl
  · rename_i outs _
    apply bfs_isSome U A
    · intro b hb s hs
      exact hU.cfg.closed b hb s hs
    · intro e he
      obtain ⟨q1, i1, s1⟩ := e
      exact hU.cfg.closed _ hU.entry_mem s1 (mem_revEnum_succ he)
    · have := pendingW_cons U (b := U.entry) (comp := []) (U.args, outs) rfl U.blocks
      simp only [length_revEnum]
      unfold bfsBound at hf
      omega

end GuppyVerif.UseDef
