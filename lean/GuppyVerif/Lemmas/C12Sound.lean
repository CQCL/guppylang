import GuppyVerif.Lemmas.C12Unif
import GuppyVerif.Lemmas.C12Passes
/-! Soundness of `unify` for every fuel, once for every reading of "identical" in which the descent
    into arguments is justified (`Descends`), and its instance for identity up to flags (`Good`; with C12Passes, under
    full application: `Good.flagEq_applyN`). -/
namespace GuppyVerif.Unify

/-- heads pass `unify`'s test and arguments identical in the reading ⇒ the instances by `θ` are identical in it -/
structure Descends (E : Env) (θ : V → Tm) (N : Tm → Tm) : Prop where
  hom : ∃ nh, Hom N nh
  node : ∀ {h₁ h₂ as bs}, headsOk E h₁ h₂ as bs →
    as.map (fun a => N (inst θ a)) = bs.map (fun a => N (inst θ a)) →
    N (inst θ (.node h₁ as)) = N (inst θ (.node h₂ bs))

theorem Unif.sound {E : Env} {θ : V → Tm} {N : Tm → Tm} (D : Descends E θ N) {s t : Tm} {σ σ' : Subst}
    (h : Unif E s t σ (.ok σ')) : Extends σ σ' ∧ (SolvesBy N θ σ' → N (inst θ s) = N (inst θ t)) := by
  refine Unif.ok_rec (P := fun s t σ σ' => Extends σ σ' ∧ (SolvesBy N θ σ' → N (inst θ s) = N (inst θ t)))
    (Q := fun as bs σ σ' => Extends σ σ' ∧
      (SolvesBy N θ σ' → as.map (fun a => N (inst θ a)) = bs.map (fun a => N (inst θ a))))
    (same := ⟨.refl _, fun _ => rfl⟩) (swap := fun g => ⟨g.1, fun hs => (g.2 hs).symm⟩)
    (left := fun hv g => ⟨g.1, fun hs => (hs _ _ (g.1 _ _ hv)).trans (g.2 hs)⟩)
    (right := fun hw g => ⟨g.1, fun hs => (g.2 hs).trans (hs _ _ (g.1 _ _ hw)).symm⟩)
    (bind := fun hv _ => ⟨.cons _ hv, fun hs => hs _ _ (if_pos rfl)⟩)
    (args := fun ok q => ⟨q.1, fun hs => D.node ok (q.2 hs)⟩) (nil := ⟨.refl _, fun _ => rfl⟩) (cons := ?cons) h
  case cons =>
    intro a b x y as bs σ σ₁ σ' hp g q
    refine ⟨g.1.trans q.1, fun hs => ?_⟩
    obtain ⟨_, hN⟩ := D.hom
    exact List.cons_eq_cons.mpr ⟨(hp.congr (hN.comp (.inst θ))).mpr (g.2 (hs.of_extends q.1)), q.2 hs⟩

theorem Descends.flags (E : Env) (θ : V → Tm) : Descends E θ erase where
  hom := ⟨_, .erase⟩
  node ok h := by
    simp only [inst, erase, instList_eq, eraseList_eq, List.map_map, ok.1]
    exact congrArg _ h

structure Good (σ σ' : Subst) (s t : Tm) : Prop where
  ext : Extends σ σ'
  eq : ∀ θ, Solves θ σ' → FlagEq (inst θ s) (inst θ t)
  acyc : Acyclic σ → Acyclic σ'

-- `Unif.sound` states `Extends` together with the part about `θ` (its induction needs both); for `ext` any `θ` does
theorem unify_good {E : Env} {f : Nat} {s t : Tm} {σ σ' : Subst} (h : unify E f s t σ = .ok σ') :
    Good σ σ' s t :=
  have run := unify_ok_run h
  ⟨(run.sound (Descends.flags E .var)).1, fun θ hθ => (run.sound (Descends.flags E θ)).2 (solves_iff_solvesBy.mp hθ),
    run.acyclic⟩

theorem Good.flagEq_applyN {σ₀ σ : Subst} {s t : Tm} (g : Good σ₀ σ s t) (ha : Acyclic σ) {n : Nat}
    (hn : σ.length ≤ n) : FlagEq (applyN σ n s) (applyN σ n t) := by
  rw [applyN_eq_inst, applyN_eq_inst]
  exact g.eq _ (SolvesX.solves (passes_len_solves ha hn))

end GuppyVerif.Unify
