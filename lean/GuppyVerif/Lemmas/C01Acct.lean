import GuppyVerif.Lemmas.C01Store
/-! Wire accounting for `getitem` on a place stored as leaves: the wires consumed and the result balance
    the leaf wires and the wires produced; linear sub-places are forgotten afterwards. -/
namespace GuppyVerif.DFWiring

mutual
/-- `leafWires` of `Spec/C01.lean` by recursion on the type (equal under `Holds`: `Holds.leafWs_eq`) -/
def leafWs (L : Locals) (p : PlaceId) : Ty → List Wire
  | .leaf _ _ => (L p).toList
  | .node _ cs => leafWsList L p 0 cs
def leafWsList (L : Locals) (p : PlaceId) (i : Nat) : List Ty → List Wire
  | [] => []
  | t :: ts => leafWs L (i :: p) t ++ leafWsList L p (i + 1) ts
end

mutual
theorem leafWs_congr {L L' : Locals} : ∀ (t : Ty) (p : PlaceId),
    (∀ q, p <:+ q → L' q = L q) → leafWs L' p t = leafWs L p t
  | .leaf _ _, p, h => by simp [leafWs, h p (List.suffix_refl p)]
  | .node _ cs, p, h => by
    simp only [leafWs]
    exact leafWsList_congr cs p 0 (fun j q _ hq => h q (under_child_trans hq))
theorem leafWsList_congr {L L' : Locals} : ∀ (ts : List Ty) (p : PlaceId) (i : Nat),
    (∀ j q, i ≤ j → (j :: p) <:+ q → L' q = L q) → leafWsList L' p i ts = leafWsList L p i ts
  | [], _, _, _ => by simp [leafWsList]
  | t :: ts, p, i, h => by
    simp only [leafWsList]
    rw [leafWs_congr t (i :: p) (fun q hq => h i q (Nat.le_refl i) hq),
      leafWsList_congr ts p (i + 1) (fun j q hj hq => h j q (by omega) hq)]
end

theorem consumed_append (a b : List Op) : consumed (a ++ b) = consumed a ++ consumed b := by
  induction a with
  | nil => simp [consumed]
  | cons o os ih => cases o <;> simp [consumed, ih]

theorem produced_append (a b : List Op) : produced (a ++ b) = produced a ++ produced b := by
  induction a with
  | nil => simp [produced]
  | cons o os ih => cases o <;> simp [produced, ih]

/-- what `getitem` leaves in `locals` strictly below `p` -/
def AfterP (L L2 : Locals) (p : PlaceId) (t : Ty) : Prop :=
  ∀ s t', s ≠ [] → t.at s = some t' →
    (t'.linear = true → L2 (sub p s) = none) ∧
    (t'.linear = false → t'.isLeaf = true → L2 (sub p s) = L (sub p s))

structure AcctOk (L : Locals) (n : Nat) (p : PlaceId) (t : Ty) (w : Wire) (L2 : Locals) (n2 : Nat)
    (ops : List Op) : Prop where
  balance : ∀ x, (consumed ops).count x + [w].count x = (leafWs L p t).count x + (produced ops).count x
  fresh : ∀ x ∈ produced ops, n ≤ x.node ∧ x.node < n2
  makes : ∀ op ∈ ops, ∃ u ins, op = Op.make u ins
  kept : t.isLeaf = true → L2 p = L p
  newWire : t.isLeaf = false → n ≤ w.node
  after : AfterP L L2 p t

def AcctPost (L : Locals) (n : Nat) (p : PlaceId) (t : Ty)
    (r : Wire × Locals × Nat × List Op) : Prop :=
  AcctOk L n p t r.1 r.2.1 r.2.2.1 r.2.2.2

structure AcctListOk (L : Locals) (n : Nat) (p : PlaceId) (i : Nat) (ts : List Ty) (ws : List Wire)
    (L2 : Locals) (n2 : Nat) (ops : List Op) : Prop where
  balance : ∀ x,
    (consumed ops).count x + ws.count x = (leafWsList L p i ts).count x + (produced ops).count x
  fresh : ∀ x ∈ produced ops, n ≤ x.node ∧ x.node < n2
  makes : ∀ op ∈ ops, ∃ u ins, op = Op.make u ins
  children : ∀ j t, i ≤ j → ts[j - i]? = some t →
    AfterP L L2 (j :: p) t ∧ (t.isLeaf = true → L2 (j :: p) = L (j :: p))

def AcctListPost (L : Locals) (n : Nat) (p : PlaceId) (i : Nat) (ts : List Ty)
    (r : List Wire × Locals × Nat × List Op) : Prop :=
  (∀ x, (consumed r.2.2.2).count x + r.1.count x
      = (leafWsList L p i ts).count x + (produced r.2.2.2).count x) ∧
  (∀ x ∈ produced r.2.2.2, n ≤ x.node ∧ x.node < r.2.2.1) ∧
  (∀ op ∈ r.2.2.2, ∃ u ins, op = Op.make u ins) ∧
  (∀ j t, i ≤ j → ts[j - i]? = some t →
    AfterP L r.2.1 (j :: p) t ∧ (t.isLeaf = true → r.2.1 (j :: p) = L (j :: p)))

/-- `AcctListPost` is the form `getitemList_acct` is stated in; proofs use `AcctListOk` -/
theorem acctListPost_iff {L : Locals} {n : Nat} {p : PlaceId} {i : Nat} {ts : List Ty}
    {r : List Wire × Locals × Nat × List Op} :
    AcctListPost L n p i ts r ↔ AcctListOk L n p i ts r.1 r.2.1 r.2.2.1 r.2.2.2 :=
  ⟨fun ⟨a, b, c, d⟩ => ⟨a, b, c, d⟩, fun h => ⟨h.balance, h.fresh, h.makes, h.children⟩⟩

section
variable {L L1 L2 : Locals} {n n1 n2 : Nat} {p : PlaceId} {i : Nat} {t : Ty} {ts : List Ty} {w : Wire}
  {ws : List Wire} {o1 o2 : List Op}

theorem AcctOk.leaf {c d : Bool} (h : L p = some w) : AcctOk L n p (.leaf c d) w L n [] where
  balance := by simp [consumed, produced, leafWs, h]
  fresh := by simp [produced]
  makes := by simp
  kept _ := rfl
  newWire := by simp [Ty.isLeaf]
  after s t' hs hat := by
    cases s with
    | nil => exact absurd rfl hs
    | cons j s => simp [Ty.at] at hat

theorem AcctOk.pack {k : Kind} {cs : List Ty} (a1 : n ≤ n1) (P : Popped L1 p 0 cs L2)
    (C : AcctListOk L n p 0 cs ws L1 n1 o1) :
    AcctOk L n p (.node k cs) ⟨n1, 0⟩ (L2.set p ⟨n1, 0⟩) (n1 + 1) (o1 ++ [.make n1 ws]) where
  balance x := by
    have := C.balance x
    simp only [consumed_append, produced_append, consumed, produced, List.append_nil,
      List.count_append, leafWs]
    omega
  fresh x hx := by
    simp only [produced_append, produced, List.mem_append, List.mem_cons, List.not_mem_nil,
      or_false] at hx
    rcases hx with hx | hx
    · have := C.fresh x hx; omega
    · subst hx; simp only; omega
  makes op hop := by
    simp only [List.mem_append, List.mem_cons, List.not_mem_nil, or_false] at hop
    exact hop.elim (C.makes op) fun hop => ⟨n1, ws, hop⟩
  kept := by simp [Ty.isLeaf]
  newWire _ := a1
  after s t' hs hat := by
    cases s with
    | nil => exact absurd rfl hs
    | cons j s =>
      obtain ⟨tj, hj, hat'⟩ := at_node_cons hat
      have hc := C.children j tj (Nat.zero_le j) (by simpa using hj)
      rw [sub_cons]
      have hne : sub (j :: p) s ≠ p := under_child_ne (under_sub (j :: p) s)
      simp only [Locals.set_apply, hne, ↓reduceIte]
      cases s with
      | nil =>
        have := at_nil hat'; subst this
        simp only [sub, List.reverse_nil, List.nil_append]
        rw [P.child j _ (Nat.zero_le j) (by simpa using hj)]
        exact ⟨fun hlin => if_pos hlin, fun hnl hleaf => by rw [if_neg (by simp [hnl])]; exact hc.2 hleaf⟩
      | cons j' s' =>
        rw [P.other _ (fun j'' _ _ _ => grandchild_ne_child (under_sub (j :: p) _)
          (fun e => by have := congrArg List.length e; simp [sub_length] at this) j'')]
        exact hc.1 (j' :: s') t' (by simp) hat'

theorem AcctListOk.nil : AcctListOk L n p i [] [] L n [] :=
  ⟨by simp [consumed, produced, leafWsList], by simp [produced], by simp, by simp⟩

/-- `G`, `GL` only say what the two reads leave alone in `locals` and that the supply grows -/
theorem AcctListOk.cons {env env1 env2 : Env} {q : PVal} {qs : List PVal} {v : Val} {vs : List Val}
    (G : GetOk L n (i :: p) env t q v w L1 n1 o1 env1)
    (GL : GetListOk L1 n1 p (i + 1) env1 ts qs vs ws L2 n2 o2 env2)
    (A : AcctOk L n (i :: p) t w L1 n1 o1) (B : AcctListOk L1 n1 p (i + 1) ts ws L2 n2 o2) :
    AcctListOk L n p i (t :: ts) (w :: ws) L2 n2 (o1 ++ o2) where
  balance x := by
    have h1 := A.balance x
    have h2 := B.balance x
    rw [leafWsList_congr ts p (i + 1) G.later] at h2
    simp only [consumed_append, produced_append, List.count_append, leafWsList]
    rw [show w :: ws = [w] ++ ws from rfl, List.count_append]
    omega
  fresh x hx := by
    have := G.ran.le
    have := GL.ran.le
    rw [produced_append, List.mem_append] at hx
    rcases hx with hx | hx
    · have := A.fresh x hx; omega
    · have := B.fresh x hx; omega
  makes op hop := (List.mem_append.mp hop).elim (A.makes op) (B.makes op)
  children := (List.forall_children_cons i t ts).mpr
    ⟨⟨fun s t' hs hat => by rw [GL.below _ (under_sub _ _)]; exact A.after s t' hs hat,
        fun hleaf => by rw [GL.below _ (List.suffix_refl _)]; exact A.kept hleaf⟩,
      fun j t' hj ht' => by
        obtain ⟨e1, e2⟩ := B.children j t' hj ht'
        refine ⟨fun s t'' hs hat => ?_,
          fun hleaf => by rw [e2 hleaf]; exact G.later j _ hj (List.suffix_refl _)⟩
        have := e1 s t'' hs hat
        rwa [G.later j _ hj (under_sub _ _)] at this⟩

end

/- The account mentions neither `env` nor `v`; `Holds` is assumed because the proof calls `getitem_post`
   for the run to succeed and for what each read leaves alone. -/
mutual
theorem getitem_acct : ∀ (t : Ty) (L : Locals) (n : Nat) (p : PlaceId) (env : Env) (v : Val)
    (r : Wire × Locals × Nat × List Op),
    Holds n L env p t v → getitem L n p t = .ok r → AcctPost L n p t r
  | .leaf _ _, L, n, p, env, v, r, h, hr => by
    simp only [Holds] at h
    obtain ⟨w, h1, _, _⟩ := h
    simp only [getitem, h1, Except.ok.injEq] at hr
    subst hr
    exact .leaf h1
  | .node k cs, L, n, p, env, .tup vs, r, h, hr => by
    simp only [Holds] at h
    obtain ⟨ws, L1, n1, ops1, env1, e1, G⟩ := goodGetListPost_iff.mp (getitemList_post h.2)
    obtain ⟨L2, b1, P⟩ := popLinear_spec cs L1 p 0 G.present
    simp only [getitem, h.1, e1, b1, Except.ok.injEq] at hr
    subst hr
    exact .pack G.ran.le P (acctListPost_iff.mp (getitemList_acct cs L n p 0 env vs _ h.2 e1))
  | .node _ _, _, _, _, _, .atom _, _, h, _ => by simp [Holds] at h
theorem getitemList_acct : ∀ (ts : List Ty) (L : Locals) (n : Nat) (p : PlaceId) (i : Nat)
    (env : Env) (vs : List Val) (r : List Wire × Locals × Nat × List Op),
    HoldsList n L env p i ts vs → getitemList L n p i ts = .ok r → AcctListPost L n p i ts r
  | [], L, n, p, i, env, [], r, _, hr => by
    simp only [getitemList, Except.ok.injEq] at hr
    subst hr
    exact acctListPost_iff.mpr .nil
  | t :: ts, L, n, p, i, env, v :: vs, r, h, hr => by
    simp only [HoldsList] at h
    obtain ⟨w1, L1, n1, o1, env1, e1, G⟩ := getitem_post h.1
    have hrest := h.2.frame G.ran.toExt ts p (i + 1) vs G.later
    obtain ⟨ws, L2, n2, o2, env2, e2, GL⟩ := goodGetListPost_iff.mp (getitemList_post hrest)
    simp only [getitemList, e1, e2, Except.ok.injEq] at hr
    subst hr
    exact acctListPost_iff.mpr (.cons G GL (getitem_acct t L n (i :: p) env v _ h.1 e1)
      (acctListPost_iff.mp (getitemList_acct ts L1 n1 p (i + 1) env1 vs _ hrest e2)))
  | [], _, _, _, _, _, _ :: _, _, h, _ => by simp [HoldsList] at h
  | _ :: _, _, _, _, _, _, [], _, h, _ => by simp [HoldsList] at h
end

end GuppyVerif.DFWiring
