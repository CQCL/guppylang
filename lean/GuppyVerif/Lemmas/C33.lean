import GuppyVerif.Spec.C33
/-! The model's manager objects refine the object-free scoping interpreter (`exec_sim`),
which on `with <new object>:` programs agrees with the lexical reading (`run_lex`). -/
namespace GuppyVerif.FeatureGate

open Spec

theorem exit_flag (o : Obj) (s : State) : (exit o s).flag = o.original := by
  unfold exit; cases o.kind <;> rfl

theorem exit_env (o : Obj) (s : State) : (exit o s).env = s.env := by
  unfold exit; cases o.kind <;> rfl

theorem gate_eq_verdict (f : Feature) (s : State) : gate f s = verdict f s.flag := by
  unfold gate verdict; cases s.flag <;> rfl

theorem savedOf_cons (x : Nat) (o : Obj) (env : List (Nat × Obj)) :
    savedOf ((x, o) :: env) = upd (savedOf env) x o.original := by
  funext y
  by_cases h : y = x <;> simp [savedOf, upd, lookup, h]

/-- what a run of the model shows, in the specification's terms -/
def Result.out (r : Result) : Out := ⟨r.trace, r.state.flag, savedOf r.state.env, r.raised⟩

theorem exec_sim (p : Prog) : ∀ s : State, (exec p s).out = run p s.flag (savedOf s.env) := by
  induction p with
  | skip => intro s; rfl
  | seq p q ihp ihq =>
    intro s
    simp only [exec, run, ← ihp s, ← ihq (exec p s).state, Result.out]
    cases h : (exec p s).raised <;> simp [h]
  | call k => intro s; rfl
  | withNew k body ih =>
    intro s
    simp only [exec, run, construct, withObj, enter, exitSwallows, ← ih ⟨k.target, s.env⟩, Result.out, exit_flag,
      exit_env, Bool.not_false, Bool.and_true]
  | bind x k => intro s; simp [exec, run, construct, savedOf_cons, Result.out]
  | withVar x body ih =>
    intro s
    simp only [exec, run, ← ih s]
    cases hl : lookup x s.env with
    | none => simp [savedOf, hl, Result.out]
    | some o => simp [savedOf, hl, Result.out, withObj, enter, exitSwallows, exit_flag, exit_env]
  | check f => intro s; simp [exec, run, gate_eq_verdict, Result.out]
  | raise => intro s; rfl
  | tryCatch body ih => intro s; simp only [exec, run, ← ih s, Result.out]

theorem run_lex (p : Prog) : ∀ (b : Bool) (sv : Nat → Option Bool), isInline p = true →
    run p b sv = ⟨(lex b p).1, b, sv, (lex b p).2⟩ := by
  induction p with
  | seq p q ihp ihq =>
    intro b sv h
    simp only [isInline, Bool.and_eq_true] at h
    simp only [run, lex, ihp b sv h.1, ihq b sv h.2]
    rcases lex b p with ⟨t, _ | _⟩ <;> rfl
  | withNew k body ih => intro b sv h; simp only [run, lex, ih k.target sv h]
  | tryCatch body ih => intro b sv h; simp only [run, lex, ih b sv h]
  | call k | bind x k | withVar x body _ => intro b sv h; simp [isInline] at h
  | skip | check f | raise => intro b sv _; rfl

end GuppyVerif.FeatureGate
