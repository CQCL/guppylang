import GuppyVerif.Lemmas.C07
import GuppyVerif.Lemmas.C07Wire
/-! Wire level, `DFContainer.__setitem__` / `__getitem__` on struct and tuple places (`dset_spec`,
    `dget_spec`, stated with `Emits`), and where the wire level meets the lens: typing invariants on
    store values that follow `getS` / `setS` (`Typing`, `Conf`), focus / update of a sub-place of a
    stored place (`Stored`).  C01 proves the same two Python methods on its own model (ids innermost
    first, `KeyError`, `popEnclosing`): `Unpacked`, `dset_spec`, `dget_spec`, `Emits` here are
    `Holds`, `setitem_post`, `getitem_post`, `Ran` there; nothing is shared. -/
namespace GuppyVerif.Places

/-- structural induction on types: the recursor of the nested inductive, its list motive being
    "every member" -/
theorem Ty.ind {P : Ty → Prop} (q : P .q) (c : P .c) (arr : ∀ t, P (.arr t))
    (tup : ∀ ts, (∀ t ∈ ts, P t) → P (.tup ts)) : ∀ t, P t :=
  @Ty.rec P (fun ts => ∀ t ∈ ts, P t) q c tup (fun t _ => arr t) (fun _ h => nomatch h)
    (fun _ _ h hs _ hm => by cases hm with | head => exact h | tail _ hm => exact hs _ hm)

mutual
/-- the place `p` of type `ty` is stored leaf by leaf (every struct/tuple level unpacked) and
    the leaves carry the parts of `v` -/
def Unpacked (cs : CS) (env : List W) : Ty → PlaceId → V → Prop
  | .tup ts, p, v => cs.find p = none ∧ ∃ vs, v = .tup vs ∧ UnpackedL cs env ts p 0 vs
  | .q, p, v => ∃ w, cs.find p = some w ∧ env[w]? = some (.val v)
  | .c, p, v => ∃ w, cs.find p = some w ∧ env[w]? = some (.val v)
  | .arr _, p, v => ∃ w, cs.find p = some w ∧ env[w]? = some (.val v)
def UnpackedL (cs : CS) (env : List W) : List Ty → PlaceId → Nat → List V → Prop
  | [], _, _, [] => True
  | t :: ts, p, k, v :: vs => Unpacked cs env t (p ++ [.proj k]) v ∧ UnpackedL cs env ts p (k + 1) vs
  | [], _, _, _ :: _ => False
  | _ :: _, _, _, [] => False
end

mutual
/-- `v` has the tuple structure of `ty` down to its leaf places (arrays and qubits are leaves) -/
def Shape : Ty → V → Prop
  | .tup ts, v => ∃ vs, v = .tup vs ∧ ShapeL ts vs
  | .q, _ => True
  | .c, _ => True
  | .arr _, _ => True
def ShapeL : List Ty → List V → Prop
  | [], [] => True
  | t :: ts, v :: vs => Shape t v ∧ ShapeL ts vs
  | [], _ :: _ => False
  | _ :: _, [] => False
end

theorem UnpackedL_iff (cs : CS) (env : List W) (ts : List Ty) (p : PlaceId) (k : Nat) (vs : List V) :
    UnpackedL cs env ts p k vs ↔ ts.length = vs.length ∧ ∀ (i : Nat) (t : Ty), ts[i]? = some t →
      ∃ v, vs[i]? = some v ∧ Unpacked cs env t (p ++ [.proj (k + i)]) v :=
  List.zipPred_iff (P := fun k ts vs => UnpackedL cs env ts p k vs)
    (R := fun k t v => Unpacked cs env t (p ++ [.proj k]) v)
    (fun _ => trivial) (fun _ _ _ _ _ => Iff.rfl) (fun _ _ _ h => h) (fun _ _ _ h => h) ts k vs

theorem ShapeL_iff (ts : List Ty) (vs : List V) : ShapeL ts vs ↔ ts.length = vs.length ∧
    ∀ (i : Nat) (t : Ty), ts[i]? = some t → ∃ v, vs[i]? = some v ∧ Shape t v :=
  List.zipPred_iff (P := fun _ ts vs => ShapeL ts vs) (R := fun _ t v => Shape t v)
    (fun _ => trivial) (fun _ _ _ _ _ => Iff.rfl) (fun _ _ _ h => h) (fun _ _ _ h => h) ts 0 vs

theorem Unpacked_tup {cs : CS} {env : List W} {ts : List Ty} {p : PlaceId} {v : V} :
    Unpacked cs env (.tup ts) p v ↔ cs.find p = none ∧ ∃ vs, v = .tup vs ∧ ts.length = vs.length ∧
      ∀ (i : Nat) (t : Ty), ts[i]? = some t →
        ∃ vi, vs[i]? = some vi ∧ Unpacked cs env t (p ++ [.proj i]) vi := by
  simp only [Unpacked, UnpackedL_iff, Nat.zero_add]

theorem Unpacked_leaf {cs : CS} {env : List W} {ty : Ty} (hleaf : ∀ ts, ty ≠ .tup ts) {p : PlaceId}
    {v : V} : Unpacked cs env ty p v ↔ ∃ w, cs.find p = some w ∧ env[w]? = some (.val v) := by
  cases ty with
  | tup ts => exact absurd rfl (hleaf ts)
  | _ => simp only [Unpacked]

/-- `q` is `p` followed by struct/tuple projections only (no subscript) -/
def ProjExt (p q : PlaceId) : Prop := ∃ ks : List Nat, q = p ++ ks.map .proj

theorem ProjExt.refl (p : PlaceId) : ProjExt p p := ⟨[], by simp⟩
theorem ProjExt.prefix {p q : PlaceId} (h : ProjExt p q) : p <+: q := by
  obtain ⟨ks, rfl⟩ := h; exact List.prefix_append _ _
theorem ProjExt.of_snoc {p q : PlaceId} {k : Nat} (h : ProjExt (p ++ [.proj k]) q) : ProjExt p q := by
  obtain ⟨ks, rfl⟩ := h; exact ⟨k :: ks, by simp⟩

theorem not_prefix_of_snoc_ne {p q : PlaceId} {a b : Nat} (hab : a ≠ b)
    (h : ProjExt (p ++ [.proj a]) q) : ¬ (p ++ [.proj b]) <+: q := fun hb => by
  have := List.prefix_snoc_inj h.prefix hb
  simp at this; exact hab this

theorem Unpacked_frame {cs cs' : CS} {env env' : List W} (he : env <+: env') (ty : Ty) :
    ∀ (p : PlaceId) (v : V), (∀ q, ProjExt p q → cs'.find q = cs.find q) →
      Unpacked cs env ty p v → Unpacked cs' env' ty p v := by
  induction ty using Ty.ind with
  | tup ts ih =>
    intro p v hf h
    rw [Unpacked_tup] at h ⊢
    obtain ⟨h0, vs, hv, hl, hi⟩ := h
    refine ⟨(hf p (.refl p)).trans h0, vs, hv, hl, fun i t ht => ?_⟩
    obtain ⟨vi, h1, h2⟩ := hi i t ht
    exact ⟨vi, h1, ih t (List.mem_of_getElem? ht) _ vi (fun q hq => hf q hq.of_snoc) h2⟩
  | _ =>
    intro p v hf h
    rw [Unpacked_leaf (by simp)] at h ⊢
    obtain ⟨w, h1, h2⟩ := h
    exact ⟨w, (hf p (.refl p)).trans h1, he.getElem?_of_some h2⟩

theorem UnpackedL_frame {cs cs' : CS} {env env' : List W} (he : env <+: env') (ts : List Ty)
    (p : PlaceId) (k : Nat) (vs : List V)
    (hf : ∀ q k', k ≤ k' → ProjExt (p ++ [.proj k']) q → cs'.find q = cs.find q)
    (h : UnpackedL cs env ts p k vs) : UnpackedL cs' env' ts p k vs := by
  rw [UnpackedL_iff] at h ⊢
  exact ⟨h.1, fun i t ht => (h.2 i t ht).imp fun v hv =>
    ⟨hv.1, Unpacked_frame he t _ v (fun q hq => hf q (k + i) (Nat.le_add_right k i) hq) hv.2⟩⟩

theorem range_wires (env : List W) (l : List W) :
    ((List.range l.length).map (· + env.length)).map (fun w => (env ++ l)[w]?) = l.map some := by
  apply List.ext_getElem?
  intro i
  simp only [List.getElem?_map]
  by_cases hi : i < l.length
  · simp [hi, List.getElem?_append_right]
  · simp [hi]

section plumbing
variable (f : V → V) (inputs : List W)

theorem dset_spec_leaf {ty : Ty} (hleaf : ∀ ts, ty ≠ .tup ts) (p : PlaceId) (w : Nat) (cs : CS)
    (env : List W) (v : V) (hS : Sem f inputs cs env) (hw : env[w]? = some (.val v)) :
    Emits f inputs (¬ p <+: ·) cs env (dset ty p w cs) env ∧ Unpacked (dset ty p w cs) env ty p v := by
  rw [dset_leaf hleaf]
  exact ⟨(Emits.refl hS).set p w fun _ => List.ne_of_not_prefix,
    (Unpacked_leaf hleaf).mpr ⟨w, by simp [CS.find_set], hw⟩⟩

mutual
/-- `DFContainer.__setitem__`: binding a place of struct/tuple type to a wire unpacks it down to
    its leaves; nothing outside the place is touched -/
theorem dset_spec : ∀ (ty : Ty) (p : PlaceId) (w : Nat) (cs : CS) (env : List W) (v : V),
    Sem f inputs cs env → env[w]? = some (.val v) → Shape ty v →
    ∃ env', Emits f inputs (¬ p <+: ·) cs env (dset ty p w cs) env' ∧
      Unpacked (dset ty p w cs) env' ty p v
  | .tup ts, p, w, cs, env, v, hS, hw, hsh => by
    simp only [Shape] at hsh
    obtain ⟨vs, rfl, hshl⟩ := hsh
    have hlen := ((ShapeL_iff ts vs).mp hshl).1.symm
    obtain ⟨E1, o1⟩ := (Emits.refl hS).addOp .unpack [w] ts.length [.val (.tup vs)]
      (vs.map .val) (lookupW_of _ _ _ (by simp only [List.map_cons, List.map_nil, hw]))
      rfl (by simp [hlen])
    have hws : ((cs.addOp .unpack [w] ts.length).2).map (fun x => (env ++ vs.map W.val)[x]?)
        = vs.map (fun v => some (W.val v)) := by
      rw [o1, ← hlen]
      simpa [Function.comp_def] using range_wires env (vs.map W.val)
    obtain ⟨d2, E2, U2⟩ := Emits.ofTuple (dsetChildren_spec ts p 0 _ _ _ vs E1.sem hws hshl)
    simp only [dset]
    refine ⟨_, (E1.trans (E2.mono fun q hq k' _ hk' => hq ((List.prefix_append p _).trans hk'))).pop p
      fun _ => List.ne_of_not_prefix, ?_⟩
    simp only [Unpacked]
    refine ⟨by simp [CS.find_pop], vs, rfl,
      UnpackedL_frame (List.prefix_refl _) ts p 0 vs (fun q k' _ hq => ?_) U2⟩
    rw [CS.find_pop, if_neg]
    rintro rfl
    exact List.not_snoc_prefix_self _ _ _ hq.prefix
  | .q, p, w, cs, env, v, hS, hw, _ | .c, p, w, cs, env, v, hS, hw, _
  | .arr _, p, w, cs, env, v, hS, hw, _ =>
    ⟨env, dset_spec_leaf f inputs (by simp) p w cs env v hS hw⟩
theorem dsetChildren_spec : ∀ (ts : List Ty) (p : PlaceId) (k : Nat) (ws : List Nat) (cs : CS)
    (env : List W) (vs : List V), Sem f inputs cs env →
    ws.map (fun x => env[x]?) = vs.map (fun v => some (W.val v)) → ShapeL ts vs →
    ∃ d, Sem f inputs (dsetChildren ts p k ws cs) (env ++ d) ∧
      UnpackedL (dsetChildren ts p k ws cs) (env ++ d) ts p k vs ∧
      (dsetChildren ts p k ws cs).bad = cs.bad ∧
      ∀ q, (∀ k', k ≤ k' → ¬ (p ++ [.proj k']) <+: q) → (dsetChildren ts p k ws cs).find q = cs.find q
  | [], p, k, ws, cs, env, [], hS, _, _ =>
    ⟨[], by rw [List.append_nil]; exact ⟨hS, trivial, rfl, fun _ _ => rfl⟩⟩
  | t :: ts, p, k, ws, cs, env, v :: vs, hS, hws, hsh => by
    simp only [ShapeL] at hsh
    cases ws with
    | nil => simp at hws
    | cons w0 ws' =>
      simp only [List.map_cons, List.cons.injEq] at hws
      obtain ⟨env1, E1, U1⟩ := dset_spec t (p ++ [.proj k]) w0 cs env v hS hws.1 hsh.1
      have hws' : ws'.map (fun x => env1[x]?) = vs.map (fun v => some (W.val v)) := by
        obtain ⟨d, rfl⟩ := E1.pre
        have e : vs.map (fun v => some (W.val v)) = (vs.map W.val).map some := by simp
        exact e ▸ List.map_getElem?_append_some (e ▸ hws.2)
      obtain ⟨d2, E2, U2⟩ :=
        Emits.ofTuple (dsetChildren_spec ts p (k + 1) ws' _ _ vs E1.sem hws' hsh.2)
      simp only [dsetChildren, List.headD_cons, List.tail_cons, UnpackedL]
      have E := (E1.mono (out' := fun q => ∀ k', k ≤ k' → ¬ (p ++ [.proj k']) <+: q)
        fun q hq => hq k (Nat.le_refl k)).trans (E2.mono fun q hq k' hk' => hq k' (by omega))
      have U1' := Unpacked_frame E2.pre t (p ++ [.proj k]) v
        (fun q hq => E2.frame q fun k' hk' => not_prefix_of_snoc_ne (Nat.ne_of_lt hk') hq) U1
      obtain ⟨d, hd⟩ := E.pre
      exact ⟨d, hd ▸ E.sem, hd ▸ ⟨U1', U2⟩, E.bad, E.frame⟩
  | [], _, _, _, _, _, _ :: _, _, _, hsh | _ :: _, _, _, _, _, _, [], _, _, hsh => by
    simp [ShapeL] at hsh
end

theorem valsOf_vals : ∀ (vs : List V), valsOf (vs.map W.val) = some vs
  | [] => rfl
  | v :: vs => by simp [valsOf, valsOf_vals vs]

theorem stepW_pack (vs : List V) : stepW f .pack (vs.map W.val) = .ok [.val (.tup vs)] := by
  simp [stepW, valsOf_vals vs]

theorem popLin_find : ∀ (ts : List Ty) (p : PlaceId) (k : Nat) (s : CS) (q : PlaceId), ¬ p <+: q →
    (popLin ts p k s).find q = s.find q
  | [], _, _, _, _, _ => rfl
  | t :: ts, p, k, s, q, hq => by
    simp only [popLin]
    rw [popLin_find ts p (k + 1) _ q hq]
    split
    · rw [CS.find_pop, if_neg (fun e : q = _ => hq (e ▸ List.prefix_append p _))]
    · rfl

theorem popLin_same : ∀ (ts : List Ty) (p : PlaceId) (k : Nat) (s : CS),
    (popLin ts p k s).instrs = s.instrs ∧ (popLin ts p k s).next = s.next ∧
    (popLin ts p k s).bad = s.bad
  | [], _, _, _ => ⟨rfl, rfl, rfl⟩
  | t :: ts, p, k, s => by
    simp only [popLin]
    rw [(popLin_same ts p (k + 1) _).1, (popLin_same ts p (k + 1) _).2.1,
      (popLin_same ts p (k + 1) _).2.2]
    split <;> exact ⟨rfl, rfl, rfl⟩

variable {f inputs} in
theorem Emits.popLin {out : PlaceId → Prop} {cs cs1 : CS} {env env1 : List W}
    (h : Emits f inputs out cs env cs1 env1) (ts : List Ty) (p : PlaceId) (k : Nat)
    (hp : ∀ q, out q → ¬ p <+: q) : Emits f inputs out cs env (popLin ts p k cs1) env1 := by
  obtain ⟨h1, h2, h3⟩ := popLin_same ts p k cs1
  refine ⟨?_, h.pre, h3.trans h.bad, fun q hq => (popLin_find ts p k _ q (hp q hq)).trans (h.frame q hq)⟩
  have := h.sem
  unfold Sem at this ⊢
  rwa [h1, h2]

mutual
/-- `DFContainer.__getitem__` on a place stored leaf by leaf: the struct/tuple levels are packed
    again, the resulting wire carries the value; nothing outside the place is touched.  The place
    itself is no longer `Unpacked` afterwards (it is bound to the packed wire, its linear children
    are forgotten): whoever goes on with it binds it anew. -/
theorem dget_spec : ∀ (ty : Ty) (p : PlaceId) (cs : CS) (env : List W) (v : V),
    Sem f inputs cs env → Unpacked cs env ty p v →
    ∃ env', Emits f inputs (¬ p <+: ·) cs env (dget ty p cs).1 env' ∧
      env'[(dget ty p cs).2]? = some (.val v)
  | .tup ts, p, cs, env, v, hS, hU => by
    simp only [Unpacked] at hU
    obtain ⟨hnone, vs, rfl, hUL⟩ := hU
    obtain ⟨d1, E1, hws⟩ := Emits.ofTuple (dgetChildren_spec ts p 0 cs env vs hS hUL)
    obtain ⟨E2, o2⟩ := (E1.mono (out' := (¬ p <+: ·))
      fun q hq k' _ hk' => hq ((List.prefix_append p _).trans hk')).addOp .pack (dgetChildren ts p 0 cs).2 1 (vs.map .val)
      [.val (.tup vs)] (lookupW_of _ _ _ (by rw [hws]; simp [Function.comp_def]))
      (stepW_pack f vs) rfl
    have ho : ((dgetChildren ts p 0 cs).1.addOp .pack (dgetChildren ts p 0 cs).2 1).2.headD 0
        = (env ++ d1).length := by rw [o2]; simp
    simp only [dget, hnone, ho]
    exact ⟨_, (E2.popLin ts p 0 fun _ h => h).set p _ fun _ => List.ne_of_not_prefix, by simp⟩
  | .q, p, cs, env, v, hS, hU | .c, p, cs, env, v, hS, hU | .arr _, p, cs, env, v, hS, hU => by
    obtain ⟨w, h1, h2⟩ := (Unpacked_leaf (by simp)).mp hU
    rw [dget_found _ _ _ _ h1]
    exact ⟨env, .refl hS, h2⟩
theorem dgetChildren_spec : ∀ (ts : List Ty) (p : PlaceId) (k : Nat) (cs : CS) (env : List W)
    (vs : List V), Sem f inputs cs env → UnpackedL cs env ts p k vs →
    ∃ d, Sem f inputs (dgetChildren ts p k cs).1 (env ++ d) ∧
      (dgetChildren ts p k cs).2.map (fun x => (env ++ d)[x]?) = vs.map (fun v => some (W.val v)) ∧
      (dgetChildren ts p k cs).1.bad = cs.bad ∧
      ∀ q, (∀ k', k ≤ k' → ¬ (p ++ [.proj k']) <+: q) → (dgetChildren ts p k cs).1.find q = cs.find q
  | [], p, k, cs, env, [], hS, _ =>
    ⟨[], by rw [List.append_nil]; exact ⟨hS, rfl, rfl, fun _ _ => rfl⟩⟩
  | t :: ts, p, k, cs, env, v :: vs, hS, hU => by
    simp only [UnpackedL] at hU
    obtain ⟨env1, E1, hw⟩ := dget_spec t (p ++ [.proj k]) cs env v hS hU.1
    have hU' : UnpackedL (dget t (p ++ [.proj k]) cs).1 env1 ts p (k + 1) vs :=
      UnpackedL_frame E1.pre ts p (k + 1) vs
        (fun q k' hk' hq => E1.frame q (not_prefix_of_snoc_ne (Nat.ne_of_gt hk') hq)) hU.2
    obtain ⟨d2, E2, hws⟩ := Emits.ofTuple (dgetChildren_spec ts p (k + 1) _ _ vs E1.sem hU')
    have E := (E1.mono (out' := fun q => ∀ k', k ≤ k' → ¬ (p ++ [.proj k']) <+: q)
      fun q hq => hq k (Nat.le_refl k)).trans (E2.mono fun q hq k' hk' => hq k' (by omega))
    have hw' := E2.get hw
    simp only [dgetChildren, List.map_cons]
    obtain ⟨d, hd⟩ := E.pre
    exact ⟨d, hd ▸ E.sem, by rw [hd, hws, hw'], E.bad, E.frame⟩
  | [], _, _, _, _, _ :: _, _, hU | _ :: _, _, _, _, _, [], _, hU => by simp [UnpackedL] at hU
end

/-! ### one array access, `__getitem__(P, i)` / `__setitem__(P, i, tmp)`: `itousize` of the index
    variable, `borrow` / `return`, and the array place `P` re-bound -/

theorem borrowStepW_spec (l : Level) (te : Ty) (cs : CS) (env : List W) (i : Nat)
    (cells : List V) (e : V) (hat : l.arrTy = .arr te) (hS : Sem f inputs cs env)
    (hU : Unpacked cs env (.arr te) l.arrId (.arr cells))
    (hi : env[l.idxWire]? = some (.int i)) (hc : cells[i]? = some e) (he : e.isHole = false) :
    ∃ env', Emits f inputs (¬ l.arrId <+: ·) cs env (borrowStepW l cs).1 env' ∧
      Unpacked (borrowStepW l cs).1 env' (.arr te) l.arrId (.arr (cells.set i .hole)) ∧
      env'[(borrowStepW l cs).2]? = some (.val e) := by
  obtain ⟨aw, hf, ha⟩ := hU
  obtain ⟨E1, w1⟩ := (Emits.refl hS).addOp .itousize [l.idxWire] 1 [.int i] [.usize i]
    (lookupW_of _ _ _ (by simp [hi])) rfl rfl
  obtain ⟨E2, w2⟩ := E1.addOp .borrow [aw, env.length] 2
    [.val (.arr cells), .usize i] [.val (.arr (cells.set i .hole)), .val e]
    (lookupW_of _ _ _ (by simp [List.getElem?_append_of_some ha]))
    (by simp [stepW, hc, he]) rfl
  have hu : (cs.addOp .itousize [l.idxWire] 1).2.headD 0 = env.length := by rw [w1]; simp
  have hb : ((cs.addOp .itousize [l.idxWire] 1).1.addOp .borrow [aw, env.length] 2).2
      = [env.length + 1, env.length + 2] := by rw [w2]; simp [List.range_succ]; omega
  simp only [borrowStepW, hat, dget_found _ _ _ _ hf, dset, hu, hb, List.headD_cons, List.tail_cons]
  exact ⟨_, E2.set _ _ fun _ => List.ne_of_not_prefix, ⟨env.length + 1, by simp [CS.find_set], by simp⟩,
    by simp⟩

theorem retStepW_spec (l : Level) (te : Ty) (cs : CS) (env : List W) (tw i : Nat)
    (cells : List V) (v : V) (hat : l.arrTy = .arr te) (hS : Sem f inputs cs env)
    (hU : Unpacked cs env (.arr te) l.arrId (.arr cells))
    (hi : env[l.idxWire]? = some (.int i)) (ht : env[tw]? = some (.val v))
    (hc : cells[i]? = some .hole) :
    ∃ env', Emits f inputs (¬ l.arrId <+: ·) cs env (retStepW l tw cs) env' ∧
      Unpacked (retStepW l tw cs) env' (.arr te) l.arrId (.arr (cells.set i v)) := by
  obtain ⟨aw, hf, ha⟩ := hU
  obtain ⟨E1, w1⟩ := (Emits.refl hS).addOp .itousize [l.idxWire] 1 [.int i] [.usize i]
    (lookupW_of _ _ _ (by simp [hi])) rfl rfl
  obtain ⟨E2, w2⟩ := E1.addOp .ret [aw, env.length, tw] 1
    [.val (.arr cells), .usize i, .val v] [.val (.arr (cells.set i v))]
    (lookupW_of _ _ _ (by simp [List.getElem?_append_of_some ha, List.getElem?_append_of_some ht]))
    (by simp [stepW, hc, V.isHole]) rfl
  have hu : (cs.addOp .itousize [l.idxWire] 1).2.headD 0 = env.length := by rw [w1]; simp
  have hb : ((cs.addOp .itousize [l.idxWire] 1).1.addOp .ret [aw, env.length, tw] 1).2
      = [env.length + 1] := by rw [w2]; simp
  simp only [retStepW, hat, dget_found _ _ _ _ hf, dset, hu, hb, List.headD_cons]
  exact ⟨_, E2.set _ _ fun _ => List.ne_of_not_prefix, env.length + 1, by simp [CS.find_set], by simp⟩

end plumbing

/-! ### stores that conform to a type (below array boundaries as well) -/

mutual
/-- `v` is a value of type `ty`: tuples have the right components, every array cell is lent (`hole`)
    or conforms to the element type; leaves are opaque -/
def Conf : Ty → V → Prop
  | .tup ts, v => ∃ vs, v = .tup vs ∧ ConfL ts vs
  | .q, _ => True
  | .c, _ => True
  | .arr t, v => ∃ cells, v = .arr cells ∧ ∀ c ∈ cells, c.isHole = true ∨ Conf t c
def ConfL : List Ty → List V → Prop
  | [], [] => True
  | t :: ts, v :: vs => Conf t v ∧ ConfL ts vs
  | [], _ :: _ => False
  | _ :: _, [] => False
end

mutual
theorem Conf_shape : ∀ (ty : Ty) (v : V), Conf ty v → Shape ty v
  | .tup ts, v, h => by
    simp only [Conf] at h
    obtain ⟨vs, rfl, hl⟩ := h
    simp only [Shape]
    exact ⟨vs, rfl, ConfL_shape ts vs hl⟩
  | .q, _, _ | .c, _, _ | .arr _, _, _ => by simp [Shape]
theorem ConfL_shape : ∀ (ts : List Ty) (vs : List V), ConfL ts vs → ShapeL ts vs
  | [], [], _ => trivial
  | t :: ts, v :: vs, h => ⟨Conf_shape t v h.1, ConfL_shape ts vs h.2⟩
  | [], _ :: _, h | _ :: _, [], h => h.elim
end

theorem ConfL_iff (ts : List Ty) (vs : List V) : ConfL ts vs ↔ ts.length = vs.length ∧
    ∀ (i : Nat) (t : Ty), ts[i]? = some t → ∃ v, vs[i]? = some v ∧ Conf t v :=
  List.zipPred_iff (P := fun _ ts vs => ConfL ts vs) (R := fun _ t v => Conf t v)
    (fun _ => trivial) (fun _ _ _ _ _ => Iff.rfl) (fun _ _ _ h => h) (fun _ _ _ h => h) ts 0 vs

def stepTy : Ty → Step → Option Ty
  | .tup ts, .proj k => ts[k]?
  | .arr t, .idx _ => some t
  | _, _ => none

/-- what the simulation needs of a typing invariant on store values: it follows the one-step lens
    `getS` / `setS`; only an array cell may be lent (`hole`).  `Conf` is one instance, on nested
    arrays of qubits (`arrN`) "the type is an `arrN`" is another, with nothing said of the value -/
structure Typing (C : Ty → V → Prop) : Prop where
  shape : ∀ {ty : Ty} {v : V}, C ty v → Shape ty v
  get : ∀ {ty ty' : Ty} {s : Step} {v v' : V}, C ty v → stepTy ty s = some ty' →
    getS s v = some v' → (v'.isHole = false ∨ ∃ k, s = .proj k) → C ty' v'
  set : ∀ {ty ty' : Ty} {s : Step} {v new : V}, C ty v → stepTy ty s = some ty' →
    (C ty' new ∨ new.isHole = true ∧ ∃ i, s = .idx i) → C ty (setS s new v)

theorem Conf.typing : Typing Conf where
  shape := Conf_shape _ _
  get := by
    intro ty ty' s v v' h ht hg hv
    cases ty <;> cases s <;> simp only [stepTy, reduceCtorEq] at ht
    · simp only [Conf, ConfL_iff] at h
      obtain ⟨vs, rfl, _, hi⟩ := h
      obtain ⟨vi, h1, h2⟩ := hi _ _ ht
      cases h1.symm.trans hg; exact h2
    · cases ht
      simp only [Conf] at h
      obtain ⟨cells, rfl, hall⟩ := h
      exact (hall v' (List.mem_of_getElem? hg)).resolve_left (by simp [hv.resolve_right (by simp)])
  set := by
    intro ty ty' s v new h ht hn
    cases ty <;> cases s <;> simp only [stepTy, reduceCtorEq] at ht
    · simp only [Conf, ConfL_iff] at h ⊢
      obtain ⟨vs, rfl, hl, hi⟩ := h
      refine ⟨_, rfl, by simpa using hl, fun j tj hj => ?_⟩
      rw [List.getElem?_set]
      split
      · next e =>
        subst e; cases ht.symm.trans hj
        exact ⟨new, by simp [← hl, (List.getElem?_eq_some_iff.mp ht).1], hn.resolve_right (by simp)⟩
      · exact hi j tj hj
    · cases ht
      simp only [Conf] at h ⊢
      obtain ⟨cells, rfl, hall⟩ := h
      refine ⟨_, rfl, fun c hc => ?_⟩
      rcases List.mem_or_eq_of_mem_set hc with h1 | rfl
      · exact hall c h1
      · exact hn.symm.imp (·.1) id

/-! the vocabulary of `wire_writeback_subscripts` -/

def arrN : Nat → Ty
  | 0 => .q
  | n + 1 => .arr (arrN n)

def subPath (is : List Nat) : CPath := ⟨is.map (fun i => ⟨[], i⟩), []⟩

theorem arrN_typing : Typing (fun ty _ => ∃ n, ty = arrN n) where
  shape := by rintro _ _ ⟨n, rfl⟩; cases n <;> simp [arrN, Shape]
  get := by
    rintro _ ty' s _ _ ⟨n, rfl⟩ ht _ _
    cases n <;> cases s <;> simp only [arrN, stepTy, reduceCtorEq] at ht
    exact ⟨_, by cases ht; rfl⟩
  set := fun h _ _ => h

/-! ### a stored place; looking at / updating a sub-place -/

theorem tyProj_cons {ty : Ty} {k : Nat} {r : List Nat} {ty' : Ty}
    (h : tyProj ty (k :: r) = some ty') :
    ∃ ts tk, ty = .tup ts ∧ ts[k]? = some tk ∧ tyProj tk r = some ty' := by
  cases ty with
  | tup ts =>
    simp only [tyProj] at h
    cases htk : ts[k]? with
    | none => simp [htk] at h
    | some tk => exact ⟨ts, tk, rfl, htk, by simpa [htk] using h⟩
  | _ => simp [tyProj] at h

structure Stored (C : Ty → V → Prop) (cs : CS) (env : List W) (ty : Ty) (p : PlaceId) (v : V) :
    Prop where
  unpacked : Unpacked cs env ty p v
  typed : C ty v

section stored
variable {C : Ty → V → Prop} (hC : Typing C)
include hC

theorem Stored.focus {cs : CS} {env : List W} : ∀ (projs : List Nat) {ty ty' : Ty} {p : PlaceId}
    {v v' : V}, tyProj ty projs = some ty' → Stored C cs env ty p v →
    getP (projs.map .proj) v = some v' → Stored C cs env ty' (p ++ projs.map .proj) v'
  | [], ty, ty', p, v, v', ht, h, hg => by
    simp [tyProj] at ht; simp [getP] at hg; subst ht hg
    simpa using h
  | k :: r, ty, ty', p, v, v', ht, h, hg => by
    obtain ⟨ts, tk, rfl, htk, ht⟩ := tyProj_cons ht
    obtain ⟨_, vs, rfl, _, hi⟩ := Unpacked_tup.mp h.unpacked
    obtain ⟨vk, hvk, hUk⟩ := hi k tk htk
    simpa [List.append_assoc] using Stored.focus r ht
      ⟨hUk, hC.get (s := .proj k) h.typed htk hvk (Or.inr ⟨k, rfl⟩)⟩ (by simpa [getP, hvk] using hg)

/-- `cs'` differs from `cs` only below the sub-place `p.projs`, which it stores anew with `new` -/
theorem Stored.update {cs cs' : CS} {env env' : List W} (he : env <+: env') :
    ∀ (projs : List Nat) {ty ty' : Ty} {p : PlaceId} {v new v2 : V}, tyProj ty projs = some ty' →
    Stored C cs env ty p v → (∀ q, ¬ (p ++ projs.map .proj) <+: q → cs'.find q = cs.find q) →
    Stored C cs' env' ty' (p ++ projs.map .proj) new → putP (projs.map .proj) new v = some v2 →
    Stored C cs' env' ty p v2
  | [], ty, ty', p, v, new, v2, ht, _, _, hn, hp => by
    simp [tyProj] at ht; simp [putP] at hp; subst ht hp
    simpa using hn
  | k :: r, ty, ty', p, v, new, v2, ht, h, hf, hn, hp => by
    obtain ⟨ts, tk, rfl, htk, ht⟩ := tyProj_cons ht
    obtain ⟨hnone, vs, rfl, hl, hi⟩ := Unpacked_tup.mp h.unpacked
    obtain ⟨vk, hvk, hUk⟩ := hi k tk htk
    have hassoc : p ++ (k :: r).map PStep.proj = p ++ [PStep.proj k] ++ r.map PStep.proj := by simp
    rw [hassoc] at hf hn
    simp only [List.map_cons, putP, hvk] at hp
    cases hpk : putP (r.map .proj) new vk with
    | none => simp [hpk] at hp
    | some vk2 =>
      simp only [hpk, Option.some.injEq] at hp
      subst hp
      have ih := Stored.update he r ht ⟨hUk, hC.get (s := .proj k) h.typed htk hvk (Or.inr ⟨k, rfl⟩)⟩ hf hn hpk
      refine ⟨Unpacked_tup.mpr ⟨(hf p (by simpa using List.not_snoc_prefix_self p _ _)).trans hnone, _,
        rfl, by simpa using hl, fun i t hti => ?_⟩, hC.set (s := .proj k) h.typed htk (Or.inl ih.typed)⟩
      obtain ⟨vi, hvi, hUi⟩ := hi i t hti
      by_cases hik : k = i
      · subst hik; cases htk.symm.trans hti
        exact ⟨vk2, by simp [(List.getElem?_eq_some_iff.mp hvk).1], ih.unpacked⟩
      · -- a sibling of the updated child is not touched
        exact ⟨vi, by simp [hik, hvi], Unpacked_frame he t _ vi
          (fun q hq => hf q (fun hp => not_prefix_of_snoc_ne (Ne.symm hik) hq
            ((List.prefix_append _ _).trans hp))) hUi⟩

end stored

end GuppyVerif.Places
