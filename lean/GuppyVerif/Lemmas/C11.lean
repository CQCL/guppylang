import GuppyVerif.Model.Session
import GuppyVerif.Spec.C11
/-! The model is written in the monad `State → State × Except Err ·`, with the bind spelled out as a `match`
    on the outcome of each call.  `Sim` says of one call that two runs differing only in counters stay related
    (`Rel`) and that the session stays clean (`StaysClean`); `Sim.bind` opens the outcome of a call inside what
    follows it, and with it `Sim` is proved operation by operation.  Before that `sortRel_shift` (for the
    `ShiftInv` disjunct in `compileOne_sim`); at the end the closed form of a lowering from a warm cache. -/
namespace GuppyVerif.Session

theorem insertSorted_shift {lt : Nat → Nat → Bool} (h : ShiftInv lt) (b x : Nat) (l : List Nat) :
    insertSorted lt (b + x) (l.map (b + ·)) = (insertSorted lt x l).map (b + ·) := by
  induction l with
  | nil => rfl
  | cons y ys ih =>
    simp only [List.map_cons, insertSorted, h b x y]
    split
    · simp
    · simp [ih]

theorem isort_shift {lt : Nat → Nat → Bool} (h : ShiftInv lt) (b : Nat) (l : List Nat) :
    isort lt (l.map (b + ·)) = (isort lt l).map (b + ·) := by
  induction l with
  | nil => rfl
  | cons x xs ih => simp only [List.map_cons, isort, ih, insertSorted_shift h]

theorem sortRel_shift {lt : Nat → Nat → Bool} (h : ShiftInv lt) (b : Nat) (row : List Nat) :
    sortRel lt b row = isort lt row := by
  unfold sortRel
  rw [isort_shift h, List.map_map]
  conv => rhs; rw [← List.map_id (isort lt row)]
  apply List.map_congr_left
  intro a _
  simp

theorem natLt_shiftInv : ShiftInv natLt := by
  intro b i j
  simp [natLt]

def checkStart (cfg : Config) (s : State) : State :=
  let s0 := if cfg.checkResets then s.reset cfg else s
  if cfg.checkRestartsTmp then { s0 with tmpCtr := 0 } else s0

theorem check_def (cfg : Config) (P : Pool) (d : Nat) (s : State) :
    check cfg P d s = match parseDef cfg P d (checkStart cfg s) with
      | (t, .error e) => (t, .error e)
      | (t, .ok ()) => checkLoop cfg P (fuelFor P) [d] t := rfl

theorem bumpNested_eq (cfg : Config) (hc : cfg.nestedRecBindsInFrame = false) (s : State)
    (ns : List Nested) : ∃ d st, bumpNested cfg s ns = { s with defCtr := d, store := st } := by
  induction ns generalizing s with
  | nil => exact ⟨_, _, rfl⟩
  | cons nd rest ih =>
    simp only [bumpNested, hc]
    split
    · exact ih { s with defCtr := s.defCtr + 1, store := s.store + 1 }
    · exact ih { s with defCtr := s.defCtr + 1 }

def State.enter (cfg : Config) (n : Nat) (r : RawDef) (s : State) : State :=
  bumpNested cfg (s.beginCheck n r.tmps) r.nested

/-- the outcome of checking a body: a function of name resolution and the tracing flag only -/
def bodyVerdict (r : RawDef) (res : Nat → Binding) (tracing : Bool) : Except Err (List Nat) :=
  if r.comptime then .ok []
  else if r.deps.any (res · == .unbound) then .error .undefinedName
  else if r.deps.any (res · == .leaked) then .error .crash
  else if r.ctExprCall then .error (if tracing then .illegalCt else .ctEval)
  else if r.illTyped then .error .typeError
  else .ok r.deps

theorem checkBody_eq (cfg : Config) (P : Pool) (n : Nat) (r : RawDef) (s : State) :
    checkBody cfg P n r s =
      match bodyVerdict r (resolve P s) (s.enter cfg n r).tracing with
      | .ok ds => ({ s.enter cfg n r with
                      checked := (s.enter cfg n r).checked ++ [⟨⟨n, 0, 0⟩, s.tmpCtr⟩] }, .ok ds)
      | .error e => (s.enter cfg n r, .error e) := by
  unfold checkBody bodyVerdict State.enter
  generalize bumpNested cfg (s.beginCheck n r.tmps) r.nested = s1
  generalize List.any r.deps (fun d => resolve P s d == .unbound) = c2
  generalize List.any r.deps (fun d => resolve P s d == .leaked) = c3
  -- both sides are the same decision list over five Booleans
  cases r.comptime <;> cases c2 <;> cases c3 <;> cases r.ctExprCall <;> cases r.illTyped <;> rfl

/-! ## the simulation relation

`Rel x s s'`: the two states agree on everything but counters.  With `x = true` (exact) they also agree
on the `%tmp` counter and on the base of every cached CFG — then any order on generated names gives the
same rows; with `x = false` the order has to be invariant under renumbering. -/

inductive RelL (x : Bool) : List Checked → List Checked → Prop
  | nil : RelL x [] []
  | cons {c c' : Checked} {l l' : List Checked} : c.core = c'.core → (x = true → c.base = c'.base) →
      RelL x l l' → RelL x (c :: l) (c' :: l')

structure Rel (x : Bool) (s s' : State) : Prop where
  checked : RelL x s.checked s'.checked
  parsed : s.parsed = s'.parsed
  leaks : s.leaks = s'.leaks
  tracing : s.tracing = s'.tracing
  parsing : s.parsing = s'.parsing
  tmp : x = true → s.tmpCtr = s'.tmpCtr

theorem RelL.any_id {x : Bool} {l l' : List Checked} (h : RelL x l l') (n : Nat) :
    l.any (·.core.id == n) = l'.any (·.core.id == n) := by
  induction h with
  | nil => rfl
  | cons hc _ _ ih => simp [List.any_cons, hc, ih]

theorem RelL.append {x : Bool} {l l' m m' : List Checked} (h : RelL x l l') (hm : RelL x m m') :
    RelL x (l ++ m) (l' ++ m') := by
  induction h with
  | nil => simpa using hm
  | cons hc hb _ ih => exact RelL.cons hc hb ih

theorem Rel.hasChecked {x : Bool} {s s' : State} (h : Rel x s s') : s.hasChecked = s'.hasChecked := by
  funext n
  exact h.checked.any_id n

theorem Rel.resolve {x : Bool} {s s' : State} (h : Rel x s s') (P : Pool) (d : Nat) :
    resolve P s d = resolve P s' d := by
  unfold Session.resolve
  rw [h.leaks]

section
variable {x : Bool} {s s' : State} (h : Rel x s s')
include h

theorem Rel.withChecked {l l' : List Checked} (hl : RelL x l l') :
    Rel x { s with checked := l } { s' with checked := l' } :=
  ⟨hl, h.parsed, h.leaks, h.tracing, h.parsing, h.tmp⟩

theorem Rel.withParsed (p : List Nat) : Rel x { s with parsed := p } { s' with parsed := p } :=
  ⟨h.checked, rfl, h.leaks, h.tracing, h.parsing, h.tmp⟩

theorem Rel.withTracing (b : Bool) : Rel x { s with tracing := b } { s' with tracing := b } :=
  ⟨h.checked, h.parsed, h.leaks, rfl, h.parsing, h.tmp⟩

theorem Rel.addTmp (k : Nat) :
    Rel x { s with tmpCtr := s.tmpCtr + k } { s' with tmpCtr := s'.tmpCtr + k } :=
  ⟨h.checked, h.parsed, h.leaks, h.tracing, h.parsing, fun hx => congrArg (· + k) (h.tmp hx)⟩

end

theorem RelL.refl (x : Bool) : ∀ l : List Checked, RelL x l l
  | [] => .nil
  | _ :: l => .cons rfl (fun _ => rfl) (RelL.refl x l)

theorem Rel.refl (x : Bool) (s : State) : Rel x s s := ⟨.refl x _, rfl, rfl, rfl, rfl, fun _ => rfl⟩

/-! ## the session invariant -/

-- the state of a session no operation has touched, as far as `StaysClean` looks; not used below
def Clean (s : State) : Prop := s.leaks = [] ∧ s.tracing = false

structure StaysClean (s t : State) : Prop where
  leaks : t.leaks = s.leaks
  tracing : t.tracing = s.tracing
  parsing : s.parsing = [] → t.parsing = []

theorem StaysClean.refl (s : State) : StaysClean s s := ⟨rfl, rfl, id⟩

theorem StaysClean.trans {s t u : State} (h₁ : StaysClean s t) (h₂ : StaysClean t u) : StaysClean s u :=
  ⟨h₂.leaks.trans h₁.leaks, h₂.tracing.trans h₁.tracing, fun h => h₂.parsing (h₁.parsing h)⟩

theorem StaysClean.withParsed (s : State) (p : List Nat) : StaysClean s { s with parsed := p } := ⟨rfl, rfl, id⟩

/-- only `leaks`, `tracing` and `parsing` of the two states are read -/
theorem StaysClean.congr {s s' t t' : State} (h : StaysClean s t)
    (hs : (s'.leaks, s'.tracing, s'.parsing) = (s.leaks, s.tracing, s.parsing))
    (ht : (t'.leaks, t'.tracing, t'.parsing) = (t.leaks, t.tracing, t.parsing)) : StaysClean s' t' := by
  simp only [Prod.mk.injEq] at hs ht
  exact ⟨ht.1.trans (h.leaks.trans hs.1.symm), ht.2.1.trans (h.tracing.trans hs.2.1.symm),
    fun hp => ht.2.2.trans (h.parsing (hs.2.2 ▸ hp))⟩

structure Config.Sound (cfg : Config) : Prop where
  resets : cfg.checkResets = true
  noFrameWrite : cfg.nestedRecBindsInFrame = false
  tracingRestored : cfg.tracingRestored = true
  parsingCleared : cfg.resetClearsParsing = true
  parseRestores : cfg.parseRestores = true

instance (cfg : Config) : Decidable cfg.Sound :=
  if h : cfg.checkResets = true ∧ cfg.nestedRecBindsInFrame = false ∧ cfg.tracingRestored = true ∧
      cfg.resetClearsParsing = true ∧ cfg.parseRestores = true then
    isTrue ⟨h.1, h.2.1, h.2.2.1, h.2.2.2.1, h.2.2.2.2⟩
  else isFalse (fun s => h ⟨s.resets, s.noFrameWrite, s.tracingRestored, s.parsingCleared, s.parseRestores⟩)

/-! ## one call from two related states -/

/-- `p`, `p'` are the outcomes of one call from `s` and from a state related to `s`: they are related
    again, they return the same, and `p` is as clean as `s` -/
structure Sim (x : Bool) {α : Type} (s : State) (p p' : State × α) : Prop where
  rel : Rel x p.1 p'.1
  res : p.2 = p'.2
  clean : StaysClean s p.1

theorem Sim.ret {x : Bool} {α : Type} {s s' : State} (h : Rel x s s') (r : α) : Sim x s (s, r) (s', r) :=
  ⟨h, rfl, .refl s⟩

theorem Sim.after {x : Bool} {α : Type} {s t : State} {p p' : State × α} (h : StaysClean s t)
    (hp : Sim x t p p') : Sim x s p p' :=
  ⟨hp.rel, hp.res, h.trans hp.clean⟩

@[elab_as_elim]
theorem Sim.elim {x : Bool} {α : Type} {s : State} {p p' : State × α} {motive : State × α → State × α → Prop}
    (h : Sim x s p p') (H : ∀ {t t'} r, Rel x t t' → StaysClean s t → motive (t, r) (t', r)) : motive p p' := by
  obtain ⟨t, r⟩ := p
  obtain ⟨t', r'⟩ := p'
  cases (h.res : r = r')
  exact H r h.rel h.clean

/-- The rule for the model's bind.  The code that follows a call is a `match` on its outcome, not a named
    function, so the rule is an eliminator (`elab_as_elim`): Lean reads `motive` off the goal by abstracting the
    two outcomes where they stand.  In the error branch the `match` reduces, so where the code passes an error
    on as it is, `herr` is `fun _ => id`. -/
@[elab_as_elim]
theorem Sim.bind {x : Bool} {α β : Type} {s : State} {p p' : State × Except Err α}
    {motive : State × Except Err α → State × Except Err α → Prop} (h : Sim x s p p')
    (herr : ∀ {t t'} e, Sim x s (t, (.error e : Except Err β)) (t', .error e) → motive (t, .error e) (t', .error e))
    (hok : ∀ {t t'} a, Rel x t t' → StaysClean s t → motive (t, .ok a) (t', .ok a)) : motive p p' :=
  h.elim fun
    | .error e, ht, hc => herr e ⟨ht, rfl, hc⟩
    | .ok a, ht, hc => hok a ht hc

theorem parseDef_eq (cfg : Config) (hp : cfg.parseRestores = true) (P : Pool) (n : Nat) (s : State) :
    parseDef cfg P n s = (s, if s.parsing.contains n then .error .cyclic
      else if (P[n]?).any (·.badSig) then .error .sigError else .ok ()) := by
  unfold parseDef
  rw [hp]
  cases s.parsing.contains n with
  | true => rfl
  | false =>
    cases P[n]? with
    | none => rfl
    | some r =>
      cases hb : r.badSig <;> simp [hb]

theorem checkStart_rel (cfg : Config) (hr : cfg.checkResets = true) (hpc : cfg.resetClearsParsing = true)
    {s s' : State} (hl : s.leaks = s'.leaks) (ht : s.tracing = s'.tracing) :
    Rel cfg.checkRestartsTmp (checkStart cfg s) (checkStart cfg s') := by
  unfold checkStart State.reset
  simp only [hr, hpc, ↓reduceIte]
  cases cfg.checkRestartsTmp with
  | true => exact ⟨.nil, rfl, hl, ht, rfl, fun _ => rfl⟩
  | false => exact ⟨.nil, rfl, hl, ht, rfl, fun h => by cases h⟩

theorem checkStart_clean (cfg : Config) (s : State) : StaysClean s (checkStart cfg s) := by
  have h0 : StaysClean s (if cfg.checkResets then s.reset cfg else s) := by
    cases cfg.checkResets
    · exact .refl s
    · exact ⟨rfl, rfl, fun h => by simp only [State.reset, h, ite_self, ↓reduceIte]⟩
  unfold checkStart
  cases cfg.checkRestartsTmp <;> exact h0.congr rfl rfl

theorem findChecked_rel {x : Bool} {l l' : List Checked} (h : RelL x l l') (n : Nat) :
    (findChecked n l = none ∧ findChecked n l' = none) ∨
      ∃ c c', findChecked n l = some c ∧ findChecked n l' = some c' ∧ c.core = c'.core ∧
        (x = true → c.base = c'.base) := by
  induction h with
  | nil => exact Or.inl ⟨rfl, rfl⟩
  | @cons c c' l l' hcc hb _ ih =>
    simp only [findChecked, hcc]
    split
    · exact Or.inr ⟨c, c', rfl, rfl, hcc, hb⟩
    · exact ih

theorem updChecked_rel {x : Bool} {l l' : List Checked} (h : RelL x l l') (n : Nat) (f : CfgCore → CfgCore) :
    RelL x (updChecked n f l) (updChecked n f l') := by
  induction h with
  | nil => exact RelL.nil
  | @cons c c' l l' hcc hb _ ih =>
    simp only [updChecked, hcc]
    split
    · exact RelL.cons (by simp) hb ih
    · exact RelL.cons hcc hb ih

section
variable {cfg : Config} (hs : cfg.Sound) (P : Pool) {x : Bool}
include hs

theorem parseDef_sim (n : Nat) {s s' : State} (h : Rel x s s') :
    Sim x s (parseDef cfg P n s) (parseDef cfg P n s') := by
  rw [parseDef_eq cfg hs.parseRestores, parseDef_eq cfg hs.parseRestores, h.parsing]
  exact .ret h _

theorem getParsed_sim (n : Nat) {s s' : State} (h : Rel x s s') :
    Sim x s (getParsed cfg P n s) (getParsed cfg P n s') := by
  unfold getParsed
  rw [h.parsed]
  split
  · exact .ret h _
  · exact parseDef_sim hs P n h

theorem enter_sim (n : Nat) (r : RawDef) {s s' : State} (h : Rel x s s') :
    Rel x (s.enter cfg n r) (s'.enter cfg n r) ∧ StaysClean s (s.enter cfg n r) := by
  obtain ⟨d, st, e⟩ := bumpNested_eq cfg hs.noFrameWrite (s.beginCheck n r.tmps) r.nested
  obtain ⟨d', st', e'⟩ := bumpNested_eq cfg hs.noFrameWrite (s'.beginCheck n r.tmps) r.nested
  unfold State.enter
  rw [e, e']
  exact ⟨⟨h.checked, congrArg (fun p => if p.contains n then p else n :: p) h.parsed, h.leaks, h.tracing,
    h.parsing, fun hx => congrArg (· + r.tmps) (h.tmp hx)⟩, rfl, rfl, id⟩

theorem checkBody_sim (n : Nat) (r : RawDef) {s s' : State} (h : Rel x s s') :
    Sim x s (checkBody cfg P n r s) (checkBody cfg P n r s') := by
  obtain ⟨h1, hc⟩ := enter_sim hs n r h
  rw [checkBody_eq, checkBody_eq, funext (h.resolve P), h1.tracing]
  cases bodyVerdict r (resolve P s') (s'.enter cfg n r).tracing with
  | error e => exact ⟨h1, rfl, hc⟩
  | ok ds =>
    exact ⟨h1.withChecked (h1.checked.append (.cons rfl h.tmp .nil)), rfl, hc.congr rfl rfl⟩

theorem checkOne_sim (n : Nat) {s s' : State} (h : Rel x s s') :
    Sim x s (checkOne cfg P n s) (checkOne cfg P n s') := by
  unfold checkOne
  split
  · exact .ret h _
  · exact (getParsed_sim hs P n h).bind (fun _ => id) fun _ ht hc => .after hc (checkBody_sim hs P n _ ht)

theorem checkLoop_sim (f : Nat) : ∀ (work : List Nat) {s s' : State}, Rel x s s' →
    Sim x s (checkLoop cfg P f work s) (checkLoop cfg P f work s') := by
  induction f with
  | zero =>
    intro work s s' h
    cases work <;> exact .ret h _
  | succ f ih =>
    intro work s s' h
    cases work with
    | nil => exact .ret h _
    | cons n rest =>
      simp only [checkLoop, h.hasChecked]
      split
      · exact ih rest h
      · refine (checkOne_sim hs P n h).bind (fun _ => id) fun deps ht hc => ?_
        dsimp only
        rw [ht.parsed]
        exact (ih _ (ht.withParsed _)).after (hc.trans (.withParsed _ _))

/-- `check` starts from `checkStart`, so only those two states need be related (`checkStart_rel`) -/
theorem check_sim (d : Nat) {s s' : State} (h : Rel x (checkStart cfg s) (checkStart cfg s')) :
    Sim x s (check cfg P d s) (check cfg P d s') := by
  refine .after (checkStart_clean cfg s) ?_
  rw [check_def, check_def]
  exact (parseDef_sim hs P d h).bind (fun _ => id) fun _ ht hc => .after hc (checkLoop_sim hs P _ _ ht)

theorem ensureChecked_sim (n : Nat) {s s' : State} (h : Rel x s s') :
    Sim x s (ensureChecked cfg P n s) (ensureChecked cfg P n s') := by
  unfold ensureChecked
  rw [h.hasChecked]
  split
  · exact .ret h _
  · refine (checkOne_sim hs P n h).bind (fun _ => id) fun deps ht hc => ?_
    dsimp only
    rw [ht.parsed]
    exact ⟨ht.withParsed _, rfl, hc.trans (.withParsed _ _)⟩

theorem ensureAll_sim : ∀ (ds : List Nat) {s s' : State}, Rel x s s' →
    Sim x s (ensureAll cfg P ds s) (ensureAll cfg P ds s')
  | [], _, _, h => .ret h _
  | d :: ds, _, _, h => by
    unfold ensureAll
    exact (ensureChecked_sim hs P d h).bind (fun _ => id) fun _ ht hc => .after hc (ensureAll_sim ds ht)

variable {lt : Nat → Nat → Bool} (hlt : x = true ∨ ShiftInv lt)
include hlt

/-- by cases along the body: on a failure while tracing the state is not passed on but put through
    `restore`, so the outcomes of `ensureAll` are opened by `Sim.elim`, not `Sim.bind` -/
theorem compileOne_sim (n : Nat) {s s' : State} (h : Rel x s s') :
    Sim x s (compileOne cfg lt P n s) (compileOne cfg lt P n s') := by
  unfold compileOne
  cases P[n]? with
  | none => exact .ret h _
  | some r =>
    rcases findChecked_rel h.checked n with ⟨e1, e2⟩ | ⟨c, c', e1, e2, hcc, hb⟩
    · rw [e1, e2]; exact .ret h _
    · rw [e1, e2]
      dsimp only
      rw [funext (h.resolve P), hcc, hs.tracingRestored]
      cases r.comptime with
      | true =>
        -- traced with tracing mode on; every exit puts `s.tracing` back
        rw [h.tracing]
        have exit : ∀ {t t' : State} {o : Except Err OutEntry}, Rel x t t' →
            StaysClean { s with tracing := true, tmpCtr := s.tmpCtr + r.ctmps } t →
            Sim x s ({ t with tracing := s'.tracing }, o) ({ t' with tracing := s'.tracing }, o) :=
          fun ht hc => ⟨ht.withTracing _, rfl, hc.leaks, h.tracing.symm, hc.parsing⟩
        cases r.raises with
        | true => exact exit ((h.addTmp _).withTracing _) (.refl _)
        | false =>
          cases List.any r.deps fun d => resolve P s' d == Binding.leaked with
          | true => exact exit ((h.addTmp _).withTracing _) (.refl _)
          | false =>
            refine (ensureAll_sim hs P r.deps ((h.addTmp r.ctmps).withTracing true)).elim fun o ht hc => ?_
            cases o <;> exact exit ht hc
      | false =>
        refine (ensureAll_sim hs P r.deps
          (h.withChecked (updChecked_rel h.checked n (setRet (retAfter cfg c'.core))))).elim fun o ht hc => ?_
        cases o with
        | error e => exact ⟨ht, rfl, hc.congr rfl rfl⟩
        | ok u =>
          have e : sortRel lt c.base = sortRel lt c'.base := by
            rcases hlt with hx | hs
            · rw [hb hx]
            · funext row
              rw [sortRel_shift hs, sortRel_shift hs]
          rw [e]
          exact ⟨(ht.addTmp _).withChecked (updChecked_rel ht.checked n _), rfl, hc.congr rfl rfl⟩

theorem compileLoop_sim (f : Nat) : ∀ (work done : List Nat) (acc : List OutEntry) {s s' : State},
    Rel x s s' → Sim x s (compileLoop cfg lt P f work done s acc) (compileLoop cfg lt P f work done s' acc) := by
  induction f with
  | zero =>
    intro work done acc s s' h
    cases work <;> exact .ret h _
  | succ f ih =>
    intro work done acc s s' h
    cases work with
    | nil => exact .ret h _
    | cons n rest =>
      unfold compileLoop
      refine (ensureChecked_sim hs P n h).bind (fun _ => id) fun _ h1 hc1 => .after hc1 ?_
      dsimp only
      exact (compileOne_sim hs P hlt n h1).bind (fun _ => id) fun _ h2 hc2 => .after hc2 (ih _ _ _ h2)

theorem lower_sim (d : Nat) {s s' : State} (h : Rel x (checkStart cfg s) (checkStart cfg s')) :
    Sim x s (lower cfg lt P d s) (lower cfg lt P d s') := by
  unfold lower
  exact (check_sim hs P d h).bind (fun _ => id) fun _ ht hc => .after hc (compileLoop_sim hs P hlt _ _ _ _ ht)

end

/-- for cleanliness alone an operation is compared with itself, exactly -/
theorem step_clean {cfg : Config} (hs : cfg.Sound) (lt : Nat → Nat → Bool) (P : Pool) (o : Op) (s : State) :
    StaysClean s (step cfg lt P o s) := by
  cases o with
  | check d => exact (check_sim hs P d (.refl true _)).clean
  | lower d => exact (lower_sim hs P (.inl rfl) d (.refl true _)).clean
  | relower d =>
    simp only [step, relower]
    split
    · exact (compileLoop_sim hs P (.inl rfl) _ _ _ _ (.refl true s)).clean
    · exact .refl s

/-- the session system of the model: state, the three operations, observation of a target =
    (outcome of `d.check()`, outcome and abstract output of `compile d`) -/
def sys (cfg : Config) (lt : Nat → Nat → Bool) (P : Pool) :
    Sys Op State Nat (Except Err Unit × Except Err (List OutEntry)) where
  init := State.init
  step := step cfg lt P
  failsAt := fails cfg lt P
  observe := observe cfg lt P

theorem exec_clean {cfg : Config} (hs : cfg.Sound) (lt : Nat → Nat → Bool) (P : Pool) (h : List Op) (s : State) :
    StaysClean s ((sys cfg lt P).exec h s) := by
  induction h generalizing s with
  | nil => exact .refl s
  | cons o os ih => exact (step_clean hs lt P o s).trans (ih _)

theorem observe_congr {cfg : Config} (hs : cfg.Sound) {lt : Nat → Nat → Bool}
    (hlt : cfg.checkRestartsTmp = true ∨ ShiftInv lt) (P : Pool) (d : Nat) {s s' : State}
    (hl : s.leaks = s'.leaks) (ht : s.tracing = s'.tracing) :
    observe cfg lt P s d = observe cfg lt P s' d := by
  have h := checkStart_rel cfg hs.resets hs.parsingCleared hl ht
  unfold observe
  rw [(check_sim hs P d h).res, (lower_sim hs P hlt d h).res]

/-! ## lowering again from a warm cache -/

theorem findChecked_updChecked (n : Nat) (f : CfgCore → CfgCore) (hf : ∀ k, (f k).id = k.id)
    (l : List Checked) (c : Checked) (h : findChecked n l = some c) :
    findChecked n (updChecked n f l) = some { c with core := f c.core } := by
  induction l with
  | nil => simp [findChecked] at h
  | cons x xs ih =>
    simp only [findChecked] at h
    simp only [updChecked]
    split at h
    · rename_i hx
      injection h with h
      subst h
      simp only [hx, ↓reduceIte, findChecked, hf]
    · rename_i hx
      simp only [hx, Bool.false_eq_true, ↓reduceIte, findChecked]
      exact ih h

theorem any_id_updChecked (n m : Nat) (f : CfgCore → CfgCore) (hf : ∀ k, (f k).id = k.id) (l : List Checked) :
    (updChecked n f l).any (·.core.id == m) = l.any (·.core.id == m) := by
  induction l with
  | nil => rfl
  | cons x xs ih =>
    simp only [updChecked, List.any_cons, ih]
    split <;> simp [hf]

theorem ensureAll_noop (cfg : Config) (P : Pool) :
    ∀ (ds : List Nat) (s : State), (∀ d ∈ ds, s.hasChecked d = true) → ensureAll cfg P ds s = (s, .ok ()) := by
  intro ds
  induction ds with
  | nil => intro s _; rfl
  | cons d ds ih =>
    intro s h
    have hd : s.hasChecked d = true := h d (by simp)
    simp only [ensureAll, ensureChecked, hd, ↓reduceIte]
    exact ih s (fun d' hd' => h d' (by simp [hd']))

theorem retAfter_stable (cfg : Config) (hg : cfg.returnVarsGuard = true) (c : CfgCore) (ext : Nat) :
    retAfter cfg (setExt ext (setRet (retAfter cfg c) c)) = retAfter cfg c := by
  simp only [retAfter, setExt, setRet, hg, Bool.true_and]
  split <;> simp_all

theorem compileOne_cached (cfg : Config) (lt : Nat → Nat → Bool) {P : Pool} {n : Nat} {s : State}
    {r : RawDef} {c : Checked} (hr : P[n]? = some r) (hnc : r.comptime = false)
    (hf : findChecked n s.checked = some c) (hd : ∀ d ∈ r.deps, s.hasChecked d = true) :
    compileOne cfg lt P n s =
      ({ s with checked := updChecked n (setExt (c.core.inputTysExtra + closures r))
                  (updChecked n (setRet (retAfter cfg c.core)) s.checked),
                tmpCtr := s.tmpCtr + r.ctmps },
       .ok ⟨n, retAfter cfg c.core * r.nRet, r.rows.map (sortRel lt c.base),
            if cfg.compilerReadsInputTys then some (c.core.inputTysExtra + closures r) else none⟩) := by
  have h0 : ∀ d ∈ r.deps,
      State.hasChecked { s with checked := updChecked n (setRet (retAfter cfg c.core)) s.checked } d = true :=
    fun d hdm => (any_id_updChecked n d (setRet (retAfter cfg c.core)) (fun _ => rfl) s.checked).trans (hd d hdm)
  unfold compileOne
  rw [hr, hf]
  simp only [hnc, Bool.false_eq_true, ↓reduceIte]
  rw [ensureAll_noop cfg P r.deps _ h0]

/-! ## sessions in which the program text changes between operations -/

/-- the session system over *versions*: the version of an operation is the pool (the text of the file as it
    is when the operation is issued); the state carries nothing of a version but what `State` has -/
def vsys (cfg : Config) (lt : Nat → Nat → Bool) :
    VSys Pool Op State Nat (Except Err Unit × Except Err (List OutEntry)) where
  init := State.init
  step := fun P o s => step cfg lt P o s
  observe := fun P s d => observe cfg lt P s d

theorem vexec_clean {cfg : Config} (hs : cfg.Sound) (lt : Nat → Nat → Bool)
    (h : List (Pool × Op)) (s : State) : StaysClean s ((vsys cfg lt).exec h s) := by
  induction h generalizing s with
  | nil => exact .refl s
  | cons po os ih => exact (step_clean hs lt po.1 po.2 s).trans (ih _)

end GuppyVerif.Session
