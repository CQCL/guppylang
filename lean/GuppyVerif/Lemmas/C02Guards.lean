import GuppyVerif.Spec.C02
import GuppyVerif.Props.C03
import GuppyVerif.Props.C08
/-! Existence of the guard theorems of other properties named in `Spec/C02.lean` (`Guard.theorem`).  Built by
    `harness/props/c02.py` on every run, separately from `Props/C02.lean`: if one of these names no longer
    resolves, the C02 tie is reported broken; if `Props/C03` / `Props/C08` themselves do not build, that is
    recorded in the evidence and is not a C02 failure. -/
namespace GuppyVerif.C02.Guards

example := @GuppyVerif.UseDef.no_internal_error
example := @GuppyVerif.Builder.two_successors_have_pred

/-- the names checked above are exactly the external theorems of `Guard.theorem` -/
example : [Guard.useDefNoInternalError, .twoSuccessorsHavePred].map Guard.theorem =
    ["GuppyVerif.UseDef.no_internal_error", "GuppyVerif.Builder.two_successors_have_pred"] := rfl

end GuppyVerif.C02.Guards
