import GuppyVerif.Lemmas.C12Unif
import GuppyVerif.Lemmas.C12Passes
/-! Outcomes of `unify` are monotone in the fuel (`unify_mono`), and on acyclic priors the amount `fuelBound` suffices
    (`term_main`, `unify_fuelBound`).  Fixed along a run: the universe `U` of variables, the possible keys `KK`
    (`σ₀.map Prod.fst ++ U`, ranks compressed by `crank` of C12Passes to `< L = |KK|`), a bound `Z0` on sizes; `A = 2·Z0+2`,
    `K2 = 2·L+2`, `B = K2·A + A`, `O = L+2`.  Fuel above `need k M Z = k·(B+1) + O + M·A + Z` suffices (`k` unbound positions of
    `U`, `M` rank sum, `Z` size sum): chasing a binding lowers `M` and raises `Z` by less than `A`, descending lowers `Z`, a new
    binding lowers `k`, which pays for any `M`, `Z`. -/
namespace GuppyVerif.Unify

def MonoStep (u u' : Tm → Tm → Subst → Res) : Prop := ∀ x y σ, u x y σ ≠ .oof → u' x y σ = u x y σ
def OccMono (o o' : Subst → V → Tm → Option Bool) : Prop := ∀ σ v t, o σ v t ≠ none → o' σ v t = o σ v t

theorem occurs_mono_step : ∀ n, OccMono (occurs n) (occurs (n + 1)) := by
  intro n
  induction n with
  | zero => intro σ v t h; simp [occurs] at h
  | succ n ih =>
    intro σ v t h
    simp only [occurs] at h ⊢
    apply firstM_mono _ _ h
    intro y hy
    by_cases e : y = v
    · simp [e]
    · simp only [e, if_false] at hy ⊢
      cases hl : lookup σ y with
      | none => rfl
      | some u => simp only [hl] at hy ⊢; exact ih σ v u hy

theorem loop_mono {u u' : Tm → Tm → Subst → Res} (h : MonoStep u u') :
    ∀ as bs σ, unifyArgsLoop u as bs σ ≠ .oof → unifyArgsLoop u' as bs σ = unifyArgsLoop u as bs σ
  | [], [], _, _ => rfl
  | [], _ :: _, _, _ => rfl
  | _ :: _, [], _, _ => rfl
  | a :: as, b :: bs, σ, hn => by
    rcases loop_cons a b as bs with ⟨x, y, _, e⟩ | ⟨_, e⟩
    · rw [e] at hn ⊢
      rw [e]
      cases hr : u x y σ with
      | oof => rw [hr] at hn; exact absurd rfl hn
      | fail => rw [h x y σ (by rw [hr]; nofun), hr]; rfl
      | ok σ₁ => rw [h x y σ (by rw [hr]; nofun), hr]; rw [hr] at hn; exact loop_mono h as bs σ₁ hn
    · rw [e, e]

theorem var_mono {u u' : Tm → Tm → Subst → Res} {o o' : Subst → V → Tm → Option Bool}
    (h : MonoStep u u') (ho : OccMono o o') (v : V) (t : Tm) (σ : Subst) :
    unifyVarWith u o v t σ ≠ .oof → unifyVarWith u' o' v t σ = unifyVarWith u o v t σ := by
  refine unifyVarWith_cases (P := fun r => r ≠ .oof → unifyVarWith u' o' v t σ = r) ?_ ?_ ?_
  · intro sv hv hn; rw [unifyVarWith_left hv]; exact h _ _ _ hn
  · rintro w tw hv rfl hw hn; rw [unifyVarWith_right hv hw]; exact h _ _ _ hn
  · intro hv hf hn
    rw [unifyVarWith_bind hv hf]
    unfold bindRes at hn ⊢
    cases hc : o σ v t with
    | none => rw [hc] at hn; exact absurd rfl hn
    | some b => rw [ho σ v t (by rw [hc]; nofun), hc]

theorem runShape_mono {u u' : Tm → Tm → Subst → Res} {o o' : Subst → V → Tm → Option Bool}
    (h : MonoStep u u') (ho : OccMono o o') (σ : Subst) (sh : Shape)
    (hn : runShape u o σ sh ≠ .oof) : runShape u' o' σ sh = runShape u o σ sh := by
  cases sh with
  | same => rfl
  | fail => rfl
  | viaVar v t => exact var_mono h ho v t σ hn
  | viaArgs as bs =>
    simp only [runShape, unifyArgsWith] at hn ⊢
    split
    · rfl
    · rename_i e; rw [if_neg e] at hn; exact loop_mono h as bs σ hn

theorem unify_mono_step (E : Env) : ∀ n, MonoStep (unify E n) (unify E (n + 1)) := by
  intro n
  induction n with
  | zero => intro x y σ h; exact absurd rfl h
  | succ n ih =>
    intro x y σ h
    rw [unify_succ] at h ⊢
    rw [unify_succ]
    exact runShape_mono ih (occurs_mono_step n) σ _ h

theorem unify_mono (E : Env) {n m : Nat} (hnm : n ≤ m) : MonoStep (unify E n) (unify E m) := by
  induction hnm with
  | refl => intro _ _ _ _; rfl
  | step _ ih =>
    intro x y σ h
    rw [unify_mono_step E _ x y σ (by rw [ih x y σ h]; exact h), ih x y σ h]

def VarsIn (U : List V) (t : Tm) : Prop := ∀ y ∈ t.vars, y ∈ U
def cnt (U : List V) (σ : Subst) : Nat := U.countP fun v => (lookup σ v).isNone

theorem VarsIn.arg {U : List V} {h : Head} {as : List Tm} (hv : VarsIn U (.node h as)) :
    ∀ a ∈ as, VarsIn U a := fun a ha y hy => hv y (by simp only [Tm.vars]; exact mem_varsList.mpr ⟨a, ha, hy⟩)

theorem cnt_lt {U : List V} {σ σ' : Subst} (h : Extends σ σ') {v : V} (hv : v ∈ U)
    (h1 : lookup σ v = none) (h2 : lookup σ' v ≠ none) : cnt U σ' < cnt U σ :=
  List.countP_lt_countP
    (fun x _ hx => by
      cases hl : lookup σ x with
      | none => rfl
      | some u => rw [h x u hl] at hx; cases hx)
    ⟨v, hv, by rw [h1]; rfl, by cases hl : lookup σ' v with | none => exact absurd hl h2 | some _ => rfl⟩

def maxL : List Nat → Nat
  | [] => 0
  | a :: as => max a (maxL as)

theorem le_maxL {a : Nat} {l : List Nat} (h : a ∈ l) : a ≤ maxL l := by
  induction l with
  | nil => cases h
  | cons b l ih =>
    simp only [maxL]
    cases h with
    | head => omega
    | tail _ h => have := ih h; omega

theorem maxL_le {k : Nat} {l : List Nat} (h : ∀ a ∈ l, a ≤ k) : maxL l ≤ k := by
  induction l with
  | nil => simp [maxL]
  | cons b l ih =>
    simp only [maxL]
    have := h b (by simp)
    have := ih (fun a ha => h a (by simp [ha]))
    omega

/-- one more than the largest rank `c` of a *bound* variable of `t` (0 if there is none) -/
def bmr (σ : Subst) (c : V → Nat) (t : Tm) : Nat :=
  maxL ((t.vars.filter (fun y => (lookup σ y).isSome)).map (fun y => c y + 1))

theorem le_bmr {σ : Subst} {c : V → Nat} {t : Tm} {y : V} (h : y ∈ t.vars) (hb : lookup σ y ≠ none) :
    c y + 1 ≤ bmr σ c t := by
  apply le_maxL
  refine List.mem_map.mpr ⟨y, List.mem_filter.mpr ⟨h, ?_⟩, rfl⟩
  cases hl : lookup σ y with
  | none => exact absurd hl hb
  | some _ => rfl

theorem bmr_le {σ : Subst} {c : V → Nat} {t : Tm} {k : Nat}
    (h : ∀ y ∈ t.vars, lookup σ y ≠ none → c y + 1 ≤ k) : bmr σ c t ≤ k := by
  apply maxL_le
  intro a ha
  obtain ⟨y, hy, rfl⟩ := List.mem_map.mp ha
  obtain ⟨hy1, hy2⟩ := List.mem_filter.mp hy
  exact h y hy1 (by intro e; rw [e] at hy2; cases hy2)

theorem bmr_mono {σ : Subst} {c : V → Nat} {a b : Tm} (h : ∀ y ∈ a.vars, y ∈ b.vars) : bmr σ c a ≤ bmr σ c b :=
  bmr_le (fun y hy hb => le_bmr (h y hy) hb)

theorem bmr_var_le {σ : Subst} {c : V → Nat} (v : V) : bmr σ c (.var v) ≤ c v + 1 :=
  bmr_le (fun y hy _ => by simp [Tm.vars] at hy; subst hy; exact Nat.le_refl _)

theorem bmr_crank_le {σ : Subst} {K : List V} (hk : ∀ v, lookup σ v ≠ none → v ∈ K) (r : V → Nat) (t : Tm) :
    bmr σ (crank K r) t ≤ K.length :=
  bmr_le fun y _ hb => crank_lt_length (hk y hb)

theorem bmr_image_lt {σ : Subst} {c : V → Nat} (hc : Ranked σ c) {v : V} {u : Tm} (hl : lookup σ v = some u) :
    bmr σ c u < bmr σ c (.var v) :=
  Nat.lt_of_le_of_lt (bmr_le fun z hz hzb => hc v u hl z hz hzb)
    (le_bmr (by simp [Tm.vars]) (by rw [hl]; nofun))

theorem occurs_term {σ : Subst} {c : V → Nat} (hc : Ranked σ c) (v : V) :
    ∀ (m : Nat) (t : Tm), bmr σ c t < m → occurs m σ v t ≠ none := by
  intro m
  induction m with
  | zero => intro t ht; omega
  | succ m ih =>
    intro t ht
    simp only [occurs]
    apply firstM_ne_none
    intro y hy
    by_cases e : y = v
    · simp [e]
    · simp only [e, if_false]
      cases hl : lookup σ y with
      | none => simp
      | some u =>
        have h1 := le_bmr (c := c) hy (by rw [hl]; nofun)
        have h2 : bmr σ c u ≤ c y := bmr_le (fun z hz hzb => hc y u hl z hz hzb)
        exact ih u (by omega)

section
variable {U KK : List V} {Z0 : Nat}

def InB (U : List V) (Z0 : Nat) (t : Tm) : Prop := VarsIn U t ∧ t.size ≤ Z0

structure InvS (U KK : List V) (Z0 : Nat) (σ : Subst) : Prop where
  acyc : Acyclic σ
  imgs : ∀ v u, lookup σ v = some u → InB U Z0 u
  keys : ∀ v, lookup σ v ≠ none → v ∈ KK

theorem InB.arg {h : Head} {as : List Tm} (hn : InB U Z0 (.node h as)) :
    ∀ a ∈ as, InB U Z0 a := fun a ha =>
  ⟨hn.1.arg a ha, by have := size_le_sizeList ha; have := hn.2; simp only [Tm.size] at this; omega⟩

theorem InB.payload {a b x y : Tm} (hp : Payload a b x y) (ha : InB U Z0 a)
    (hb : InB U Z0 b) : InB U Z0 x ∧ InB U Z0 y := by
  have := hp.size_eq; have := ha.2; have := hb.2
  exact ⟨⟨fun z hz => ha.1 z (hp.vars_eq.1 ▸ hz), by omega⟩, ⟨fun z hz => hb.1 z (hp.vars_eq.2 ▸ hz), by omega⟩⟩

theorem unify_inv (E : Env) (hUK : ∀ v ∈ U, v ∈ KK)
    {n : Nat} {x y : Tm} {σ σ₁ : Subst} (h : unify E n x y σ = .ok σ₁) (hx : InB U Z0 x) (hy : InB U Z0 y)
    (hi : InvS U KK Z0 σ) : InvS U KK Z0 σ₁ ∧ (σ₁ = σ ∨ cnt U σ₁ < cnt U σ) := by
  have run := unify_ok_run h
  have main : (∀ v u, lookup σ₁ v = some u → InB U Z0 u) ∧ (σ₁ = σ ∨ cnt U σ₁ < cnt U σ) := by
    refine Unif.ok_rec
      (P := fun s t σ σ' => InB U Z0 s → InB U Z0 t → (∀ v u, lookup σ v = some u → InB U Z0 u) →
        (∀ v u, lookup σ' v = some u → InB U Z0 u) ∧ (σ' = σ ∨ cnt U σ' < cnt U σ))
      (Q := fun as bs σ σ' => (∀ a ∈ as, InB U Z0 a) → (∀ b ∈ bs, InB U Z0 b) →
        (∀ v u, lookup σ v = some u → InB U Z0 u) →
        (∀ v u, lookup σ' v = some u → InB U Z0 u) ∧ (σ' = σ ∨ cnt U σ' < cnt U σ))
      (same := fun _ _ hi => ⟨hi, .inl rfl⟩) (swap := fun g hs ht => g ht hs)
      (left := fun hv g _ ht hi => g (hi _ _ hv) ht hi) (right := fun hw g hs _ hi => g hs (hi _ _ hw) hi)
      (bind := ?bind) (args := fun _ q hs ht => q hs.arg ht.arg) (nil := fun _ _ hi => ⟨hi, .inl rfl⟩) (cons := ?cons)
      run hx hy hi.imgs
    case bind =>
      intro v t σ hl _ hv ht hi
      refine ⟨fun x w hx => ?_, .inr (cnt_lt (.cons t hl) (hv.1 v (by simp [Tm.vars])) hl (by simp [lookup_cons]))⟩
      rcases lookup_cons_some hx with ⟨_, rfl⟩ | hx
      · exact ht
      · exact hi x w hx
    case cons =>
      intro a b x y as bs σ σ₁ σ' hp g q ha hb hi
      obtain ⟨hx, hy⟩ := InB.payload hp (ha a (by simp)) (hb b (by simp))
      obtain ⟨hi₁, g₁⟩ := g hx hy hi
      obtain ⟨hi₂, g₂⟩ := q (fun a h' => ha a (by simp [h'])) (fun b h' => hb b (by simp [h'])) hi₁
      refine ⟨hi₂, ?_⟩
      rcases g₁ with rfl | g₁
      · exact g₂
      · exact .inr (by rcases g₂ with rfl | g₂ <;> omega)
  refine ⟨⟨run.acyclic hi.acyc, main.1, fun v hv => ?_⟩, main.2⟩
  exact ((run.keys (P := (· ∈ U)) hx.1 hy.1 fun v u hl => (hi.imgs v u hl).1).2 v hv).elim (hi.keys v) (hUK v)

/-- heads met while the substitution is still `σ` terminate by `hsame`, everything after it has grown by `hless` -/
theorem loop_term (E : Env) (hUK : ∀ v ∈ U, v ∈ KK) {n : Nat} {σ : Subst}
    (hless : ∀ σ₁, InvS U KK Z0 σ₁ → cnt U σ₁ < cnt U σ → ∀ x y, InB U Z0 x → InB U Z0 y →
      unify E n x y σ₁ ≠ .oof) :
    ∀ (as bs : List Tm) (σ₁ : Subst), InvS U KK Z0 σ₁ → (σ₁ = σ ∨ cnt U σ₁ < cnt U σ) →
      (∀ a ∈ as, InB U Z0 a) → (∀ b ∈ bs, InB U Z0 b) →
      (∀ a ∈ as, ∀ b ∈ bs, ∀ x y, Payload a b x y → unify E n x y σ ≠ .oof) →
      unifyArgsLoop (unify E n) as bs σ₁ ≠ .oof
  | [], [], _, _, _, _, _, _ => nofun
  | [], _ :: _, _, _, _, _, _, _ => nofun
  | _ :: _, [], _, _, _, _, _, _ => nofun
  | a :: as, b :: bs, σ₁, hinv, hst, ha, hb, hsame => by
    rcases loop_cons a b as bs with ⟨x, y, hp, e⟩ | ⟨_, e⟩
    · rw [e]
      obtain ⟨hx, hy⟩ := InB.payload hp (ha a (by simp)) (hb b (by simp))
      have hne : unify E n x y σ₁ ≠ .oof := by
        rcases hst with rfl | hlt
        · exact hsame a (by simp) b (by simp) x y hp
        · exact hless σ₁ hinv hlt x y hx hy
      cases hres : unify E n x y σ₁ with
      | oof => exact absurd hres hne
      | fail => nofun
      | ok σ₂ =>
        obtain ⟨hinv₂, hgrew⟩ := unify_inv E hUK hres hx hy hinv
        refine loop_term E hUK hless as bs σ₂ hinv₂ ?_ (fun a h' => ha a (by simp [h']))
          (fun b h' => hb b (by simp [h'])) (fun a' ha' b' hb' => hsame a' (by simp [ha']) b' (by simp [hb']))
        rcases hgrew with rfl | hlt
        · exact hst
        · exact .inr (by rcases hst with rfl | h' <;> omega)
    · rw [e]; nofun

/-- the measure of a call: `k` unbound universe positions, rank sum `m`, size sum `z` -/
def need (A B O k m z : Nat) : Nat := k * (B + 1) + O + m * A + z

section
variable {A B O K2 k k₁ m m₁ z z₁ : Nat}

theorem le_need : O ≤ need A B O k m z := by unfold need; omega

theorem need_args (hm : m₁ ≤ m) (hz : z₁ < z) : need A B O k m₁ z₁ < need A B O k m z := by
  have := Nat.mul_le_mul_right A hm
  unfold need; omega

theorem need_chase (hm : m₁ + 1 ≤ m) (hz : z₁ < A) : need A B O k m₁ z₁ < need A B O k m z := by
  have := Nat.mul_le_mul_right A hm
  rw [Nat.add_mul] at this
  unfold need; omega

theorem need_bind (hc : k₁ + 1 ≤ k) (hB : K2 * A + A ≤ B) (hm : m₁ + 2 ≤ K2) (hz : z₁ < A) :
    need A B O k₁ m₁ z₁ < need A B O k m z := by
  have h3 := Nat.mul_le_mul_right (B + 1) hc
  have h4 := Nat.mul_le_mul_right A hm
  rw [Nat.add_mul] at h3 h4
  unfold need; omega

theorem need_lt_bound {u : Nat} (hc : k ≤ u) (hm : m + 2 ≤ K2) (hz : z < A) :
    need A B O k m z < u * (B + 1) + O + K2 * A + A := by
  have h3 := Nat.mul_le_mul_right (B + 1) hc
  have h4 := Nat.mul_le_mul_right A hm
  rw [Nat.add_mul] at h4
  unfold need; omega
end

theorem term_main (E : Env) (hUK : ∀ v ∈ U, v ∈ KK) {A B K2 O : Nat}
    (hA : 2 * Z0 + 2 ≤ A) (hK : 2 * KK.length + 2 ≤ K2) (hB : K2 * A + A ≤ B) (hO : KK.length + 2 ≤ O) :
    ∀ (n : Nat) (σ : Subst) (r : V → Nat) (s t : Tm), InvS U KK Z0 σ →
      (∀ v u, lookup σ v = some u → ∀ y ∈ u.vars, r y < r v) → InB U Z0 s → InB U Z0 t →
      need A B O (cnt U σ) (bmr σ (crank KK r) s + bmr σ (crank KK r) t) (s.size + t.size) < n →
      unify E n s t σ ≠ .oof := by
  have hsz : ∀ {x y : Tm}, InB U Z0 x → InB U Z0 y → x.size + y.size < A :=
    fun hx hy => by have := hx.2; have := hy.2; omega
  intro n
  induction n with
  | zero => intro _ _ _ _ _ _ _ _ h; cases h
  | succ n ih =>
    intro σ r s t hinv hr hs ht hn
    have hc : Ranked σ (crank KK r) := crank_ranked hr hinv.keys
    -- a new binding changes the ranks: re-enter with a rank of the grown substitution; one unbound position less pays for
    -- any ranks and sizes (`need_bind`)
    have hless : ∀ σ₁, InvS U KK Z0 σ₁ → cnt U σ₁ < cnt U σ → ∀ x y, InB U Z0 x → InB U Z0 y →
        unify E n x y σ₁ ≠ .oof := by
      intro σ₁ hinv₁ hlt x y hx hy
      obtain ⟨r₁, hr₁⟩ := hinv₁.acyc
      have h1 := bmr_crank_le hinv₁.keys r₁ x
      have h2 := bmr_crank_le hinv₁.keys r₁ y
      exact ih σ₁ r₁ x y hinv₁ hr₁ hx hy
        (Nat.lt_of_lt_of_le (need_bind hlt hB (by omega) (hsz hx hy)) (Nat.le_of_lt_succ hn))
    rw [unify_succ]
    cases hsh : shape E s t with
    | same => nofun
    | fail => nofun
    | viaVar v t' =>
      obtain ⟨_, hcs⟩ := shape_viaVar hsh
      have hv : InB U Z0 (.var v) ∧ InB U Z0 t' ∧ ∃ z,
          need A B O (cnt U σ) (bmr σ (crank KK r) (.var v) + bmr σ (crank KK r) t') z ≤ n := by
        rcases hcs with ⟨rfl, rfl⟩ | ⟨rfl, rfl⟩
        · exact ⟨hs, ht, _, Nat.le_of_lt_succ hn⟩
        · exact ⟨ht, hs, _, Nat.add_comm (bmr ..) _ ▸ Nat.le_of_lt_succ hn⟩
      obtain ⟨hvv, ht', z, hn'⟩ := hv
      have chase : ∀ x y, InB U Z0 x → InB U Z0 y → bmr σ (crank KK r) x + bmr σ (crank KK r) y <
          bmr σ (crank KK r) (.var v) + bmr σ (crank KK r) t' → unify E n x y σ ≠ .oof :=
        fun x y hx hy hlt => ih σ r x y hinv hr hx hy (Nat.lt_of_lt_of_le (need_chase hlt (hsz hx hy)) hn')
      refine unifyVarWith_cases (P := (· ≠ .oof)) ?_ ?_ ?_
      · intro sv hl
        have := bmr_image_lt hc hl
        exact chase sv t' (hinv.imgs v sv hl) ht' (by omega)
      · rintro w tw - rfl hw
        have := bmr_image_lt hc hw
        exact chase (.var v) tw hvv (hinv.imgs w tw hw) (by omega)
      · intro _ _
        have := occurs_term hc v n t' (by
          have := bmr_crank_le hinv.keys r t'
          have := Nat.le_trans (le_need (A := A) (B := B)) hn'
          omega)
        unfold bindRes
        cases ho : occurs n σ v t' with
        | none => exact absurd ho this
        | some b => cases b <;> nofun
    | viaArgs as bs =>
      obtain ⟨h₁, h₂, rfl, rfl, _⟩ := shape_viaArgs hsh
      simp only [runShape, unifyArgsWith]
      split
      · nofun
      · refine loop_term E hUK hless as bs σ hinv (.inl rfl) hs.arg ht.arg fun a ha b hb x y hp => ?_
        obtain ⟨hx, hy⟩ := InB.payload hp (hs.arg a ha) (ht.arg b hb)
        have m1 : bmr σ (crank KK r) x ≤ bmr σ (crank KK r) (.node h₁ as) := bmr_mono fun w hw => by
          simp only [Tm.vars]; exact mem_varsList.mpr ⟨a, ha, hp.vars_eq.1 ▸ hw⟩
        have m2 : bmr σ (crank KK r) y ≤ bmr σ (crank KK r) (.node h₂ bs) := bmr_mono fun w hw => by
          simp only [Tm.vars]; exact mem_varsList.mpr ⟨b, hb, hp.vars_eq.2 ▸ hw⟩
        refine ih σ r x y hinv hr hx hy (Nat.lt_of_lt_of_le (need_args (Nat.add_le_add m1 m2) ?_) (Nat.le_of_lt_succ hn))
        have := size_le_sizeList ha; have := size_le_sizeList hb; have := hp.size_eq
        simp only [Tm.size]
        omega
end

theorem image_size_le {σ : Subst} {v : V} {u : Tm} (h : lookup σ v = some u) :
    u.size ≤ (σ.map (fun p => p.2.size)).sum :=
  List.le_sum_map (fun p : V × Tm => p.2.size) σ (v, u) (lookup_mem h)

theorem unify_fuelBound (E : Env) (s t : Tm) (σ : Subst) (ha : Acyclic σ) (n : Nat) (hn : fuelBound s t σ ≤ n) :
    unify E n s t σ ≠ .oof := by
  let U : List V := s.vars ++ t.vars ++ σ.flatMap (fun p => p.2.vars)
  let KK : List V := σ.map Prod.fst ++ U
  let Z0 : Nat := s.size + t.size + (σ.map (fun p => p.2.size)).sum
  have hUK : ∀ v ∈ U, v ∈ KK := fun v hv => List.mem_append_right _ hv
  have hinv : InvS U KK Z0 σ := by
    refine ⟨ha, fun v u hl => ⟨fun y hy => ?_, ?_⟩, fun v hv => List.mem_append_left _ (mem_keys_of_bound v hv)⟩
    · simp only [U, List.mem_append, List.mem_flatMap]
      exact Or.inr ⟨(v, u), lookup_mem hl, hy⟩
    · have := image_size_le hl
      show u.size ≤ s.size + t.size + _
      omega
  have hcnt : cnt U σ ≤ U.length := List.countP_le_length
  have hKK : KK.length = σ.length + U.length := by simp [KK]
  have hs : InB U Z0 s := ⟨fun y hy => by simp [U, hy], by show s.size ≤ s.size + t.size + _; omega⟩
  have ht : InB U Z0 t := ⟨fun y hy => by simp [U, hy], by show t.size ≤ s.size + t.size + _; omega⟩
  obtain ⟨r, hr⟩ := ha
  have h1 := bmr_crank_le hinv.keys r s
  have h2 := bmr_crank_le hinv.keys r t
  refine term_main E hUK (A := 2 * Z0 + 2) (K2 := 2 * KK.length + 2)
    (B := (2 * KK.length + 2) * (2 * Z0 + 2) + (2 * Z0 + 2)) (O := KK.length + 2)
    (Nat.le_refl _) (Nat.le_refl _) (Nat.le_refl _) (Nat.le_refl _) n σ r s t hinv hr hs ht
    (Nat.lt_of_lt_of_le (need_lt_bound (K2 := 2 * KK.length + 2) hcnt (by omega) (by have := hs.2; have := ht.2; omega)) ?_)
  simpa only [fuelBound, hKK, U, Z0] using hn

theorem unify_stabilises (E : Env) (s t : Tm) (σ : Subst) (ha : Acyclic σ) :
    ∃ n, unify E n s t σ ≠ .oof ∧ ∀ m, n ≤ m → unify E m s t σ = unify E n s t σ :=
  have hn := unify_fuelBound E s t σ ha _ (Nat.le_refl _)
  ⟨fuelBound s t σ, hn, fun _ hm => unify_mono E hm s t σ hn⟩

theorem unify_ok_of_not_fail (E : Env) (s t : Tm) (σ₀ : Subst) (h₀ : Acyclic σ₀)
    (hc : ∀ n, unify E n s t σ₀ ≠ .fail) : ∃ n σ, ∀ m, n ≤ m → unify E m s t σ₀ = .ok σ := by
  obtain ⟨n, hn, hst⟩ := unify_stabilises E s t σ₀ h₀
  cases hres : unify E n s t σ₀ with
  | oof => exact absurd hres hn
  | fail => exact absurd hres (hc n)
  | ok σ => exact ⟨n, σ, fun m hm => by rw [hst m hm, hres]⟩

end GuppyVerif.Unify
