import GuppyVerif.Model.IntSem
/-! Each HUGR integer op of `Model/IntSem.lean` against Python's semantics on `Int`.  2^64 and 2^63 are written out as literals
    so that `omega` sees them; `wrapS_def` / `wrapU_def` put `bmod` / `%` in that form. -/
namespace GuppyVerif.IntSem

theorem toInt_range (a : W) : -9223372036854775808 ≤ a.toInt ∧ a.toInt ≤ 9223372036854775807 := by
  have h1 := BitVec.le_toInt a
  have h2 := BitVec.toInt_lt (x := a)
  simp at h1 h2; omega

theorem toNat_range (a : W) : a.toNat < 18446744073709551616 := a.isLt

theorem toInt_cases (a : W) :
    (a.toNat < 9223372036854775808 ∧ a.toInt = a.toNat) ∨
    (9223372036854775808 ≤ a.toNat ∧ a.toInt = (a.toNat : Int) - 18446744073709551616) := by
  have h := BitVec.toInt_eq_toNat_cond a
  have hl := a.isLt
  simp only [Nat.reducePow] at h hl
  split at h <;> omega

theorem wrapS_def (x : Int) : wrapS x =
    (if x % 18446744073709551616 < 9223372036854775808 then x % 18446744073709551616
     else x % 18446744073709551616 - 18446744073709551616) := by
  unfold wrapS; rw [Int.bmod_def]; simp only [Nat.reducePow, Int.cast_ofNat_Int]; rfl

theorem wrapU_def (x : Int) : wrapU x = x % 18446744073709551616 := by
  unfold wrapU; rfl

theorem wrapS_congr {x y : Int} (h : x % 18446744073709551616 = y % 18446744073709551616) : wrapS x = wrapS y := by
  rw [wrapS_def, wrapS_def, h]

theorem wrapS_of_range {x : Int} (h1 : -9223372036854775808 ≤ x) (h2 : x ≤ 9223372036854775807) : wrapS x = x := by
  rw [wrapS_def]; omega

theorem wrapU_of_range {x : Int} (h1 : 0 ≤ x) (h2 : x < 18446744073709551616) : wrapU x = x := by
  rw [wrapU_def]; omega

theorem iadd_toInt (a b : W) : (iadd a b).toInt = wrapS (a.toInt + b.toInt) := by
  simp [iadd, wrapS, BitVec.toInt_add]
theorem isub_toInt (a b : W) : (isub a b).toInt = wrapS (a.toInt - b.toInt) := by
  simp [isub, wrapS, BitVec.toInt_sub]
theorem imul_toInt (a b : W) : (imul a b).toInt = wrapS (a.toInt * b.toInt) := by
  simp [imul, wrapS, BitVec.toInt_mul]
theorem ineg_toInt (a : W) : (ineg a).toInt = wrapS (-a.toInt) := by
  simp [ineg, wrapS, BitVec.toInt_neg]

theorem iadd_toNat (a b : W) : ((iadd a b).toNat : Int) = wrapU ((a.toNat : Int) + b.toNat) := by
  simp only [iadd, BitVec.toNat_add, wrapU_def]; omega
theorem isub_toNat (a b : W) : ((isub a b).toNat : Int) = wrapU ((a.toNat : Int) - b.toNat) := by
  have := a.isLt; have := b.isLt
  simp only [isub, BitVec.toNat_sub, wrapU_def]; omega
theorem imul_toNat (a b : W) : ((imul a b).toNat : Int) = wrapU ((a.toNat : Int) * b.toNat) := by
  simp only [imul, BitVec.toNat_mul, wrapU_def]
  rw [← Int.natCast_mul]; omega

theorem toNat_emod_eq_toInt_emod (a : W) : (a.toNat : Int) % 18446744073709551616 = a.toInt % 18446744073709551616 := by
  rcases toInt_cases a with ⟨_, h⟩ | ⟨_, h⟩ <;> omega

theorem two_pow_cast (i : Nat) : (2 : Int) ^ i = ((2 ^ i : Nat) : Int) := by
  rw [Int.natCast_pow]; rfl

theorem fdiv_two_pow (x : Int) (i : Nat) : Int.fdiv x (2 ^ i) = x / 2 ^ i :=
  Int.fdiv_eq_ediv_of_nonneg _ (Int.le_of_lt (Int.pow_pos (by decide)))

theorem pyBit_natCast (n i : Nat) : pyBit (n : Int) i = n.testBit i := by
  unfold pyBit
  rw [fdiv_two_pow]
  rw [Nat.testBit_eq_decide_div_mod_eq, two_pow_cast, Int.ofNat_ediv_ofNat]
  simp only [decide_eq_decide]
  omega

theorem pyBit_negSucc (n i : Nat) : pyBit (Int.negSucc n) i = !n.testBit i := by
  unfold pyBit
  rw [fdiv_two_pow]
  obtain ⟨k, hk⟩ : ∃ k, 2 ^ i = k + 1 := ⟨2 ^ i - 1, by have := Nat.two_pow_pos i; omega⟩
  rw [Nat.testBit_eq_decide_div_mod_eq, two_pow_cast, hk, Int.negSucc_ediv_ofNat_succ, Int.negSucc_eq]
  generalize n / (k + 1) = q
  by_cases h : q % 2 = 1
  · simp only [h, decide_true, Bool.not_true, decide_eq_false_iff_not]; omega
  · simp only [h, decide_false, Bool.not_false, decide_eq_true_eq]; omega

theorem pyBit_toInt (a : W) (i : Nat) : pyBit a.toInt i = if i < 64 then a.getLsbD i else a.msb := by
  rcases toInt_cases a with ⟨hlt, h⟩ | ⟨hge, h⟩
  · have hmsb : a.msb = false := (BitVec.msb_eq_false_iff_two_mul_lt).mpr (by omega)
    rw [h, pyBit_natCast, hmsb]
    split
    · rfl
    · rename_i hi
      exact Nat.testBit_lt_two_pow (Nat.lt_of_lt_of_le a.isLt (Nat.pow_le_pow_right (by decide) (by omega)))
  · have hmsb : a.msb = true := by
      rw [BitVec.msb_eq_decide]; simp; omega
    have e : a.toInt = Int.negSucc (18446744073709551615 - a.toNat) := by
      rw [h, Int.negSucc_eq]; have := a.isLt; omega
    rw [e, pyBit_negSucc, hmsb]
    have hnot : (18446744073709551615 - a.toNat) = (~~~a).toNat := by
      rw [BitVec.toNat_not]
    rw [hnot]
    split
    · rename_i hi
      rw [← BitVec.getLsbD, BitVec.getLsbD_not]; simp [hi]
    · rename_i hi
      have : (~~~a).toNat.testBit i = false :=
        Nat.testBit_lt_two_pow (Nat.lt_of_lt_of_le (~~~a).isLt (Nat.pow_le_pow_right (by decide) (by omega)))
      rw [this]; rfl

theorem pyBit_toNat (a : W) (i : Nat) : pyBit (a.toNat : Int) i = a.getLsbD i := by
  rw [pyBit_natCast]; rfl

theorem iand_isPyAnd (a b : W) : IsPyAnd (iand a b).toInt a.toInt b.toInt := by
  intro i; simp only [pyBit_toInt, iand]; split <;> simp
theorem ior_isPyOr (a b : W) : IsPyOr (ior a b).toInt a.toInt b.toInt := by
  intro i; simp only [pyBit_toInt, ior]; split <;> simp
theorem ixor_isPyXor (a b : W) : IsPyXor (ixor a b).toInt a.toInt b.toInt := by
  intro i; simp only [pyBit_toInt, ixor]; split <;> simp

theorem iand_isPyAnd_nat (a b : W) : IsPyAnd (iand a b).toNat a.toNat b.toNat := by
  intro i; simp only [pyBit_toNat, iand, BitVec.getLsbD_and]
theorem ior_isPyOr_nat (a b : W) : IsPyOr (ior a b).toNat a.toNat b.toNat := by
  intro i; simp only [pyBit_toNat, ior, BitVec.getLsbD_or]
theorem ixor_isPyXor_nat (a b : W) : IsPyXor (ixor a b).toNat a.toNat b.toNat := by
  intro i; simp only [pyBit_toNat, ixor, BitVec.getLsbD_xor, bne]

theorem inot_toInt (a : W) : (inot a).toInt = pyInvert a.toInt := by
  have hn : (inot a).toNat = 18446744073709551615 - a.toNat := by simp [inot, BitVec.toNat_not]
  have := a.isLt
  unfold pyInvert
  rcases toInt_cases a with ⟨_, h⟩ | ⟨_, h⟩ <;> rcases toInt_cases (inot a) with ⟨_, h'⟩ | ⟨_, h'⟩ <;> omega

theorem inot_toNat (a : W) : ((inot a).toNat : Int) = wrapU (pyInvert (a.toNat : Int)) := by
  have hn : (inot a).toNat = 18446744073709551615 - a.toNat := by simp [inot, BitVec.toNat_not]
  have := a.isLt
  rw [wrapU_def]; unfold pyInvert; omega

theorem emod_mul_congr {x y : Int} (c : Int) (h : x % 18446744073709551616 = y % 18446744073709551616) :
    (x * c) % 18446744073709551616 = (y * c) % 18446744073709551616 := by
  rw [Int.mul_emod, h, ← Int.mul_emod]

theorem shift_count (b : W) (h0 : 0 ≤ b.toInt) : b.toNat = b.toInt.toNat := by
  rcases toInt_cases b with ⟨_, h⟩ | ⟨_, h⟩ <;> omega

theorem toInt_shl (a : W) (k : Nat) : (a <<< k).toInt = wrapS (pyShl a.toInt k) := by
  rw [BitVec.toInt_shiftLeft]
  have : ((a.toNat <<< k : Nat) : Int).bmod (2 ^ 64) = wrapS ((a.toNat : Int) * 2 ^ k) := by
    unfold wrapS; rw [Nat.shiftLeft_eq, Int.natCast_mul, Int.natCast_pow]; rfl
  rw [this]
  exact wrapS_congr (emod_mul_congr _ (toNat_emod_eq_toInt_emod a))

/-- the guard in `ishl` (which keeps the executable model from building a 2^64-bit natural) changes nothing -/
theorem ishl_eq (a b : W) : ishl a b = a <<< b.toNat := by
  unfold ishl
  split
  · rename_i h; exact (BitVec.shiftLeft_eq_zero h).symm
  · rfl

theorem ishl_toInt (a b : W) (h0 : 0 ≤ b.toInt) :
    (ishl a b).toInt = wrapS (pyShl a.toInt b.toInt.toNat) := by
  rw [ishl_eq, shift_count b h0]; exact toInt_shl a _

theorem ishl_toNat (a b : W) :
    ((ishl a b).toNat : Int) = wrapU (pyShl a.toNat b.toNat) := by
  rw [ishl_eq]; unfold pyShl
  rw [BitVec.toNat_shiftLeft, Nat.shiftLeft_eq, wrapU_def, Int.natCast_emod, Int.natCast_mul, Int.natCast_pow]
  rfl

theorem ishr_toNat (a b : W) : ((ishr a b).toNat : Int) = pyShr a.toNat b.toNat := by
  unfold ishr pyShr
  rw [BitVec.toNat_ushiftRight, Nat.shiftRight_eq_div_pow,
    fdiv_two_pow, two_pow_cast, Int.ofNat_ediv_ofNat]

theorem ishr_toInt_nonneg (a b : W) (ha : 0 ≤ a.toInt) :
    (ishr a b).toInt = pyShr a.toInt b.toNat := by
  have e1 : a.toInt = a.toNat := by rcases toInt_cases a with ⟨_, h⟩ | ⟨_, h⟩ <;> omega
  have hlt : a.toNat < 9223372036854775808 := by rcases toInt_cases a with ⟨_, h⟩ | ⟨_, h⟩ <;> omega
  have hle : (ishr a b).toNat ≤ a.toNat := by
    unfold ishr; rw [BitVec.toNat_ushiftRight]; exact Nat.shiftRight_le _ _
  have e2 : (ishr a b).toInt = (ishr a b).toNat := by
    rcases toInt_cases (ishr a b) with ⟨_, h⟩ | ⟨_, h⟩ <;> omega
  rw [e2, e1]; exact ishr_toNat a b

theorem idivmod_s_zero (a : W) : idivmod_s a 0 = none := by simp [idivmod_s]
theorem idivmod_u_zero (a : W) : idivmod_u a 0 = none := by simp [idivmod_u]

theorem pos_divisor (b : W) (hb : 0 < b.toInt) : (b.toNat : Int) = b.toInt ∧ b.toNat ≠ 0 := by
  rcases toInt_cases b with ⟨_, h⟩ | ⟨_, h⟩ <;> omega

theorem ofInt_toInt_of_range {x : Int} (h1 : -9223372036854775808 ≤ x) (h2 : x ≤ 9223372036854775807) :
    (BitVec.ofInt 64 x).toInt = x := by
  rw [BitVec.toInt_ofInt]; exact wrapS_of_range h1 h2

theorem idivmod_s_pos (a b : W) (hb : 0 < b.toInt) :
    ∃ q r, idivmod_s a b = some (q, r) ∧ q.toInt = pyFloorDiv a.toInt b.toInt ∧ r.toInt = pyMod a.toInt b.toInt := by
  obtain ⟨hm, hnz⟩ := pos_divisor b hb
  have ⟨ha1, ha2⟩ := toInt_range a
  have ⟨_, hb2⟩ := toInt_range b
  refine ⟨BitVec.ofInt 64 (a.toInt / (b.toNat : Int)), BitVec.ofInt 64 (a.toInt % (b.toNat : Int)), by simp [idivmod_s, hnz], ?_, ?_⟩
  · unfold pyFloorDiv
    rw [Int.fdiv_eq_ediv_of_nonneg _ (Int.le_of_lt hb), hm]
    apply ofInt_toInt_of_range
    · by_cases hneg : a.toInt < 0
      · have : a.toInt ≤ a.toInt / b.toInt := by
          apply Int.le_ediv_of_mul_le hb
          have : a.toInt * b.toInt ≤ a.toInt * 1 := Int.mul_le_mul_of_nonpos_left (by omega) (by omega)
          omega
        omega
      · have := Int.ediv_nonneg (a := a.toInt) (b := b.toInt) (by omega) (by omega); omega
    · by_cases hneg : a.toInt < 0
      · have := Int.ediv_neg_of_neg_of_pos hneg hb; omega
      · have := Int.ediv_le_self (a := a.toInt) b.toInt (by omega); omega
  · unfold pyMod
    rw [Int.fmod_eq_emod_of_nonneg _ (Int.le_of_lt hb), hm]
    apply ofInt_toInt_of_range
    · have := Int.emod_nonneg a.toInt (b := b.toInt) (by omega); omega
    · have := Int.emod_lt_of_pos a.toInt hb; omega

theorem idivmod_u_ne (a b : W) (hb : b.toNat ≠ 0) :
    ∃ q r, idivmod_u a b = some (q, r) ∧ (q.toNat : Int) = pyFloorDiv a.toNat b.toNat ∧
      (r.toNat : Int) = pyMod a.toNat b.toNat := by
  have := a.isLt
  refine ⟨BitVec.ofNat 64 (a.toNat / b.toNat), BitVec.ofNat 64 (a.toNat % b.toNat), by simp [idivmod_u, hb], ?_, ?_⟩
  · unfold pyFloorDiv
    rw [Int.fdiv_eq_ediv_of_nonneg _ (by omega), Int.ofNat_ediv_ofNat, BitVec.toNat_ofNat,
      Nat.mod_eq_of_lt (Nat.lt_of_le_of_lt (Nat.div_le_self _ _) a.isLt)]
  · unfold pyMod
    rw [Int.fmod_eq_emod_of_nonneg _ (by omega), ← Int.natCast_emod, BitVec.toNat_ofNat,
      Nat.mod_eq_of_lt (Nat.lt_of_le_of_lt (Nat.mod_le _ _) a.isLt)]

theorem sq_pow (a : W) (k : Nat) : (a * a) ^ k = a ^ (2 * k) := by
  induction k with
  | zero => rfl
  | succ k ih =>
    rw [BitVec.pow_succ, ih, show 2 * (k + 1) = 2 * k + 1 + 1 by omega, BitVec.pow_succ, BitVec.pow_succ, BitVec.mul_assoc]

theorem powFast_eq (fuel : Nat) : ∀ (a : W) (n : Nat), n < 2 ^ fuel → powFast a fuel n = a ^ n := by
  induction fuel with
  | zero => intro a n h; have : n = 0 := by simpa using h
            subst this; rfl
  | succ fuel ih =>
    intro a n h
    unfold powFast
    by_cases h0 : n = 0
    · subst h0; rfl
    · have hlt : n / 2 < 2 ^ fuel := by rw [Nat.pow_succ] at h; omega
      simp only [h0, ↓reduceIte, ih (a * a) (n / 2) hlt, sq_pow]
      by_cases hodd : n % 2 = 1
      · simp only [hodd, ↓reduceIte]
        rw [← BitVec.pow_succ]; congr 1; omega
      · simp only [hodd, ↓reduceIte]; congr 1; omega

theorem ipow_eq (a b : W) : ipow a b = a ^ b.toNat :=
  powFast_eq 65 a b.toNat (Nat.lt_trans b.isLt (by decide))

theorem toInt_pow (a : W) (n : Nat) : (a ^ n).toInt = wrapS (pyPow a.toInt n) := by
  unfold pyPow wrapS
  induction n with
  | zero => simp
  | succ n ih =>
    rw [BitVec.pow_succ, BitVec.toInt_mul, ih, Int.pow_succ, Int.bmod_mul_bmod]

theorem ipow_toInt (a b : W) (h0 : 0 ≤ b.toInt) : (ipow a b).toInt = wrapS (pyPow a.toInt b.toInt.toNat) := by
  rw [ipow_eq, shift_count b h0]; exact toInt_pow a _

theorem toNat_pow (a : W) (n : Nat) : ((a ^ n).toNat : Int) = wrapU (pyPow a.toNat n) := by
  unfold pyPow
  rw [wrapU_def]
  induction n with
  | zero => simp
  | succ n ih =>
    rw [BitVec.pow_succ, BitVec.toNat_mul, Int.natCast_emod, Int.natCast_mul, ih, Int.pow_succ]
    simp only [Nat.reducePow, Int.cast_ofNat_Int]
    rw [Int.mul_emod, Int.emod_emod_of_dvd _ (Int.dvd_refl _), ← Int.mul_emod]

theorem ipow_toNat (a b : W) : ((ipow a b).toNat : Int) = wrapU (pyPow a.toNat b.toNat) := by
  rw [ipow_eq]; exact toNat_pow a _

theorem iabs_toInt (a : W) : (iabs a).toInt = wrapS (pyAbs a.toInt) := by
  unfold iabs pyAbs
  rw [BitVec.toInt_ofNat', wrapS]
  congr 1
  split <;> omega

theorem ilt_s_iff (a b : W) : ilt_s a b = decide (a.toInt < b.toInt) := rfl
theorem ile_s_iff (a b : W) : ile_s a b = decide (a.toInt ≤ b.toInt) := rfl
theorem igt_s_iff (a b : W) : igt_s a b = decide (a.toInt > b.toInt) := rfl
theorem ige_s_iff (a b : W) : ige_s a b = decide (a.toInt ≥ b.toInt) := rfl
theorem ilt_u_iff (a b : W) : ilt_u a b = decide (a.toNat < b.toNat) := rfl
theorem ile_u_iff (a b : W) : ile_u a b = decide (a.toNat ≤ b.toNat) := rfl
theorem igt_u_iff (a b : W) : igt_u a b = decide (a.toNat > b.toNat) := rfl
theorem ige_u_iff (a b : W) : ige_u a b = decide (a.toNat ≥ b.toNat) := rfl
theorem ieq_iff_toInt (a b : W) : ieq a b = decide (a.toInt = b.toInt) :=
  (Bool.beq_eq_decide_eq a b).trans (decide_eq_decide.mpr BitVec.toInt_inj.symm)
theorem ieq_iff_toNat (a b : W) : ieq a b = decide (a.toNat = b.toNat) :=
  (Bool.beq_eq_decide_eq a b).trans (decide_eq_decide.mpr BitVec.toNat_inj.symm)
theorem ine_iff_toInt (a b : W) : ine a b = decide (a.toInt ≠ b.toInt) := by
  rw [decide_not, ← ieq_iff_toInt]; rfl
theorem ine_iff_toNat (a b : W) : ine a b = decide (a.toNat ≠ b.toNat) := by
  rw [decide_not, ← ieq_iff_toNat]; rfl

theorem is_to_u_nonneg (a : W) (h : 0 ≤ a.toInt) : is_to_u a = some a ∧ (a.toNat : Int) = a.toInt := by
  have hm : a.msb = false := by
    apply (BitVec.msb_eq_false_iff_two_mul_lt).mpr
    rcases toInt_cases a with ⟨_, h'⟩ | ⟨_, h'⟩ <;> omega
  refine ⟨by simp [is_to_u, hm], ?_⟩
  rcases toInt_cases a with ⟨_, h'⟩ | ⟨_, h'⟩ <;> omega

/-- the shipped description of `idivmod_s`: "signed q and unsigned r where q*m+r=n, 0<=r<m", divisor `m` read unsigned -/
theorem idivmod_s_meets_description (n m q r : W) (h : idivmod_s n m = some (q, r)) :
    ∃ q' r' : Int, q' * (m.toNat : Int) + r' = n.toInt ∧ 0 ≤ r' ∧ r' < m.toNat ∧
      q = BitVec.ofInt 64 q' ∧ r = BitVec.ofInt 64 r' := by
  unfold idivmod_s at h
  by_cases hm : m.toNat = 0
  · simp [hm] at h
  · simp only [hm, ↓reduceIte, Option.some.injEq, Prod.mk.injEq] at h
    have hpos : (0 : Int) < m.toNat := by omega
    refine ⟨n.toInt / m.toNat, n.toInt % m.toNat, ?_, Int.emod_nonneg _ (by omega), Int.emod_lt_of_pos _ hpos, h.1.symm, h.2.symm⟩
    rw [Int.mul_comm]; exact Int.mul_ediv_add_emod _ _

theorem pyBit_zero (x : Int) : pyBit x 0 = decide (x % 2 = 1) := by
  unfold pyBit; simp [Int.fdiv_eq_ediv_of_nonneg]

theorem pyBit_succ (x : Int) (i : Nat) : pyBit x (i + 1) = pyBit (x / 2) i := by
  unfold pyBit
  rw [fdiv_two_pow,
      fdiv_two_pow,
      Int.pow_succ, Int.mul_comm, ← Int.ediv_ediv_of_nonneg (by decide)]

/-- so `IsPyAnd z x y` etc. characterise `z` uniquely: the bits of `↑n` and of `-[n+1]` are those of `n` and their complements
    (`pyBit_natCast`, `pyBit_negSucc`), and a natural number is determined by its bits -/
theorem pyBit_ext (x y : Int) (h : ∀ i, pyBit x i = pyBit y i) : x = y := by
  have hi (n m : Nat) : n.testBit (n + m) = false :=
    Nat.testBit_lt_two_pow (Nat.lt_of_lt_of_le Nat.lt_two_pow_self (Nat.pow_le_pow_right (by decide) (Nat.le_add_right n m)))
  cases x <;> cases y <;> rename_i n m <;> simp only [Int.ofNat_eq_natCast, pyBit_natCast, pyBit_negSucc] at h
  · exact congrArg _ (Nat.eq_of_testBit_eq h)
  -- opposite signs differ at position `n + m`, where neither `n` nor `m` has a bit
  · have := h (n + m); rw [hi, Nat.add_comm, hi] at this; cases this
  · have := h (n + m); rw [hi, Nat.add_comm, hi] at this; cases this
  · exact congrArg _ (Nat.eq_of_testBit_eq fun i => Bool.not_inj (h i))

end GuppyVerif.IntSem
