import GuppyVerif.Model.DFVarIdx
/-! `remainingFrom` lists the kept parameters in order: position and length. -/
namespace GuppyVerif.DFVarIdx

theorem remainingFrom_length (i : Nat) (mono : List Bool) :
    (remainingFrom i mono).length = countKept mono := by
  induction mono generalizing i with
  | nil => rfl
  | cons b bs ih => cases b <;> simp [remainingFrom, countKept, ih] <;> omega

theorem remainingFrom_get (mono : List Bool) : ∀ (i idx : Nat), mono[idx]? = some false →
    (remainingFrom i mono)[countKept (mono.take idx)]? = some (i + idx) := by
  induction mono with
  | nil => intro i idx h; simp at h
  | cons b bs ih =>
    intro i idx h
    cases idx with
    | zero =>
      simp only [List.getElem?_cons_zero, Option.some.injEq] at h
      subst h
      simp [remainingFrom, countKept]
    | succ k =>
      simp only [List.getElem?_cons_succ] at h
      have := ih (i + 1) k h
      cases b with
      | true =>
        simp only [remainingFrom, List.take_succ_cons, countKept, ↓reduceIte, Nat.zero_add]
        rw [this]; congr 1; omega
      | false =>
        simp only [remainingFrom, List.take_succ_cons, countKept, Bool.false_eq_true, ↓reduceIte]
        rw [show 1 + countKept (List.take k bs) = countKept (List.take k bs) + 1 by omega,
          List.getElem?_cons_succ, this]
        congr 1; omega

end GuppyVerif.DFVarIdx
