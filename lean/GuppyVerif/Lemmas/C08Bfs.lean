import GuppyVerif.Lemmas.C08Entry
/-! The BFS of `check_cfg`: its invariant `BfsInv`, kept by recording a block (`BfsInv.add`) and by comparing an edge
    (`BfsInv.visited`).  `bfs_spec`: a failure is a type conflict; after a success every followed edge has been compared,
    so every typed path agrees with the compiled signatures (`tyAt_agrees`).  `checkCfg_verdict` puts the entry block
    and the BFS together. -/
namespace GuppyVerif.UseDef
open GuppyVerif.Dataflow

theorem enumFrom_eq (p : Blk) (k : Nat) (ss : List Blk) :
    enumFrom p k ss = (ss.zipIdx k).map fun x => (p, x.2, x.1) := by
  induction ss generalizing k with
  | nil => rfl
  | cons a ss ih => simp [enumFrom, ih]

theorem mem_revEnum {p q : Blk} {i : Nat} {s : Blk} {ss : List Blk} :
    (q, i, s) ∈ revEnum p ss ↔ q = p ∧ ss[i]? = some s := by
  simp only [revEnum, enumFrom_eq, List.mem_reverse, List.mem_map, Prod.mk.injEq, Prod.exists,
    List.mem_zipIdx_iff_getElem?]
  exact ⟨fun ⟨a, j, h, hp, hj, ha⟩ => ⟨hp.symm, hj ▸ ha ▸ by simpa using h⟩,
    fun ⟨hp, h⟩ => ⟨s, i, by simpa using h, hp.symm, rfl, rfl⟩⟩

theorem findC_cons (c b : Blk) (r : Row × List Row) (comp : Compiled) :
    findC c ((b, r) :: comp) = if c = b then some r else findC c comp := rfl

theorem findC_cons_self (b : Blk) (r : Row × List Row) (comp : Compiled) : findC b ((b, r) :: comp) = some r :=
  if_pos rfl

theorem findC_cons_of_none {b c : Blk} {x r : Row × List Row} {comp : Compiled}
    (hb : findC b comp = none) (h : findC c comp = some r) : findC c ((b, x) :: comp) = some r := by
  rw [findC_cons]
  split
  · rename_i hcb; subst hcb; rw [hb] at h; cases h
  · exact h

theorem findC_cons_some {c b : Blk} {x r : Row × List Row} {comp : Compiled}
    (h : findC c ((b, x) :: comp) = some r) : c = b ∧ r = x ∨ c ≠ b ∧ findC c comp = some r := by
  rw [findC_cons] at h
  split at h
  · exact .inl ⟨‹c = b›, (Option.some.inj h).symm⟩
  · exact .inr ⟨‹¬ c = b›, h⟩

/-- whatever type `row` records for a variable is the type some path to `b` gives it -/
def Typed (U : UCfg) (b : Blk) (row : Row) : Prop :=
  ∀ x, ∃ o, TyAt U x b o ∧ ∀ t, lookup x row = some t → o = some t

structure BlockOK (U : UCfg) (A : Ana) (b : Blk) (row : Row) (outs : List Row) : Prop where
  mem : b ∈ U.blocks
  rowOK : RowOK U A b row
  outs_eq : outs = outsOf U A b row
  typed : Typed U b row

def CompOK (U : UCfg) (A : Ana) (comp : Compiled) : Prop :=
  ∀ b row outs, findC b comp = some (row, outs) → BlockOK U A b row outs

def QOK (U : UCfg) (q : List (Blk × Nat × Blk)) (comp : Compiled) : Prop :=
  ∀ p i b, (p, i, b) ∈ q → ∃ row outs, findC p comp = some (row, outs) ∧
    (U.succ p ++ U.dsucc p)[i]? = some b

theorem Typed.step {U : UCfg} {A : Ana} {p b : Blk} {rowp : Row} (h : Typed U p rowp)
    (he : b ∈ U.succ p ++ U.dsucc p) : Typed U b (rowFor A (runEvents rowp (U.events p)) b) := by
  intro x
  obtain ⟨o, hty, ho⟩ := h x
  refine ⟨exitTy (U.events p) o x, .edge hty he, fun t ht => ?_⟩
  rw [lookup_flow] at ht
  split at ht
  · unfold exitTy at ht ⊢
    cases hl : lastAsg x (U.events p) with
    | some t' => simpa [hl] using ht
    | none => simp only [hl] at ht ⊢; exact ho t ht
  · cases ht

/-- every followed edge out of a compiled block is still queued or has been compared -/
def EdgeDone (U : UCfg) (comp : Compiled) (q : List (Blk × Nat × Blk)) : Prop :=
  ∀ b row outs, findC b comp = some (row, outs) → ∀ i s, (U.succ b ++ U.dsucc b)[i]? = some s →
    (b, i, s) ∈ q ∨ ∃ rs os r, findC s comp = some (rs, os) ∧ outs[i]? = some r ∧ rowsMatch r rs = []

structure BfsInv (U : UCfg) (A : Ana) (q : List (Blk × Nat × Blk)) (comp : Compiled) : Prop where
  compiled : CompOK U A comp
  queue : QOK U q comp
  done : EdgeDone U comp q

section
variable {U : UCfg} {A : Ana} {q : List (Blk × Nat × Blk)} {comp : Compiled} {p b : Blk} {i : Nat}

theorem BfsInv.nil (U : UCfg) (A : Ana) : BfsInv U A [] [] :=
  ⟨fun _ _ _ h => (nomatch h), fun _ _ _ h => (nomatch h), fun _ _ _ h => (nomatch h)⟩

/-- how the BFS starts (from `BfsInv.nil`, with the entry) and what it does at a block it meets for the first time -/
theorem BfsInv.add (h : BfsInv U A q comp) {row : Row} {outs : List Row} (hb : BlockOK U A b row outs)
    (hfb : findC b comp = none) :
    BfsInv U A (q ++ revEnum b (U.succ b ++ U.dsucc b)) ((b, row, outs) :: comp) := by
  refine ⟨fun c' row' outs' hf => ?_, fun p' i' b' hm => ?_, fun b' row' outs' hf' i' s' hs' => ?_⟩
  · rcases findC_cons_some hf with ⟨rfl, ⟨⟩⟩ | ⟨_, hf⟩
    · exact hb
    · exact h.compiled c' row' outs' hf
  · rcases List.mem_append.mp hm with hm | hm
    · obtain ⟨row', outs', hf', rest⟩ := h.queue p' i' b' hm
      exact ⟨row', outs', findC_cons_of_none hfb hf', rest⟩
    · obtain ⟨rfl, hs'⟩ := mem_revEnum.mp hm
      exact ⟨row, _, findC_cons_self _ _ _, hs'⟩
  · rcases findC_cons_some hf' with ⟨rfl, ⟨⟩⟩ | ⟨_, hf'⟩
    · exact .inl (List.mem_append_right _ (mem_revEnum.mpr ⟨rfl, hs'⟩))
    · exact (h.done b' row' outs' hf' i' s' hs').imp (List.mem_append_left _)
        fun ⟨rs, os, r, hfs, hr, hmm⟩ => ⟨rs, os, r, findC_cons_of_none hfb hfs, hr, hmm⟩

theorem BfsInv.edge_row (hU : U.WF) (hA : AnaOK U A) (h : BfsInv U A ((p, i, b) :: q) comp) :
    ∃ rowp outsp row, findC p comp = some (rowp, outsp) ∧ outsp[i]? = some row ∧
      b ∈ U.blocks ∧ b ≠ U.entry ∧ RowOK U A b row ∧ Typed U b row := by
  obtain ⟨rowp, outsp, hfp, hidx⟩ := h.queue p i b List.mem_cons_self
  have hp := h.compiled p rowp outsp hfp
  have hedge : b ∈ U.succ p ++ U.dsucc p := List.mem_of_getElem? hidx
  refine ⟨rowp, outsp, _, hfp, ?_, hU.cfg.closed p hp.mem b hedge, fun e => ?_,
    (hp.rowOK.succ hU hA hp.mem).2 b hedge, hp.typed.step hedge⟩
  · rw [hp.outs_eq]; simp only [outsOf, List.getElem?_map, hidx, Option.map_some]
  · -- `b` has a predecessor, the entry has none
    have : p ∈ U.pred b ++ U.dpred b := (hU.cfg.conv p b).mp hedge
    rw [e, hU.entry_root] at this
    cases this

theorem BfsInv.visited (h : BfsInv U A ((p, i, b) :: q) comp) {rowp row rowb : Row} {outsp outsb : List Row}
    (hfp : findC p comp = some (rowp, outsp)) (hout : outsp[i]? = some row)
    (hfb : findC b comp = some (rowb, outsb)) (hrm : rowsMatch row rowb = []) : BfsInv U A q comp := by
  refine ⟨h.compiled, fun p' i' b' hm => h.queue p' i' b' (List.mem_cons_of_mem _ hm),
    fun b' row' outs' hf' i' s' hs' => ?_⟩
  rcases h.done b' row' outs' hf' i' s' hs' with hm | hd
  · rcases List.mem_cons.mp hm with hm | hm
    · cases hm
      rw [hfp] at hf'; cases hf'
      exact Or.inr ⟨rowb, outsb, _, hfb, hout, hrm⟩
    · exact Or.inl hm
  · exact Or.inr hd

end

theorem conflict_of_rowsMatch {U : UCfg} {A : Ana} (hA : AnaOK U A) {b : Blk} (hbb : b ∈ U.blocks)
    (hbne : b ≠ U.entry) {r1 r2 : Row} (h1 : RowOK U A b r1) (h2 : RowOK U A b r2)
    (ty1 : Typed U b r1) (ty2 : Typed U b r2) {e : Err} (he : e ∈ rowsMatch r1 r2) :
    ∃ x, e = .branchType x ∧ TypeConflict U x := by
  obtain ⟨x, hxk, hcase⟩ := mem_rowsMatch.mp he
  -- both rows have exactly the keys `live b ∩ assignedSomewhere` (`b` is not the entry)
  have hsame : (lookup x r1).isSome ∧ (lookup x r2).isSome := by
    rcases hxk with h | h
    · exact ⟨h, h2.locals x ((h1.sub x h).2 hbne) (h1.sub x h).1⟩
    · exact ⟨h1.locals x ((h2.sub x h).2 hbne) (h2.sub x h).1, h⟩
  rcases hcase with ⟨t1, t2, he, e1, e2, hne⟩ | ⟨_, hnone⟩
  · obtain ⟨o1, hty1, ho1⟩ := ty1 x
    obtain ⟨o2, hty2, ho2⟩ := ty2 x
    exact ⟨x, he, b, t1, t2, hne, ho1 t1 e1 ▸ hty1, ho2 t2 e2 ▸ hty2,
      (hA.live b hbb x).mp ((h1.sub x hsame.1).2 hbne)⟩
  · rcases hnone with h0 | h0
    · rw [h0] at hsame; cases hsame.1
    · rw [h0] at hsame; cases hsame.2

theorem bfs_spec {U : UCfg} (hU : U.WF) {A : Ana} (hA : AnaOK U A) :
    ∀ (fuel : Nat) (q : List (Blk × Nat × Blk)) (comp : Compiled) (r : Except (List Err) Compiled),
      BfsInv U A q comp → bfs U A fuel q comp = some r →
      match r with
      | .ok c => BfsInv U A [] c ∧ ∀ b r, findC b comp = some r → findC b c = some r
      | .error es => Errs .branchType (TypeConflict U) es := by
  intro fuel
  induction fuel with
  | zero =>
    intro q comp r hI h
    cases q with
    | nil => simp only [bfs] at h; cases h; exact ⟨hI, fun _ _ h => h⟩
    | cons a q => simp [bfs] at h
  | succ n ih =>
    intro q comp r hI h
    cases q with
    | nil => simp only [bfs] at h; cases h; exact ⟨hI, fun _ _ h => h⟩
    | cons a q =>
      obtain ⟨p, i, b⟩ := a
      obtain ⟨rowp, outsp, row, hfp, hout, hbb, hbne, hrow, hty⟩ := hI.edge_row hU hA
      have hin : ((findC p comp).bind fun r => r.2[i]?) = some row := by rw [hfp]; exact hout
      simp only [bfs, hin] at h
      cases hfb : findC b comp with
      | some rb =>
        obtain ⟨rowb, outsb⟩ := rb
        simp only [hfb] at h
        cases hrm : rowsMatch row rowb with
        | nil =>
          simp only [hrm] at h
          exact ih q comp r (hI.visited hfp hout hfb hrm) h
        | cons e es =>
          simp only [hrm] at h
          cases h
          have hb := hI.compiled b rowb outsb hfb
          exact ⟨List.cons_ne_nil _ _, fun e' he' =>
            conflict_of_rowsMatch hA hbb hbne hrow hb.rowOK hty hb.typed (hrm ▸ he')⟩
      | none =>
        simp only [hfb] at h
        have hck := checkBB_ok hU hA hbb hbne hrow
        simp only [hck] at h
        -- record `b`; the popped edge has then been compared with the signature just recorded
        have := ih _ _ r ((hI.add ⟨hbb, hrow, rfl, hty⟩ hfb).visited (findC_cons_of_none hfb hfp) hout
          (findC_cons_self _ _ _) (rowsMatch_self _)) h
        cases r with
        | ok c => exact ⟨this.1, fun b' r hf => this.2 b' r (findC_cons_of_none hfb hf)⟩
        | error es => exact this

theorem tyAt_mem {U : UCfg} (hU : U.WF) {x : Var} {b : Blk} {o : Option Ty} (h : TyAt U x b o) :
    b ∈ U.blocks ∧ (o.isSome → x ∈ U.assignedSomewhere) := by
  induction h with
  | entry => exact ⟨hU.entry_mem, fun h => args_sub_AS ((args_lookup_isSome U x).mp h)⟩
  | @edge p s o _ he ih =>
    exact ⟨hU.cfg.closed _ ih.1 _ he, fun h => ((exitTy_isSome _ _ _).mp h).elim ih.2 (assigned_sub_AS ih.1)⟩

/-- at a successful end, every typed path agrees with the compiled signature -/
theorem tyAt_agrees {U : UCfg} (hU : U.WF) {A : Ana} (hA : AnaOK U A) {c : Compiled}
    (hc : CompOK U A c) (he : EdgeDone U c []) {outs0 : List Row}
    (hentry : findC U.entry c = some (U.args, outs0)) {x : Var} {b : Blk} {o : Option Ty}
    (h : TyAt U x b o) :
    ∃ row outs, findC b c = some (row, outs) ∧
      (x ∈ A.live b → x ∈ U.assignedSomewhere → lookup x row = o) := by
  induction h with
  | entry => exact ⟨U.args, outs0, hentry, fun _ _ => rfl⟩
  | @edge p s o hty hedge ih =>
    obtain ⟨rowp, outsp, hfp, hagree⟩ := ih
    have hp := hc p rowp outsp hfp
    obtain ⟨i, hidx⟩ := List.getElem?_of_mem hedge
    obtain ⟨rs, os, r, hfs, hr, hmm⟩ := (he p rowp outsp hfp i s hidx).resolve_left List.not_mem_nil
    refine ⟨rs, os, hfs, fun hl hAS => ?_⟩
    have hr' : r = rowFor A (runEvents rowp (U.events p)) s := by
      rw [hp.outs_eq] at hr
      simp only [outsOf, List.getElem?_map, hidx, Option.map_some] at hr
      exact (Option.some.inj hr).symm
    -- the row sent along the edge has `x`, the signature of `s` has it with the same type
    obtain ⟨t, ht⟩ := Option.isSome_iff_exists.mp (hr' ▸ ((hp.rowOK.succ hU hA hp.mem).2 s hedge).locals x hl hAS)
    rw [rowsMatch_nil_lookup hmm ht ((hc s rs os hfs).rowOK.locals x hl hAS), ← ht, hr', lookup_flow, if_pos hl]
    exact exitTy_congr fun hna => hagree (live_of_succ hU hA hp.mem hedge hl hna) hAS

theorem BfsInv.no_conflict {U : UCfg} (hU : U.WF) {A : Ana} (hA : AnaOK U A) {c : Compiled}
    (hI : BfsInv U A [] c) {outs : List Row} (hent : findC U.entry c = some (U.args, outs)) (x : Var) :
    ¬ TypeConflict U x := by
  rintro ⟨b, t₁, t₂, hne, h1, h2, hlive⟩
  obtain ⟨hbb, hAS⟩ := tyAt_mem hU h1
  have hl : x ∈ A.live b := (hA.live b hbb x).mpr hlive
  obtain ⟨row, outs1, hf1, a1⟩ := tyAt_agrees hU hA hI.compiled hI.done hent h1
  obtain ⟨row', outs2, hf2, a2⟩ := tyAt_agrees hU hA hI.compiled hI.done hent h2
  rw [hf1] at hf2; cases hf2
  exact hne (Option.some.inj ((a1 hl (hAS rfl)).symm.trans (a2 hl (hAS rfl))))

inductive Verdict (U : UCfg) : Except (List Err) Compiled → Prop
  | ok (c : Compiled) : (∀ x, ¬ Undef U x) → (∀ x, ¬ TypeConflict U x) → Verdict U (.ok c)
  | undef {es : List Err} : Errs .notDefined (Undef U) es → Verdict U (.error es)
  | conflict {es : List Err} : (∀ x, ¬ Undef U x) → Errs .branchType (TypeConflict U) es →
      Verdict U (.error es)

theorem checkCfg_verdict {U : UCfg} (hU : U.WF) {A : Ana} (hA : AnaOK U A) (fuel : Nat)
    (r : Except (List Err) Compiled) (h : checkCfg U A fuel = some r) : Verdict U r := by
  unfold checkCfg at h
  have hentry := checkBB_entry hU hA
  cases hck : checkBB U A U.entry U.args with
  | error es =>
    simp only [hck] at h hentry
    cases h
    exact .undef hentry
  | ok outs =>
    simp only [hck] at h hentry
    obtain ⟨hno, rfl, hrow⟩ := hentry
    have := bfs_spec hU hA fuel _ _ r
      ((BfsInv.nil U A).add ⟨hU.entry_mem, hrow, rfl, fun _ => ⟨_, .entry, fun _ ht => ht⟩⟩ rfl) h
    cases r with
    | ok c => exact .ok c hno (this.1.no_conflict hU hA (this.2 U.entry _ (findC_cons_self _ _ _)))
    | error es => exact .conflict hno this

end GuppyVerif.UseDef
