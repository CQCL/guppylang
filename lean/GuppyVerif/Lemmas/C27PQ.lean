import GuppyVerif.Lemmas.C27Heap
/-! PriorityQueue, invariant level: `PQ.Inv` says that the buffer represents
    its own entries and that they are a heap (`inv_iff`); the root of a heap is a minimum; the
    simulation of the multiset machine; unconditional termination of the loops. -/
namespace GuppyVerif.Coll
variable {α : Type} {β : Type}

theorem heapOrdered_iff {cap : Nat} {buf : List (Option (Int × α))} {a : List (Int × α)}
    (h : Rep cap buf a) : HeapOrdered buf a.length ↔ IsHeap a := by
  have h2 := h.le_cap
  constructor
  · intro ho j hj0 hjl
    have hp : parent j < a.length := Nat.lt_trans (parent_lt hj0) hjl
    have := ho j hj0 hjl a[parent j] a[j] (by rw [h.get (by omega)]; simp [parent])
      (by rw [h.get (by omega)]; simp [hjl])
    rwa [pr_of_get (List.getElem?_eq_getElem hp), pr_of_get (List.getElem?_eq_getElem hjl)]
  · intro hh j hj0 hjl x y hx hy
    have hp : parent j < a.length := Nat.lt_trans (parent_lt hj0) hjl
    rw [h.get (by omega)] at hx hy
    have := hh j hj0 hjl
    rwa [pr_of_get (j := parent j) (Option.some.inj hx), pr_of_get (Option.some.inj hy)] at this

theorem inv_iff {cap : Nat} {q : PQ α} :
    PQ.Inv cap q ↔ PQRep cap q (entries q.buf) ∧ IsHeap (entries q.buf) := by
  constructor
  · rintro ⟨hs, ho⟩
    obtain ⟨hr, hl⟩ := hs.rep
    refine ⟨⟨hl.symm, hr⟩, ?_⟩
    rw [← hl] at ho
    exact (heapOrdered_iff hr).mp ho
  · rintro ⟨⟨hs, hr⟩, hh⟩
    refine ⟨?_, ?_⟩
    · rw [hs]; exact hr.slots
    · rw [hs]; exact (heapOrdered_iff hr).mpr hh

theorem PQRep.inv {cap : Nat} {q : PQ α} {a : List (Int × α)} (h : PQRep cap q a) (hh : IsHeap a) :
    PQ.Inv cap q ∧ entries q.buf = a := by
  have := h.2.entries_eq
  refine ⟨inv_iff.mpr ?_, this⟩
  rw [this]; exact ⟨h, hh⟩

theorem Slots.pqRep {cap : Nat} {q : PQ α} (h : Slots cap q.buf q.size) : PQRep cap q (entries q.buf) :=
  ⟨h.rep.2.symm, h.rep.1⟩

theorem PQRep.root {cap : Nat} {q : PQ α} {a : List (Int × α)} (h : PQRep cap q a) (hl : 0 < q.size) :
    ∃ r, a[0]? = some r :=
  ⟨_, List.getElem?_eq_getElem (h.1 ▸ hl)⟩

theorem push_ok_lt {cap : Nat} {q q' : PQ α} {v : α} {p : Int} (h : q.push cap v p = .ok q') :
    q.size < cap :=
  Nat.lt_of_not_le fun hc => by rw [PQ.push_of_full hc] at h; cases h

theorem pop_ok_pos {q : PQ α} {r : Int × α × PQ α} (h : q.pop = .ok r) : 0 < q.size :=
  Nat.pos_of_ne_zero fun h0 => by rw [PQ.pop_of_empty h0] at h; cases h

theorem peek_ok_pos {q : PQ α} {r : Int × α × PQ α} (h : q.peek = .ok r) : 0 < q.size :=
  Nat.pos_of_ne_zero fun h0 => by rw [PQ.peek_of_empty h0] at h; cases h

theorem root_isMin {a : List (Int × α)} {r : Int × α} (h : IsHeap a) (hr : a[0]? = some r) : IsMinOf r a := by
  refine ⟨List.mem_of_getElem? hr, fun x hx => ?_⟩
  obtain ⟨j, hj, rfl⟩ := List.mem_iff_getElem.mp hx
  have := h.root_min j hj
  rwa [pr_of_get hr, pr_of_get (List.getElem?_eq_getElem hj)] at this

theorem next_of_pop {q q' : PQ α} {p : Int} {v : α} (hp : q.pop = .ok (p, v, q')) :
    q.next = .ok (some ((p, v), q')) := by
  have : (q.len == 0) = false := by simpa [PQ.len] using Nat.ne_of_gt (pop_ok_pos hp)
  simp [PQ.next, this, hp]

theorem isMinOf_perm {e : Int × α} {l l' : List (Int × α)} (h : IsMinOf e l) (hp : l.Perm l') : IsMinOf e l' :=
  ⟨hp.mem_iff.mp h.1, fun x hx => h.2 x (hp.mem_iff.mpr hx)⟩

theorem PQ.Inv.of_push {cap : Nat} {q q' : PQ α} {v : α} {p : Int} (h : PQ.Inv cap q)
    (hp : q.push cap v p = .ok q') :
    PQ.Inv cap q' ∧ q'.size = q.size + 1 ∧ (entries q'.buf).Perm ((p, v) :: entries q.buf) := by
  obtain ⟨hr, hh⟩ := inv_iff.mp h
  obtain ⟨q'', a', hp', hr', hperm, hheap⟩ := hr.push_ok (hr.1 ▸ push_ok_lt hp) v p
  cases hp'.symm.trans hp
  obtain ⟨hinv, hent⟩ := hr'.inv (hheap hh)
  exact ⟨hinv, by rw [hr'.1, hr.1, hperm.length_eq, List.length_cons], hent ▸ hperm⟩

theorem PQ.Inv.of_pop {cap : Nat} {q q' : PQ α} {v : α} {p : Int} (h : PQ.Inv cap q)
    (hp : q.pop = .ok (p, v, q')) :
    PQ.Inv cap q' ∧ q'.size = q.size - 1 ∧ IsMinOf (p, v) (entries q.buf) ∧
      (entries q.buf).Perm ((p, v) :: entries q'.buf) := by
  obtain ⟨hr, hh⟩ := inv_iff.mp h
  obtain ⟨⟨rp, rv⟩, hr0⟩ := hr.root (pop_ok_pos hp)
  obtain ⟨q'', a', hp', hr', hperm, hheap⟩ := hr.pop_ok hr0
  cases hp'.symm.trans hp
  obtain ⟨hinv, hent⟩ := hr'.inv (hheap hh)
  exact ⟨hinv, by rw [hr'.1, hr.1, hperm.length_eq, List.length_cons, Nat.add_sub_cancel],
    root_isMin hh hr0, hent ▸ hperm⟩

theorem PQ.Inv.of_peek {cap : Nat} {q q' : PQ α} {v : α} {p : Int} (h : PQ.Inv cap q)
    (hp : q.peek = .ok (p, v, q')) : q' = q ∧ IsMinOf (p, v) (entries q.buf) := by
  obtain ⟨hr, hh⟩ := inv_iff.mp h
  obtain ⟨⟨rp, rv⟩, hr0⟩ := hr.root (peek_ok_pos hp)
  cases (hr.peek_ok hr0).symm.trans hp
  exact ⟨rfl, root_isMin hh hr0⟩

theorem runPQ_spec (cap : Nat) (ops : List (Op α)) :
    ∀ (q : PQ α) (a m : List (Int × α)), PQRep cap q a → IsHeap a → a.Perm m →
      SpecPQ cap m ops (runPQ cap q ops) := by
  induction ops with
  | nil => intro q a m _ _ _; exact .nil
  | cons op ops ih =>
    intro q a m hr hh hp
    have hlen := hp.length_eq
    have hnil : a = [] → m = [] := fun e => (e ▸ hp).symm.eq_nil
    have hpop : ∀ r t, a = r :: t → ∃ q' a', q.pop = .ok (r.1, r.2, q') ∧ IsMinOf r m ∧
        m.Perm (r :: a') ∧ SpecPQ cap a' ops (runPQ cap q' ops) := by
      rintro r t rfl
      obtain ⟨q', a', hq, hr', hperm, hheap⟩ := hr.pop_ok (r := r) (by simp)
      exact ⟨q', a', hq, isMinOf_perm (root_isMin hh (by simp)) hp, hp.symm.trans hperm,
        ih q' a' _ hr' (hheap hh) (.refl _)⟩
    cases op with
    | push v p =>
      by_cases hl : cap ≤ a.length
      · simp only [runPQ, PQ.push_of_full (hr.1 ▸ hl) v p]
        exact .pushFull (by omega)
      · obtain ⟨q', a', hpush, hr', hperm, hheap⟩ := hr.push_ok (Nat.lt_of_not_le hl) v p
        simp only [runPQ, hpush]
        exact .push (by omega) (ih q' a' _ hr' (hheap hh) (hperm.trans (hp.cons _)))
    | pop =>
      cases a with
      | nil => cases hnil rfl; simp only [runPQ, PQ.pop_of_empty hr.1]; exact .popEmpty
      | cons r t =>
        obtain ⟨q', a', hq, hmin, hperm, hs⟩ := hpop r t rfl
        simp only [runPQ, hq]
        exact .pop hmin hperm hs
    | peek =>
      cases a with
      | nil => cases hnil rfl; simp only [runPQ, PQ.peek_of_empty hr.1]; exact .peekEmpty
      | cons r t =>
        simp only [runPQ, hr.peek_ok (r := r) (by simp)]
        exact .peek (e := r) (isMinOf_perm (root_isMin hh (by simp)) hp) (ih q _ _ hr hh hp)
    | len =>
      simp only [runPQ, PQ.len, hr.1, hlen]
      exact .len (ih q _ _ hr hh hp)
    | next =>
      cases a with
      | nil => cases hnil rfl; simp only [runPQ, hr.next_empty]; exact .nextEmpty
      | cons r t =>
        obtain ⟨q', a', hq, hmin, hperm, hs⟩ := hpop r t rfl
        simp only [runPQ, next_of_pop hq]
        exact .next hmin hperm hs

theorem iterAll_succ (f : Nat) (q : PQ α) : PQ.iterAll (f + 1) q = (do
    match ← q.next with
    | none => pure []
    | some (e, q') =>
      let l ← PQ.iterAll f q'
      pure (e :: l)) := by
  rw [PQ.iterAll]; rfl

section Fuel
variable {γ : Type}

/-- `x` ends in a result satisfying `Q` or in a panic satisfying `E` -/
def Ends (x : M β) (E : Err → Prop) (Q : β → Prop) : Prop :=
  match x with
  | .ok r => Q r
  | .error e => E e

theorem Ends.bind {x : M β} {k : β → M γ} {E : Err → Prop} {P : β → Prop} {Q : γ → Prop}
    (hx : Ends x E P) (hk : ∀ a, P a → Ends (k a) E Q) : Ends (x >>= k) E Q := by
  cases x with
  | error e => exact hx
  | ok a => exact hk a hx

theorem Ends.ne_error {x : M β} {e : Err} {Q : β → Prop} (h : Ends x (· ≠ e) Q) : x ≠ .error e :=
  fun hx => by rw [hx] at h; exact h rfl

theorem takeUnwrap_ends (buf : List (Option β)) (i : Nat) :
    Ends (takeUnwrap buf i) (· ≠ .fuel) fun _ => True := by
  unfold takeUnwrap take swap unwrap
  split
  · cases buf[i] <;> simp [Ends, bind, Except.bind]
  · simp [Ends]

theorem put_ends (buf : List (Option β)) (i : Nat) (x : β) :
    Ends (put buf i x) (· ≠ .fuel) fun _ => True := by
  unfold put swap unwrapNothing
  split
  · cases buf[i] <;> simp [Ends, bind, Except.bind]
  · simp [Ends]

/-- on ANY buffer the sift-up loop started at `i` ends (normally
    or with a genuine panic) within `i + 1` iterations. -/
theorem siftUp_ends (f : Nat) : ∀ (buf : List (Option (Int × α))) (i : Nat), i < f →
    Ends (PQ.siftUp f buf i) (· ≠ .fuel) fun _ => True := by
  induction f with
  | zero => intro _ i h; omega
  | succ f ih =>
    intro buf i hf
    unfold PQ.siftUp
    split
    · refine (takeUnwrap_ends _ _).bind fun ⟨⟨p, v⟩, b1⟩ _ =>
        (takeUnwrap_ends _ _).bind fun ⟨⟨pp, pv⟩, b2⟩ _ => ?_
      dsimp only
      split
      · exact (put_ends _ _ _).bind fun b3 _ => put_ends _ _ _
      · exact (put_ends _ _ _).bind fun b3 _ => (put_ends _ _ _).bind fun b4 _ => ih _ _ (by omega)
    · trivial

theorem pickChild_ends (buf : List (Option (Int × α))) (n left : Nat) :
    Ends (PQ.pickChild buf n left) (· ≠ .fuel) fun r => r.1 = left ∨ r.1 = left + 1 := by
  unfold PQ.pickChild
  dsimp only
  split
  · refine (takeUnwrap_ends _ _).bind fun ⟨⟨lp, lv⟩, b1⟩ _ =>
      (takeUnwrap_ends _ _).bind fun ⟨⟨rp, rv⟩, b2⟩ _ => ?_
    dsimp only
    split
    · exact (put_ends _ _ _).bind fun b3 _ => .inr rfl
    · exact (put_ends _ _ _).bind fun b3 _ => .inl rfl
  · exact (takeUnwrap_ends _ _).bind fun ⟨c, b1⟩ _ => .inl rfl

/-- on ANY buffer the sift-down loop started at hole `i` ends
    within `newSize - i + 1` iterations (the hole index strictly increases). -/
theorem siftDown_ends (f : Nat) : ∀ (buf : List (Option (Int × α))) (n : Nat) (d : Int) (i : Nat),
    n - i < f → Ends (PQ.siftDown f buf n d i) (· ≠ .fuel) fun _ => True := by
  induction f with
  | zero => intro _ n _ i h; omega
  | succ f ih =>
    intro buf n d i hf
    unfold PQ.siftDown
    dsimp only
    split
    · trivial
    · refine (pickChild_ends _ _ _).bind fun ⟨c, ⟨cp, cv⟩, b1⟩ hc => ?_
      dsimp only at hc ⊢
      split
      · exact (put_ends _ _ _).bind fun b2 _ => trivial
      · exact (put_ends _ _ _).bind fun b2 _ => ih _ _ _ _ (by omega)

theorem push_ne_fuel (cap : Nat) (q : PQ α) (v : α) (p : Int) : q.push cap v p ≠ .error .fuel := by
  refine Ends.ne_error (Q := fun _ => True) ?_
  unfold PQ.push
  split
  · exact Err.noConfusion
  · exact (put_ends _ _ _).bind fun b1 _ =>
      (siftUp_ends _ _ _ (Nat.lt_succ_self _)).bind fun b2 _ => trivial

theorem pop_ne_fuel (q : PQ α) : q.pop ≠ .error .fuel := by
  refine Ends.ne_error (Q := fun _ => True) ?_
  unfold PQ.pop
  split
  · exact Err.noConfusion
  · refine (takeUnwrap_ends _ _).bind fun ⟨⟨rp, rv⟩, b1⟩ _ => ?_
    dsimp only
    split
    · trivial
    · exact (takeUnwrap_ends _ _).bind fun ⟨⟨dp, dv⟩, b2⟩ _ =>
        (siftDown_ends _ _ _ _ _ (by omega)).bind fun ⟨b3, i⟩ _ =>
          (put_ends _ _ _).bind fun b4 _ => trivial
end Fuel
end GuppyVerif.Coll
