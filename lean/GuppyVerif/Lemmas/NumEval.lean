import GuppyVerif.Model.NumEval
/-! The dispatch of `evalBin`, `evalUn`, `evalBuiltin`, `evalMeth` through any table, for rows that are a single op (`Prim`).
    Which row an operator reaches is a closed, decidable question about the table (`Table.leftOp? … = some p`);
    what the row then does to symbolic operands is `Prim.call`, which does not mention the table
    (`Prim.call_binOp`, `Prim.call_cmpOp`: the `arithmetic.int` rows on two `int`s or two `nat`s). -/
namespace GuppyVerif.NumEval
open GuppyVerif.IntSem

inductive Prim.Kind
  | hugr (ext op : String)
  | boolop (ext op : String)
  | noop
  deriving DecidableEq

/-- what `callRow` needs of a row that is neither a body nor an indirection; decidable equality, unlike `Row` -/
structure Prim where
  kind : Prim.Kind
  params : List String
  ret : String
  deriving DecidableEq

def Row.prim? (r : Row) : Option Prim :=
  match r.impl with
  | .hugr ext op => some ⟨.hugr ext op, r.params, r.ret⟩
  | .boolop ext op => some ⟨.boolop ext op, r.params, r.ret⟩
  | .noop => some ⟨.noop, r.params, r.ret⟩
  | _ => none

def Prim.call (p : Prim) (args : List Val) : Res :=
  match coerceArgs args p.params with
  | none => .stuck "argument type"
  | some args =>
    match p.kind with
    | .hugr ext op => applyHugr ext op p.ret args
    | .boolop ext op => applyBoolOp ext op args
    | .noop => applyNoop p.ret args

theorem Prim.coerces_of_call {p : Prim} {args : List Val} {v : Res} (hv : p.call args = v)
    (hok : v ≠ .stuck "argument type") : (coerceArgs args p.params).isSome := by
  unfold Prim.call at hv
  cases hc : coerceArgs args p.params with
  | none => rw [hc] at hv; exact absurd hv.symm hok
  | some _ => rfl

def Prim.op2 (ext ty op : String) (ret := ty) : Prim := ⟨.hugr ext op, [ty, ty], ret⟩
def Prim.op1 (ext ty op : String) (ret := ty) : Prim := ⟨.hugr ext op, [ty], ret⟩
def Prim.cmp (ext ty op : String) : Prim := ⟨.boolop ext op, [ty, ty], "bool"⟩
def Prim.same (ty : String) (ret := ty) : Prim := ⟨.noop, [ty], ret⟩

/-- a body `if c: panic(…)` then `return e` after `c`, `e` have been evaluated: the shape `evalStmts` leaves -/
def guarded (c : Bool) (v : Res) : Res :=
  match Val.bool c with
  | .bool true => .panic
  | .bool false => v
  | _ => .stuck "symbolic condition"

theorem callRow_prim {t : Table} {row : Row} {p : Prim} (h : row.prim? = some p) (n : Nat) (args : List Val) :
    callRow t (n + 1) row args = p.call args := by
  obtain ⟨ty, name, ps, pn, ret, impl⟩ := row
  cases impl <;> simp only [Row.prim?, Option.some.injEq, reduceCtorEq] at h <;> subst h <;>
    (unfold callRow Prim.call; cases coerceArgs args ps <;> rfl)

theorem params_of_prim? {row : Row} {p : Prim} (h : row.prim? = some p) : row.params = p.params := by
  obtain ⟨ty, name, ps, pn, ret, impl⟩ := row
  cases impl <;> simp only [Row.prim?, Option.some.injEq, reduceCtorEq] at h <;> subst h <;> rfl

theorem accepts_prim {t : Table} {row : Row} {p : Prim} (h : row.prim? = some p) (args : List Val) :
    accepts t row args = (coerceArgs args p.params).isSome := by
  obtain ⟨ty, name, ps, pn, ret, impl⟩ := row
  cases impl <;> simp only [Row.prim?, Option.some.injEq, reduceCtorEq] at h <;> subst h <;> rfl

def Table.prim? (t : Table) (ty name : String) : Option Prim := (t.find ty name).bind Row.prim?

def Table.reversed? (t : Table) (ty name : String) : Option String :=
  (t.find ty name).bind fun r => match r.impl with | .reversed m => some m | _ => none

def Table.dunder? (t : Table) (ty name : String) : Option String :=
  (t.find ty name).bind fun r => match r.impl with | .dunder m _ => some m | _ => none

theorem callMeth_succ (t : Table) (n : Nat) (ty name : String) (args : List Val) :
    callMeth t (n + 1) ty name args =
      match t.find ty name with
      | some row => callRow t n row args
      | none => .stuck "no such method" := rfl

theorem callMeth_prim {t : Table} {ty name : String} {p : Prim} (h : t.prim? ty name = some p) (n : Nat)
    (args : List Val) : callMeth t (n + 2) ty name args = p.call args := by
  obtain ⟨row, hf, hp⟩ := Option.bind_eq_some_iff.mp h
  rw [callMeth_succ, hf]; exact callRow_prim hp n args

theorem callMeth_reversed {t : Table} {ty name m : String} (h : t.reversed? ty name = some m) (n : Nat)
    (self other : Val) : callMeth t (n + 2) ty name [self, other] = callMeth t n self.ty m [other, self] := by
  obtain ⟨⟨_, _, _, _, _, impl⟩, hf, hm⟩ := Option.bind_eq_some_iff.mp h
  rw [callMeth_succ, hf]
  cases impl <;> simp only [Option.some.injEq, reduceCtorEq] at hm
  subst hm; rfl

theorem callMeth_dunder {t : Table} {ty name m : String} (h : t.dunder? ty name = some m) (n : Nat)
    (v : Val) (vs : List Val) : callMeth t (n + 2) ty name (v :: vs) = callMeth t n v.ty m (v :: vs) := by
  obtain ⟨⟨_, _, _, _, _, impl⟩, hf, hm⟩ := Option.bind_eq_some_iff.mp h
  rw [callMeth_succ, hf]
  cases impl <;> simp only [Option.some.injEq, reduceCtorEq] at hm
  subst hm; rfl

def Table.leftOp? (t : Table) (op ty : String) : Option Prim :=
  (t.binary.find? fun e => e.1 == op).bind fun e => t.prim? ty e.2.1

def Table.reflectedOp? (t : Table) (op ty : String) : Option Prim :=
  (t.binary.find? fun e => e.1 == op).bind fun e => (t.reversed? ty e.2.2).bind (t.prim? ty)

def Table.unaryOp? (t : Table) (op ty : String) : Option Prim :=
  (t.unary.find? fun e => e.1 == op).bind fun e => t.prim? ty e.2

def Table.builtinOp? (t : Table) (f ty : String) : Option Prim :=
  (if f == "int" || f == "nat" || f == "float" || f == "bool" then t.dunder? f "__new__"
   else t.dunder? "<builtin>" f).bind (t.prim? ty)

def Table.reversedMeth? (t : Table) (name ty : String) : Option Prim :=
  (t.reversed? ty name).bind (t.prim? ty)

theorem binop_succ (t : Table) (n : Nat) (op : String) (l r : Val) :
    binop t (n + 1) op l r =
      match t.binary.find? (fun e => e.1 == op) with
      | none => .stuck "operator"
      | some (_, lop, rop) =>
        match (t.find l.ty lop).filter (fun row => accepts t row [l, r]) with
        | some row => callRow t n row [l, r]
        | none =>
          match (t.find r.ty rop).filter (fun row => accepts t row [r, l]) with
          | some row => callRow t n row [r, l]
          | none => .stuck "BinaryOperatorNotDefined" := rfl

/-- `hv` is stated with the value the caller expects; `hok` (closed by `nofun` when that value is not the coercion failure) is
    how the caller shows that the operands coerce to the row's parameters, i.e. that the left dunder is the one taken -/
theorem evalBin_left {t : Table} {op : String} {l r : Val} {p : Prim} {v : Res} (h : t.leftOp? op l.ty = some p)
    (hv : p.call [l, r] = v) (hok : v ≠ .stuck "argument type" := by nofun) : evalBin t op l r = v := by
  have hacc := Prim.coerces_of_call hv hok
  subst hv
  obtain ⟨⟨_, lop, rop⟩, hb, hp⟩ := Option.bind_eq_some_iff.mp h
  obtain ⟨row, hf, hp⟩ := Option.bind_eq_some_iff.mp hp
  rw [evalBin, FUEL, binop_succ, hb]
  simp only [hf, Option.filter, accepts_prim hp, hacc, if_true]
  exact callRow_prim hp _ _

theorem evalBin_reflected {t : Table} {op : String} {l r : Val} {q p : Prim} {v : Res}
    (hl : t.leftOp? op l.ty = some q) (hrej : coerceArgs [l, r] q.params = none)
    (h : t.reflectedOp? op r.ty = some p) (hv : p.call [l, r] = v) (hok : v ≠ .stuck "argument type" := by nofun) :
    evalBin t op l r = v := by
  have hacc := Prim.coerces_of_call hv hok
  subst hv
  obtain ⟨⟨_, lop, rop⟩, hb, hq'⟩ := Option.bind_eq_some_iff.mp hl
  obtain ⟨lrow, hlf, hq⟩ := Option.bind_eq_some_iff.mp hq'
  obtain ⟨e, hb', hm'⟩ := Option.bind_eq_some_iff.mp h
  obtain rfl : (_, lop, rop) = e := Option.some.inj (hb.symm.trans hb')
  obtain ⟨m, hm, hp'⟩ := Option.bind_eq_some_iff.mp hm'
  obtain ⟨⟨ty, name, ps, pn, ret, impl⟩, hrf, hi⟩ := Option.bind_eq_some_iff.mp hm
  obtain ⟨row, hf, hp⟩ := Option.bind_eq_some_iff.mp hp'
  cases impl <;> simp only [Option.some.injEq, reduceCtorEq] at hi
  rw [hi] at hrf
  have hl : accepts t lrow [l, r] = false := by rw [accepts_prim hq, hrej]; rfl
  have hr : accepts t ⟨ty, name, ps, pn, ret, .reversed m⟩ [r, l] = true := by
    show (match t.find r.ty m with | some r2 => (coerceArgs [l, r] r2.params).isSome | none => false) = true
    rw [hf]; show (coerceArgs [l, r] row.params).isSome = true; rw [params_of_prim? hp]; exact hacc
  rw [evalBin, FUEL, binop_succ, hb]
  simp only [hlf, hrf, Option.filter, hl, hr, Bool.false_eq_true, if_false, if_true]
  exact callMeth_prim hp' _ [l, r]

theorem evalUn_prim {t : Table} {op : String} {x : Val} {p : Prim} {v : Res} (h : t.unaryOp? op x.ty = some p)
    (hv : p.call [x] = v) : evalUn t op x = v := by
  subst hv
  obtain ⟨⟨_, d⟩, hu, hp⟩ := Option.bind_eq_some_iff.mp h
  rw [evalUn, hu]; exact callMeth_prim hp _ _

theorem evalBuiltin_prim {t : Table} {f : String} {x : Val} {xs : List Val} {p : Prim} {v : Res}
    (h : t.builtinOp? f x.ty = some p) (hv : p.call (x :: xs) = v) : evalBuiltin t f (x :: xs) = v := by
  subst hv
  obtain ⟨m, hm, hp⟩ := Option.bind_eq_some_iff.mp h
  unfold evalBuiltin FUEL
  split at hm <;> rename_i hf <;> simp only [hf, if_true, if_false, Bool.false_eq_true]
    <;> rw [callMeth_dunder hm, callMeth_prim hp]

theorem evalMeth_reversed {t : Table} {name : String} {self other : Val} {p : Prim} {v : Res}
    (h : t.reversedMeth? name self.ty = some p) (hv : p.call [other, self] = v) :
    evalMeth t name [self, other] = v := by
  subst hv
  obtain ⟨m, hm, hp⟩ := Option.bind_eq_some_iff.mp h
  rw [evalMeth, FUEL, callMeth_reversed hm, callMeth_prim hp]

inductive IntTy : String → (W → Val) → Prop
  | int : IntTy "int" .int
  | nat : IntTy "nat" .nat

theorem IntTy.ty_eq {ty : String} {mk : W → Val} (k : IntTy ty mk) (a : W) : (mk a).ty = ty := by
  cases k <;> rfl

theorem IntTy.ofOpt_some {ty : String} {mk : W → Val} (k : IntTy ty mk) (w : W) : Res.ofOpt ty (some w) = .ok (mk w) := by
  cases k <;> rfl

/-- what an `arithmetic.int` row `(ty, ty) → ty` does to two operands of that type -/
theorem Prim.call_binOp {ty hop : String} {mk : W → Val} (k : IntTy ty mk) {f : W → W → Option W}
    (hf : binOp hop = some f) (a b : W) :
    (Prim.op2 "arithmetic.int" ty hop).call [mk a, mk b] = Res.ofOpt ty (f a b) := by
  cases k <;> simp [Prim.call, Prim.op2, coerceArgs, coerceTo, applyHugr, hf]

/-- … and a comparison row `(ty, ty) → bool` -/
theorem Prim.call_cmpOp {ty hop : String} {mk : W → Val} (k : IntTy ty mk) {f : W → W → Bool}
    (hf : cmpOp hop = some f) (a b : W) :
    (Prim.cmp "arithmetic.int" ty hop).call [mk a, mk b] = .ok (.bool (f a b)) := by
  cases k <;> simp [Prim.call, Prim.cmp, coerceArgs, coerceTo, applyBoolOp, hf]

theorem evalBin_arith {t : Table} {op ty hop : String} {mk : W → Val} (k : IntTy ty mk) {f : W → W → Option W}
    {P : W → Prop} {a b w : W} (h : t.leftOp? op ty = some (.op2 "arithmetic.int" ty hop)) (hf : binOp hop = some f)
    (hw : f a b = some w) (hP : P w) : ∃ r, evalBin t op (mk a) (mk b) = .ok (mk r) ∧ P r :=
  ⟨w, evalBin_left ((k.ty_eq a).symm ▸ h) ((Prim.call_binOp k hf a b).trans (hw ▸ k.ofOpt_some w)), hP⟩

theorem evalBin_cmp {t : Table} {op ty hop : String} {mk : W → Val} (k : IntTy ty mk) {f : W → W → Bool} (a b : W)
    (h : t.leftOp? op ty = some (.cmp "arithmetic.int" ty hop)) (hf : cmpOp hop = some f) :
    evalBin t op (mk a) (mk b) = .ok (.bool (f a b)) :=
  evalBin_left ((k.ty_eq a).symm ▸ h) (Prim.call_cmpOp k hf a b)

theorem evalUn_arith {t : Table} {op ty : String} {mk : W → Val} (k : IntTy ty mk) (hop : String) {P : W → Prop}
    {a w : W} (h : t.unaryOp? op ty = some (.op1 "arithmetic.int" ty hop))
    (hw : (Prim.op1 "arithmetic.int" ty hop).call [mk a] = .ok (mk w)) (hP : P w) :
    ∃ r, evalUn t op (mk a) = .ok (mk r) ∧ P r :=
  ⟨w, evalUn_prim ((k.ty_eq a).symm ▸ h) hw, hP⟩

end GuppyVerif.NumEval
