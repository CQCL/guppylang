import GuppyVerif.Lemmas.C13Compose
/-! The loop of `instantiate_partial`: running it on the kept parameters after a first step agrees with
    the single merged step (`loop_comp`), the instantiations being related by `Rel`. -/
namespace GuppyVerif.Instantiate
open GuppyVerif

theorem Rel.nil : Rel [] [] [] := ⟨rfl, by intro i x h; simp at h⟩

theorem Rel.snoc {σ τ τ' ρ : List Arg} (R : Rel σ τ ρ) {x y : Arg} (hτ : τ <+: τ')
    (hxy : (argClosed x = true ∧ y = x) ∨ ∃ k : Nat, IsVarAt k x ∧ τ'[k]? = some y) :
    Rel (σ ++ [x]) τ' (ρ ++ [y]) := by
  obtain ⟨s, rfl⟩ := hτ
  refine ⟨by simp [R.len], fun i z h => ?_⟩
  rw [List.getElem?_append] at h ⊢
  rw [R.len]
  split at h
  · rw [if_pos ‹_›]
    refine (R.pt i z h).imp id fun ⟨k, w, hv, hk, hr⟩ => ⟨k, w, hv, ?_, hr⟩
    rw [List.getElem?_append_left (List.getElem?_eq_some_iff.mp hk).1, hk]
  · rw [if_neg ‹_›]
    obtain ⟨h0, rfl⟩ : i - σ.length = 0 ∧ x = z := by
      cases hi : i - σ.length <;> simp_all
    rw [h0]
    exact hxy.imp (fun ⟨hc, e⟩ => ⟨hc, e ▸ rfl⟩) fun ⟨k, hv, hk⟩ => ⟨k, y, hv, hk, rfl⟩

theorem argClosed_setPreserve (v : Arg) : argClosed (setPreserve v) = argClosed v := by
  cases v with
  | const c => rfl
  | ty t => cases t <;> simp [setPreserve, argClosed, tyClosed]

theorem setPreserve_var {k : Nat} {x : Arg} (h : IsVarAt k x) : setPreserve x = x := by
  cases x with
  | const c => rfl
  | ty t => cases t <;> simp_all [IsVarAt, setPreserve]

theorem paramToBound_var {σ : List Arg} {k : Nat} {p p' : Param} {b : Arg}
    (h1 : paramInstBounds σ (paramWithIdx k p) = some p') (h2 : paramToBound p' = some b) : IsVarAt k b := by
  cases p with
  | ty i n c d => cases h1; cases h2; rfl
  | const i n t f =>
    simp only [paramWithIdx, paramInstBounds] at h1
    obtain ⟨t1, _, ⟨⟩⟩ := Option.bind_eq_some_iff.mp h1
    simp only [paramToBound] at h2
    split at h2
    · cases h2
    · cases h2; rfl

def paramTyScoped (k : Nat) : Param → Bool
  | .const _ _ t _ => tyScoped k t
  | _ => true

theorem instBounds_comp {σ τ ρ : List Arg} (R : Rel σ τ ρ) (k k2 : Nat) (p p' : Param)
    (hs : paramTyScoped σ.length p = true)
    (h : paramInstBounds σ (paramWithIdx k p) = some p') :
    paramInstBounds τ (paramWithIdx k2 p') = paramInstBounds ρ (paramWithIdx k2 p) := by
  cases p with
  | ty i n c d =>
    simp only [paramWithIdx, paramInstBounds, Option.some.injEq] at h
    subst h; rfl
  | const i n t f =>
    simp only [paramWithIdx, paramInstBounds] at h
    obtain ⟨t1, h1, ⟨⟩⟩ := Option.bind_eq_some_iff.mp h
    simp only [paramWithIdx, paramInstBounds, comp_ty R t t1 hs h1]

theorem instLoop_shape (ps : List Param) (a : PInst) (fi : List Arg) (rem : List Param) (r : List Arg × List Param) :
    instLoop ps a fi rem = some r →
    a.length = ps.length ∧ r.1.length = fi.length + ps.length ∧ ∃ G, r.2 = rem ++ G := by
  induction ps, a, fi, rem using instLoop.induct with
  | case1 fi rem => rintro ⟨⟩; exact ⟨rfl, rfl, [], by simp⟩
  | case2 p ps a fi rem ih =>
    intro h
    simp only [instLoop] at h
    obtain ⟨p', _, h⟩ := Option.bind_eq_some_iff.mp h
    obtain ⟨b, _, h⟩ := Option.bind_eq_some_iff.mp h
    obtain ⟨h1, h2, G, hG⟩ := ih p' b h
    exact ⟨by simp [h1], by simp at h2 ⊢; omega, p' :: G, by simp [hG]⟩
  | case3 p ps a fi rem v ih =>
    intro h
    obtain ⟨h1, h2, G⟩ := ih h
    exact ⟨by simp [h1], by simp at h2 ⊢; omega, G⟩
  | case4 => intro h; simp [instLoop] at h

/-- the length assertion of `instantiate_partial` is subsumed by the strict zip -/
theorem instantiatePartial_func (ins : List FuncIn) (o : Ty) (ps : List Param) (cs : List Const) (a : PInst) :
    instantiatePartial (.func ins o ps cs) a =
      (instLoop ps a [] []).bind fun r =>
      (instInL (full r.1) false ins).bind fun ins' =>
      (instTy (full r.1) false o).bind fun o' =>
      (instConstL (full r.1) false cs).bind fun cs' =>
      some (.func ins' o' r.2 cs') := by
  simp only [instantiatePartial]
  cases h : instLoop ps a [] [] with
  | none => simp
  | some r =>
    have := (instLoop_shape ps a [] [] r h).1
    obtain ⟨fi, rem⟩ := r
    simp [this]

theorem paramsScoped_cons (k : Nat) (p : Param) (ps : List Param) :
    paramsScoped k (p :: ps) = (paramTyScoped k p && paramsScoped (k + 1) ps) := by
  cases p <;> simp [paramsScoped, paramTyScoped]

/-- mid-loop: step 1 (`a`) has `σ`, `remA`; step 2 (`b`) has `τ`, `remB`; the merged step (`c`) has `ρ`, `remB`; the next
    kept parameter is variable `τ.length = remA.length` of step 2.  The outcome is stated for what is done next: continuations
    that agree under `Rel` of the final instantiations give equal results (failure included) -/
theorem loop_comp : ∀ (ps : List Param) (a b c : PInst) (σ τ ρ : List Arg) (remA remB : List Param)
    (σ' : List Arg) (remA' : List Param),
    paramsScoped σ.length ps = true → pinstClosed a → fillP a b = some c → Rel σ τ ρ →
    τ.length = remA.length →
    instLoop ps a σ remA = some (σ', remA') →
    ∃ G, remA' = remA ++ G ∧ ∀ {β : Type} (K1 K2 : List Arg × List Param → Option β),
      (∀ τ' ρ' r, Rel σ' τ' ρ' → K1 (τ', r) = K2 (ρ', r)) →
      (instLoop G b τ remB).bind K1 = (instLoop ps c ρ remB).bind K2
  | [], [], b, c, σ, τ, ρ, remA, remB, σ', remA', _, _, hf, R, _, h => by
    simp only [instLoop, Option.some.injEq, Prod.mk.injEq] at h
    obtain ⟨h1, h2⟩ := h
    subst h1 h2
    cases b with
    | cons x b => simp [fillP] at hf
    | nil =>
      simp only [fillP, Option.some.injEq] at hf
      subst hf
      exact ⟨[], by simp, fun K1 K2 hK => hK _ _ _ R⟩
  | [], _ :: _, _, _, _, _, _, _, _, _, _, _, _, _, _, _, h => by simp [instLoop] at h
  | _ :: _, [], _, _, _, _, _, _, _, _, _, _, _, _, _, _, h => by simp [instLoop] at h
  | p :: ps, some v :: a, b, c, σ, τ, ρ, remA, remB, σ', remA', hs, hc, hf, R, hl, h => by
    obtain ⟨c', hf', rfl⟩ := Option.map_eq_some_iff.mp hf
    rw [paramsScoped_cons, Bool.and_eq_true] at hs
    have R' := R.snoc (x := setPreserve v) List.prefix_rfl
      (.inl ⟨by rw [argClosed_setPreserve]; exact hc v (by simp), rfl⟩)
    obtain ⟨G, hG, hA⟩ := loop_comp ps a b c' _ τ _ remA remB σ' remA'
      (by simpa using hs.2) (fun w hw => hc w (List.mem_cons_of_mem _ hw)) hf' R' hl h
    exact ⟨G, hG, fun K1 K2 hK => by simp only [instLoop]; exact hA K1 K2 hK⟩
  | p :: ps, none :: a, [], c, σ, τ, ρ, remA, remB, σ', remA', hs, hc, hf, R, hl, h => by cases hf
  | p :: ps, none :: a, x :: b, c, σ, τ, ρ, remA, remB, σ', remA', hs, hc, hf, R, hl, h => by
    obtain ⟨c', hf', rfl⟩ := Option.map_eq_some_iff.mp hf
    rw [paramsScoped_cons, Bool.and_eq_true] at hs
    simp only [instLoop] at h
    obtain ⟨p', h1, h⟩ := Option.bind_eq_some_iff.mp h
    obtain ⟨bnd, h2, h⟩ := Option.bind_eq_some_iff.mp h
    have hvar : IsVarAt τ.length bnd := hl ▸ paramToBound_var h1 h2
    rw [setPreserve_var hvar] at h
    have IH := fun y remB' => loop_comp ps a b c' (σ ++ [bnd]) (τ ++ [y]) (ρ ++ [y]) (remA ++ [p']) remB' σ' remA'
      (by simpa using hs.2) (fun w hw => hc w (List.mem_cons_of_mem _ hw)) hf'
      (R.snoc (List.prefix_append τ [y]) (.inr ⟨_, hvar, by simp⟩)) (by simp [hl]) h
    cases x with
    | some w =>
      obtain ⟨G, hG, hA⟩ := IH (setPreserve w) remB
      exact ⟨p' :: G, by simp [hG], fun K1 K2 hK => by simp only [instLoop]; exact hA K1 K2 hK⟩
    | none =>
      -- same bounds in step 2 and in the merged step (`instBounds_comp`): they fail together
      have hb := instBounds_comp R remA.length remB.length p p' hs.1 h1
      obtain ⟨G, hG⟩ : ∃ G, remA' = (remA ++ [p']) ++ G := (instLoop_shape ps a _ _ _ h).2.2
      refine ⟨p' :: G, by simp [hG], fun K1 K2 hK => ?_⟩
      simp only [instLoop, ← hb, Option.bind_eq_bind, Option.bind_assoc]
      refine Option.bind_congr fun p'' _ => Option.bind_congr fun b2 _ => ?_
      obtain ⟨G', hG', hA⟩ := IH (setPreserve b2) (remB ++ [p''])
      cases List.append_cancel_left (hG.symm.trans hG')
      exact hA K1 K2 hK


theorem fillP_full : ∀ (a : PInst) (b : List Arg), fillP a (full b) = (fill a b).map full
  | [], [] => rfl
  | [], _ :: _ => rfl
  | some v :: a, b => by
    simp only [fillP, fill, fillP_full a b, Option.map_map]
    cases fill a b <;> rfl
  | none :: a, [] => rfl
  | none :: a, x :: b => by
    simp only [full, List.map_cons, fillP, fill, Option.map_map]
    have := fillP_full a b
    simp only [full] at this
    rw [this]
    cases fill a b <;> rfl

end GuppyVerif.Instantiate
