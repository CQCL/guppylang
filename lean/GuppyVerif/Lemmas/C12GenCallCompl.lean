import GuppyVerif.Lemmas.C12GenCall
/-! Completeness of the call-path model (`checkEx`, `checkList`, `synthCall`, `checkCall`).  Invariant: the
    substitution threaded through the components agrees with every global solution `θ` (`Agree`), each step returning a
    most general unifier; so a later component can still be unified whenever a global solution exists. -/
namespace GuppyVerif.Unify

theorem boundsOk_congr (E : Env) : ∀ (bs : List (Bool × Bool)) (xs ys : List Tm),
    All2 FlagEq xs ys → boundsOk E bs xs = boundsOk E bs ys := by
  intro bs
  induction bs with
  | nil => intro xs ys _; cases xs <;> cases ys <;> rfl
  | cons b bs ih =>
    intro xs ys h
    cases h with
    | nil => rfl
    | cons h1 h2 => simp only [boundsOk, h1.caps.1, h1.caps.2, ih _ _ h2]

theorem instB_flagEq {xs ys : List Tm} (h : All2 FlagEq xs ys) (t : Tm) : FlagEq (instB xs t) (instB ys t) := by
  have : xs.map erase = ys.map erase := by
    induction h with
    | nil => rfl
    | cons h1 _ ih => simp only [List.map_cons, ih]; rw [h1]
  rw [FlagEq, erase_instB, erase_instB, this]

structure Agree (θ : V → Tm) (σ : Subst) : Prop where
  closed : ClosedImgs σ
  wf : WfSubst σ
  agr : ∀ v u, lookup σ v = some u → FlagEq (θ v) u

theorem Agree.solves {θ : V → Tm} {σ : Subst} (h : Agree θ σ) : Solves θ σ := by
  intro v u hv
  rw [inst_closed (h.closed v u hv)]
  exact h.agr v u hv

theorem Agree.of_solves {θ : V → Tm} {σ : Subst} (hc : ClosedImgs σ) (hw : WfSubst σ) (hs : Solves θ σ) : Agree θ σ :=
  ⟨hc, hw, fun v u hv => by have := hs v u hv; rwa [inst_closed (hc v u hv)] at this⟩

theorem Agree.nil (θ : V → Tm) : Agree θ [] := ⟨closedImgs_nil, wfSubst_nil, fun _ _ h => nomatch h⟩

theorem Agree.append {θ : V → Tm} {s σ : Subst} (h1 : Agree θ s) (h2 : Agree θ σ) : Agree θ (s ++ σ) :=
  ⟨lookup_append_elim h1.closed h2.closed, lookup_append_elim h1.wf h2.wf, lookup_append_elim h1.agr h2.agr⟩

theorem Agree.ins {θ : V → Tm} {σ : Subst} (hag : Agree θ σ) {fresh : List V}
    (hb : ∀ f ∈ fresh, (lookup σ f).isSome = true) :
    All2 FlagEq (fresh.map (asFun σ)) (fresh.map θ) ∧ ∀ t ∈ fresh.map (asFun σ), t.wf = true ∧ t.vars = [] := by
  refine ⟨all2_map_map _ _ fresh fun f hf => ?_, fun t ht => ?_⟩
  · obtain ⟨u, hu⟩ := Option.isSome_iff_exists.mp (hb f hf)
    rw [asFun_of_some hu]
    exact (hag.agr f u hu).symm
  · obtain ⟨f, hf, rfl⟩ := List.mem_map.mp ht
    obtain ⟨u, hu⟩ := Option.isSome_iff_exists.mp (hb f hf)
    rw [asFun_of_some hu]; exact ⟨hag.wf f u hu, hag.closed f u hu⟩

theorem unifyT_complete (E : Env) (hE : NoLinear E) (θ : V → Tm) {x y : Tm} (hx : x.wf = true) (hy : y.wf = true)
    (hc : x.vars = [] ∨ y.vars = []) (hu : Unifies θ x y) : ∃ s, unifyT E x y [] = .ok s ∧ Agree θ s := by
  unfold unifyT
  have c := unify_complBy (Reading.flags hE θ) (fuelBound x y []) x y [] hx hy wfSubst_nil (.nil _ θ) hu
  cases hres : unify E (fuelBound x y []) x y [] with
  | oof => exact absurd hres (unify_fuelBound E x y [] acyclic_nil _ (Nat.le_refl _))
  | fail => exact absurd hres c.ne_fail
  | ok s =>
    exact ⟨s, rfl, .of_solves (unify_closed hres hc closedImgs_nil) (c.wf hres) (solves_iff_solvesBy.mpr (c.solves hres))⟩

/-- arguments that instantiate to the component types of a tuple literal are `TypeArg`s whose payloads fit -/
theorem targs_fit {θ : V → Tm} : ∀ {args : List Tm} {es : List Ex}, wfArgs args = true →
    args.map (fun a => erase (inst θ a)) = es.map (fun e => erase (.targ e.synth)) →
    ∃ tys, args = tys.map Tm.targ ∧ (∀ p ∈ tys, p.wf = true) ∧
      All2 (fun e p => FlagEq (inst θ p) e.synth) es tys := by
  intro args
  induction args with
  | nil =>
    intro es _ h
    cases es with
    | nil => exact ⟨[], rfl, nofun, .nil⟩
    | cons _ _ => cases h
  | cons a args ih =>
    intro es hw h
    cases es with
    | nil => cases h
    | cons e es =>
      rw [wfArgs_cons, Bool.and_eq_true] at hw
      simp only [List.map_cons, List.cons.injEq] at h
      obtain ⟨tys, rfl, hwt, hall⟩ := ih hw.2 h.2
      cases a with
      | targ x =>
        refine ⟨x :: tys, rfl, ?_, .cons (by simpa [FlagEq, inst, erase] using h.1) hall⟩
        simpa [wfArgs] using And.intro hw.1 hwt
      | carg x => simp [inst, erase] at h
      | _ => simp [wfArgs] at hw

/-- the statement for one expression, a hypothesis in `checkList_complete_of` (as in `checkList_sound_of`) -/
def CkComplete (E : Env) (θ : V → Tm) (e : Ex) : Prop :=
  ∀ ty, e.Closed → e.synth.wf = true → ty.wf = true → FlagEq (inst θ ty) e.synth →
    ∃ s, checkEx E e ty = .ok s ∧ Agree θ s

theorem checkList_complete_of (E : Env) (θ : V → Tm) : ∀ (es : List Ex), (∀ e ∈ es, CkComplete E θ e) →
    ∀ (ps : List Tm) (σ : Subst), Agree θ σ → (∀ e ∈ es, e.Closed ∧ e.synth.wf = true) → (∀ p ∈ ps, p.wf = true) →
    All2 (fun e p => FlagEq (inst θ p) e.synth) es ps →
    ∃ σ', checkList E es ps σ = .ok σ' ∧ Agree θ σ' := by
  intro es
  induction es with
  | nil => intro _ ps σ hσ _ _ h; cases h; exact ⟨σ, by simp [checkList], hσ⟩
  | cons e es ih =>
    intro hP ps σ hσ he hp h
    cases h with
    | @cons _ p _ ps h1 h2 =>
      -- `θ` still fits after the solutions so far are applied, because it solves them
      obtain ⟨s, hs, hag⟩ := hP e (by simp) (apply σ p) (he e (by simp)).1 (he e (by simp)).2
        (wf_apply hσ.wf (hp p (by simp))) ((SolvesBy.applyN erase_inst_congr hσ.solves 1 p).trans h1)
      obtain ⟨σ', h', hag'⟩ := ih (fun e' he' => hP e' (by simp [he'])) ps (s ++ σ) (hag.append hσ)
        (fun b hb => he b (by simp [hb])) (fun q hq => hp q (by simp [hq])) h2
      exact ⟨σ', by simpa only [checkList, hs] using h', hag'⟩

theorem checkEx_complete (E : Env) (hE : NoLinear E) (θ : V → Tm) : ∀ e : Ex, CkComplete E θ e := by
  intro e
  induction e using Ex.induct with
  | val a =>
    intro ty hc hw hty hu
    exact unifyT_complete E hE θ hty hw (.inr hc) (by rwa [Unifies, inst_closed (t := a) hc])
  | tup es ih =>
    intro ty hc hw hty hu
    cases ty with
    | var v =>
      refine ⟨[(v, .node .tuple (synthList es))], by simp [checkEx], ?_, ?_, ?_⟩ <;> intro x w hx <;>
        obtain ⟨rfl, rfl⟩ := lookup_singleton hx
      · exact hc
      · exact hw
      · exact hu
    | atom a => simp [FlagEq, inst, erase, Ex.synth] at hu
    | targ x => simp [Tm.wf] at hty
    | carg x => simp [Tm.wf] at hty
    | node hd args =>
      simp only [FlagEq, inst, erase, Ex.synth, instList_eq, eraseList_eq, synthList_eq, List.map_map,
        Tm.node.injEq] at hu
      obtain ⟨hh, hl⟩ := hu
      have hd_tuple : hd = .tuple := by cases hd <;> simp [eraseH] at hh; rfl
      subst hd_tuple
      obtain ⟨tys, rfl, hwt, hall⟩ := targs_fit (θ := θ) (es := es) (by simpa [Tm.wf] using hty) hl
      have hsynth : ∀ e ∈ es, e.synth.wf = true := fun e he => by
        simp only [Ex.synth, Tm.wf, synthList_eq] at hw
        simpa [wfArgs] using (wfArgs_iff _).mp hw (.targ e.synth) (List.mem_map.mpr ⟨e, he, rfl⟩)
      obtain ⟨s, hs, hag⟩ := checkList_complete_of E θ es (fun e he => ih e he) tys [] (Agree.nil θ)
        (fun e he => ⟨hc.tup e he, hsynth e he⟩) hwt hall
      exact ⟨s, by simpa [checkEx, payloads_iff.mpr rfl, all2_length hall] using hs, hag⟩

/-- the last conjunct is by soundness of the same run: every instantiated input ends up variable-free -/
theorem args_complete (E : Env) (hE : NoLinear E) (sg : Sig) (fresh : List V) (es : List Ex)
    (θ : V → Tm) (σ₀ : Subst) (hσ₀ : Agree θ σ₀)
    (hin : ∀ p ∈ sg.inputs, p.vars = [] ∧ p.wf = true)
    (hes : ∀ e ∈ es, e.Closed ∧ e.synth.wf = true)
    (hfit : All2 (fun e p => FlagEq (instB (fresh.map θ) p) e.synth) es sg.inputs) :
    ∃ σ, checkList E es (sg.inputs.map (instB (fresh.map Tm.var))) σ₀ = .ok σ ∧ Agree θ σ ∧ Extends σ₀ σ ∧
      (∀ f p, p ∈ sg.inputs → f ∈ (instB (fresh.map Tm.var) p).vars → (lookup σ f).isSome = true) := by
  obtain ⟨σ, hck, hag⟩ := checkList_complete_of E θ es (fun e _ => checkEx_complete E hE θ e) _ σ₀ hσ₀ hes
    (fun p hp => by obtain ⟨q, hq, rfl⟩ := List.mem_map.mp hp; exact wf_instB_vars fresh (hin q hq).2)
    (all2_map_right (all2_imp_mem hfit fun e p hp h => by rwa [inst_instB θ fresh p (hin p hp).1]))
  have r := checkList_sound E (fun e he => (hes e he).1) hσ₀.closed hck
  refine ⟨σ, hck, hag, r.ext, fun f p hp hfp => ?_⟩
  obtain ⟨e, he, h⟩ := all2_exists_left r.eq _ (List.mem_map.mpr ⟨p, hp, rfl⟩)
  obtain ⟨u, hu, _⟩ := bound_of_closed_apply hfp (closed_of_flagEq h (hes e he).1)
  simp [hu]

theorem finishCall_complete {E : Env} {sg : Sig} {fresh : List V} {es : List Ex} {σ₀ σ : Subst} {θ : V → Tm}
    (hout : sg.out.vars = [])
    (hck : checkList E es (sg.inputs.map (instB (fresh.map Tm.var))) σ₀ = .ok σ) (hag : Agree θ σ)
    (hall : ∀ f ∈ fresh, (lookup σ f).isSome = true) (hb : boundsOk E sg.bounds (fresh.map θ) = true) :
    finishCall E sg fresh es σ₀ = .accept (fresh.map (asFun σ)) (instB (fresh.map (asFun σ)) sg.out) ∧
      All2 FlagEq (fresh.map (asFun σ)) (fresh.map θ) := by
  have hins := (hag.ins hall).1
  rw [finishCall_of_ok hout hck, if_pos (List.all_eq_true.mpr hall), if_pos (boundsOk_congr E _ _ _ hins ▸ hb)]
  exact ⟨rfl, hins⟩

theorem synthCall_complete_ex (E : Env) (hE : NoLinear E) (sg : Sig) (fresh : List V) (es : List Ex) (ρ : List Tm)
    (hin : ∀ p ∈ sg.inputs, p.vars = [] ∧ p.wf = true) (hout : sg.out.vars = [])
    (hes : ∀ e ∈ es, e.Closed ∧ e.synth.wf = true)
    (hfresh : fresh.Nodup) (hρl : ρ.length = fresh.length)
    (hocc : ∀ f ∈ fresh, ∃ p ∈ sg.inputs, f ∈ (instB (fresh.map Tm.var) p).vars)
    (hfit : All2 (fun e p => FlagEq (instB ρ p) e.synth) es sg.inputs)
    (hb : boundsOk E sg.bounds ρ = true) :
    ∃ ins, synthCall E sg fresh es = .accept ins (instB ins sg.out) ∧ All2 FlagEq ins ρ := by
  rw [← map_asFun_zip fresh ρ hfresh hρl] at hfit hb ⊢
  obtain ⟨σ, hck, hag, _, hbound⟩ := args_complete E hE sg fresh es _ [] (Agree.nil _) hin hes hfit
  have hfin := finishCall_complete hout hck hag
    (fun f hf => by obtain ⟨p, hp, hfp⟩ := hocc f hf; exact hbound f p hp hfp) hb
  exact ⟨_, by rw [synthCall, if_neg (by simp [all2_length hfit]), hfin.1], hfin.2⟩

theorem synthCall_complete (E : Env) (hE : NoLinear E) (sg : Sig) (fresh : List V) (as : List Tm) (ρ : List Tm)
    (hin : ∀ p ∈ sg.inputs, p.vars = [] ∧ p.wf = true) (hout : sg.out.vars = [])
    (has : ∀ a ∈ as, a.wf = true ∧ a.vars = [])
    (hfresh : fresh.Nodup) (hρl : ρ.length = fresh.length)
    (hocc : ∀ f ∈ fresh, ∃ p ∈ sg.inputs, f ∈ (instB (fresh.map Tm.var) p).vars)
    (hfit : All2 (fun a p => FlagEq (instB ρ p) a) as sg.inputs)
    (hb : boundsOk E sg.bounds ρ = true) :
    ∃ ins, synthCall E sg fresh (as.map Ex.val) = .accept ins (instB ins sg.out) ∧ All2 FlagEq ins ρ := by
  refine synthCall_complete_ex E hE sg fresh _ ρ hin hout (fun e he => ?_) hfresh hρl hocc ?_ hb
  · obtain ⟨a, ha, rfl⟩ := List.mem_map.mp he
    exact (has a ha).symm
  · clear has hocc hin
    generalize sg.inputs = ps at hfit ⊢
    induction hfit with
    | nil => exact .nil
    | cons h _ ih => exact .cons h ih

theorem checkCall_complete (E : Env) (hE : NoLinear E) (sg : Sig) (fresh fresh₂ : List V) (es : List Ex) (ty : Tm)
    (ρ : List Tm)
    (hin : ∀ p ∈ sg.inputs, p.vars = [] ∧ p.wf = true) (hout : sg.out.vars = []) (houtw : sg.out.wf = true)
    (hes : ∀ e ∈ es, e.Closed ∧ e.synth.wf = true) (hty : ty.vars = []) (htyw : ty.wf = true)
    (hf1 : fresh.Nodup) (hf2 : fresh₂.Nodup) (hl1 : ρ.length = fresh.length) (hl2 : ρ.length = fresh₂.length)
    (hocc : ∀ f ∈ fresh₂, (∃ p ∈ sg.inputs, f ∈ (instB (fresh₂.map Tm.var) p).vars) ∨
        f ∈ (instB (fresh₂.map Tm.var) sg.out).vars)
    (hfit : All2 (fun e p => FlagEq (instB ρ p) e.synth) es sg.inputs)
    (hret : FlagEq ty (instB ρ sg.out))
    (hb : boundsOk E sg.bounds ρ = true) :
    ∃ ins, checkCall E sg fresh fresh₂ es ty = .accept ins (instB ins sg.out) ∧ All2 FlagEq ins ρ := by
  rw [checkCall, if_neg (by simp [all2_length hfit])]
  have hθρ := map_asFun_zip fresh ρ hf1 hl1
  obtain ⟨σ, hck, hag, _, _⟩ := args_complete E hE sg fresh es (asFun (fresh.zip ρ)) [] (Agree.nil _) hin hes
    (hθρ.symm ▸ hfit)
  by_cases hall : (fresh.all fun f => (lookup σ f).isSome) = true
  · -- synthesis succeeds; its return type is variable-free and fits `ty`
    obtain ⟨hfin, hins⟩ := finishCall_complete hout hck hag (List.all_eq_true.mp hall) (hθρ.symm ▸ hb)
    have hwc := (hag.ins (List.all_eq_true.mp hall)).2
    have hrc := vars_instB_closed _ (fun r hr => (hwc r hr).2) hout
    obtain ⟨s, hs, _⟩ := unifyT_complete E hE Tm.var htyw (wf_instB (fun r hr => (hwc r hr).1) houtw) (.inl hty)
      (by rw [Unifies, inst_closed hty, inst_closed hrc]; exact hret.trans (instB_flagEq (hθρ ▸ hins) sg.out).symm)
    simp only [hfin, hs]
    exact ⟨_, rfl, hθρ ▸ hins⟩
  · -- synthesis cannot infer every parameter: the expected type is unified with the return type first
    have hθρ₂ := map_asFun_zip fresh₂ ρ hf2 hl2
    obtain ⟨σ₀, hs₀, hag₀⟩ := unifyT_complete E hE (asFun (fresh₂.zip ρ)) htyw (wf_instB_vars fresh₂ houtw) (.inl hty)
      (by rw [Unifies, inst_closed hty, inst_instB _ fresh₂ sg.out hout, hθρ₂]; exact hret)
    simp only [finishCall_of_ok hout hck, if_neg hall, hs₀]
    -- that solves every fresh variable of the return type, the argument loop the others
    have hfe := (unifyT_fits hs₀ (.inl hty)).2 σ₀ hag₀.closed (.refl σ₀)
    rw [apply_closed hty] at hfe
    obtain ⟨σ', hck', hag', hext', hbin⟩ := args_complete E hE sg fresh₂ es _ σ₀ hag₀ hin hes (hθρ₂.symm ▸ hfit)
    have hall' : ∀ f ∈ fresh₂, (lookup σ' f).isSome = true := by
      intro f hf
      rcases hocc f hf with ⟨p, hp, h⟩ | h
      · exact hbin f p hp h
      · obtain ⟨u, hu, _⟩ := bound_of_closed_apply h (closed_of_flagEq hfe.symm hty)
        simp [hext' f u hu]
    obtain ⟨hfin, hins⟩ := finishCall_complete hout hck' hag' hall' (hθρ₂.symm ▸ hb)
    exact ⟨_, hfin, hθρ₂ ▸ hins⟩

end GuppyVerif.Unify
