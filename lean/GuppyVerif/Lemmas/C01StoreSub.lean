import GuppyVerif.Lemmas.C01Store
/-! `setitem` / `getitem` on a sub-place of a place in a `Good` state keep it `Good` (`Good.focus`,
    `Good.update`); by induction on the script, `runScript_good`. -/
namespace GuppyVerif.DFWiring

theorem GoodList.update {n n' : Nat} {L L' : Locals} {env env' : Env} {p : PlaceId} (g : PVal → PVal)
    (j : Nat) : ∀ (ts : List Ty) (i : Nat) (ps : List PVal), i ≤ j →
      (∀ k tk pk, i ≤ k → k ≠ j → ts[k - i]? = some tk → ps[k - i]? = some pk →
        Good n L env (k :: p) tk pk → Good n' L' env' (k :: p) tk pk) →
      (∀ tj pj, ts[j - i]? = some tj → ps[j - i]? = some pj →
        Good n L env (j :: p) tj pj → Good n' L' env' (j :: p) tj (g pj)) →
      GoodList n L env p i ts ps → GoodList n' L' env' p i ts (ps.modify (j - i) g) := by
  intro ts i ps hij ho hj h
  rw [GoodList_iff] at h ⊢
  refine ⟨by simpa using h.1, fun k t ht => ?_⟩
  obtain ⟨q, hq, hg⟩ := h.2 k t ht
  rw [List.getElem?_modify, hq]
  by_cases hk : j - i = k
  · subst hk
    rw [Nat.add_sub_cancel' hij] at hg ⊢
    exact ⟨g q, by simp, hj t q ht hq hg⟩
  · exact ⟨q, by simp [hk], ho (i + k) t q (Nat.le_add_right ..) (by omega) (by simpa using ht)
      (by simpa using hq) hg⟩

theorem mem_enclosing_append : ∀ (a : List Nat) (r : PlaceId), a ≠ [] → r ≠ [] →
    r ∈ enclosing (a ++ r)
  | [], _, h, _ => absurd rfl h
  | [x], r0 :: rest, _, _ => by simp [enclosing]
  | x :: y :: a, r, _, hr => by
    have ih := mem_enclosing_append (y :: a) r (by simp) hr
    simp only [List.cons_append, enclosing, List.mem_cons] at ih ⊢
    exact Or.inr ih
  | [_], [], _, hr => absurd rfl hr

theorem mem_enclosing_sub {r : PlaceId} {s : List Nat} (hr : r ≠ []) (hs : s ≠ []) :
    r ∈ enclosing (sub r s) :=
  mem_enclosing_append s.reverse r (by simpa using hs) hr

theorem sibling_disjoint {i j : Nat} {r q : PlaceId} {s : List Nat} (hij : i ≠ j)
    (hq : (i :: r) <:+ q) : ¬ sub (j :: r) s <:+ q ∧ q ∉ enclosing (sub (j :: r) s) := by
  constructor
  · intro h
    exact hij (under_child_inj hq ((under_sub (j :: r) s).trans h))
  · intro h
    have hsuf := (mem_enclosing h).1
    have hlen := hq.length_le
    have : (j :: r) <:+ q :=
      List.suffix_of_suffix_length_le (under_sub (j :: r) s) hsuf (by simpa using hlen)
    exact hij (under_child_inj hq this)

theorem totals_modify : ∀ (ps : List PVal) (j : Nat) (g : PVal → PVal) (vs : List Val),
    (∀ q v, ps[j]? = some q → (g q).total = some v → q.total = some v) →
    PVal.totals (ps.modify j g) = some vs → PVal.totals ps = some vs
  | [], _, _, _, _, h => by simpa using h
  | q :: qs, 0, g, vs, hg, h => by
    simp only [List.modify_zero_cons] at h
    obtain ⟨v, vs', e, h1, h2⟩ := totals_cons h
    subst e
    simp only [PVal.totals, hg q v (by simp) h1, h2]
  | q :: qs, j + 1, g, vs, hg, h => by
    simp only [List.modify_succ_cons] at h
    obtain ⟨v, vs', e, h1, h2⟩ := totals_cons h
    subst e
    have := totals_modify qs j g vs' (fun q' v' hq' => hg q' v' (by simpa using hq')) h2
    simp only [PVal.totals, h1, this]

/-- `g` only removes information, so what is fully defined afterwards was so before -/
theorem total_modify_mono {g : PVal → PVal} (hg : ∀ x v, (g x).total = some v → x.total = some v) :
    ∀ (s : List Nat) (pv : PVal) (v : Val), (pv.modify g s).total = some v → pv.total = some v
  | [], pv, v, h => hg pv v h
  | j :: s, .tup ps, v, h => by
    simp only [PVal.modify, PVal.total] at h ⊢
    cases hm : PVal.totals (ps.modify j fun q => PVal.modify g q s) with
    | none => simp [hm] at h
    | some vs =>
      rw [totals_modify ps j _ vs (fun q v' _ hq => total_modify_mono hg s q v' hq) hm]
      simpa [hm] using h
  | _ :: _, .hole, v, h | _ :: _, .val _, v, h => by simpa [PVal.modify] using h

theorem Good.focus {n : Nat} {L : Locals} {env : Env} : ∀ (s : List Nat) (T : Ty) (r : PlaceId)
    (pv : PVal) (t' : Ty), Good n L env r T pv → T.at s = some t' →
    ∃ pv0, pv.at s = some pv0 ∧ Good n L env (sub r s) t' pv0
  | [], T, r, pv, t', hg, hat => by
    cases at_nil hat
    exact ⟨pv, rfl, by simpa [sub] using hg⟩
  | _ :: _, .leaf _ _, _, _, _, _, hat => by simp [Ty.at] at hat
  | j :: s, .node k cs, r, .tup ps, t', hg, hat => by
    obtain ⟨tj, hj, hat'⟩ := at_node_cons hat
    obtain ⟨pj, hpj, hgj⟩ := hg.child hj
    obtain ⟨pv0, h1, h2⟩ := Good.focus s tj (j :: r) pj t' hgj hat'
    exact ⟨pv0, by simpa [PVal.at, hpj] using h1, by rwa [sub_cons]⟩
  | _ :: _, .node _ _, _, .hole, _, hg, _ | _ :: _, .node _ _, _, .val _, _, hg, _ => by
    simp [Good] at hg

/-- update: an operation that touches `locals` only at/below `sub r s` and among its enclosing places
    (each forgotten, or kept while `g` only removes information) keeps `Good`, with `g` applied at `s` -/
theorem Good.update {n n' : Nat} {L L' : Locals} {env env' : Env} (hx : Ext env n env' n')
    (g : PVal → PVal) :
    ∀ (s : List Nat) (T : Ty) (r : PlaceId) (pv : PVal) (t' : Ty), r ≠ [] →
      Good n L env r T pv → T.at s = some t' →
      (∀ q, ¬ sub r s <:+ q → q ∉ enclosing (sub r s) → L' q = L q) →
      (∀ q ∈ enclosing (sub r s), L' q = none ∨
        (L' q = L q ∧ ∀ x v, (g x).total = some v → x.total = some v)) →
      (∀ pv0, pv.at s = some pv0 → Good n' L' env' (sub r s) t' (g pv0)) →
      Good n' L' env' r T (pv.modify g s)
  | [], T, r, pv, t', _, _, hat, _, _, hloc => by
    cases at_nil hat
    simpa [sub, PVal.modify] using hloc pv rfl
  | _ :: _, .leaf _ _, _, _, _, _, _, hat, _, _, _ => by simp [Ty.at] at hat
  | j :: s, .node k cs, r, .tup ps, t', hr, hg, hat, hF, hanc, hloc => by
    obtain ⟨tj, hj, hat'⟩ := at_node_cons hat
    obtain ⟨pj, hpj, hgj⟩ := hg.child hj
    simp only [Good] at hg
    have hr' : r ∈ enclosing (sub r (j :: s)) := mem_enclosing_sub hr (by simp)
    rw [sub_cons] at hF hanc hloc hr'
    have ih := Good.update hx g s tj (j :: r) pj t' (by simp) hgj hat' hF hanc
      (fun pv0 h0 => hloc pv0 (by simpa [PVal.at, hpj] using h0))
    simp only [PVal.modify, Good]
    constructor
    · -- the cached wire of `r` itself
      intro w v hw hv
      rcases hanc r hr' with h | ⟨h, hmono⟩
      · rw [h] at hw; cases hw
      · rw [h] at hw
        have := hg.1 w v hw
          (total_modify_mono hmono (j :: s) (.tup ps) v (by simpa [PVal.modify] using hv))
        exact hx.wire this.1 this.2
    · -- child `j` by induction, its siblings are untouched
      have := GoodList.update (fun q => PVal.modify g q s) j cs 0 ps (Nat.zero_le j)
        (n' := n') (L' := L') (env' := env')
        (fun k tk pk _ hne _ _ hgood =>
          Good.transport hx tk (k :: r) pk
            (fun q hq _ => hF q (sibling_disjoint hne hq).1 (sibling_disjoint hne hq).2)
            (Or.inl (hF _ (sibling_disjoint hne (List.suffix_refl _)).1
              (sibling_disjoint hne (List.suffix_refl _)).2)) hgood)
        (fun tj' pj' h1 h2 _ => by
          simp only [Nat.sub_zero] at h1 h2
          cases hj.symm.trans h1; cases hpj.symm.trans h2
          exact ih) hg.2
      simpa using this
  | _ :: _, .node _ _, _, .hole, _, _, hg, _, _, _, _
  | _ :: _, .node _ _, _, .val _, _, _, hg, _, _, _, _ => by simp [Good] at hg

theorem setitem_good_sub {s : List Nat} {T : Ty} {r : PlaceId} {pv : PVal} {L : Locals}
    {n : Nat} {env : Env} {t' : Ty} {w : Wire} {v : Val} (hr : r ≠ [])
    (hg : Good n L env r T pv) (hat : T.at s = some t') (hw : env w = some v) (hlt : w.node < n)
    (hs : v.HasShape t') : ∃ env1,
      Ran env n (setitem L n (sub r s) false w t').2.2 env1 (setitem L n (sub r s) false w t').2.1 ∧
      Good (setitem L n (sub r s) false w t').2.1 (setitem L n (sub r s) false w t').1 env1 r T
        (pv.modify (fun _ => embed t' v) s) := by
  obtain ⟨env1, A⟩ := setitem_post t' L n (sub r s) w env v hw hlt hs
  exact ⟨env1, A.ran, Good.update A.ran.toExt _ s T r pv t' hr hg hat A.frame
    (fun q hq => Or.inl (setitem_enclosing_none t' L n (sub r s) w false q hq))
    (fun _ _ => A.holds.good t' _ v)⟩

theorem getitem_good_sub {s : List Nat} {T : Ty} {r : PlaceId} {pv : PVal} {L : Locals}
    {n : Nat} {env : Env} {t' : Ty} {pv' : PVal} {v : Val} (hr : r ≠ [])
    (hg : Good n L env r T pv) (hat : T.at s = some t') (hpv : pv.at s = some pv')
    (hv : pv'.total = some v) :
    ∃ w' L2 n2 ops env2, getitem L n (sub r s) t' = .ok (w', L2, n2, ops) ∧ Ran env n ops env2 n2 ∧
      w'.node < n2 ∧ env2 w' = some v ∧ Good n2 L2 env2 r T (pv.modify (moved t') s) := by
  obtain ⟨pv0, h0, hg0⟩ := Good.focus s T r pv t' hg hat
  cases hpv.symm.trans h0
  obtain ⟨w', L2, n2, ops, env2, e, A⟩ := getitem_good t' L n (sub r s) env pv' v hg0 hv
  exact ⟨w', L2, n2, ops, env2, e, A.ran, A.fresh, A.val,
    Good.update A.ran.toExt _ s T r pv t' hr hg hat (fun q hq _ => A.frame q hq)
      (fun q hq => Or.inr ⟨A.frame q (fun h => under_not_enclosing h hq), fun x v => total_moved t' x v⟩)
      (fun pv1 h1 => by cases h0.symm.trans h1; exact A.good)⟩

mutual
theorem blank_good (n : Nat) (env : Env) : ∀ (t : Ty) (p : PlaceId),
    Good n Locals.empty env p t (blank t)
  | .leaf _ _, _ => by simp [Good, blank]
  | .node _ cs, p => by
    simp only [Good, blank]
    exact ⟨fun w v hw _ => by simp [Locals.empty] at hw, blanks_good n env cs p 0⟩
theorem blanks_good (n : Nat) (env : Env) : ∀ (ts : List Ty) (p : PlaceId) (i : Nat),
    GoodList n Locals.empty env p i ts (blanks ts)
  | [], _, _ => by simp [GoodList, blanks]
  | t :: ts, p, i => by
    simp only [GoodList, blanks]
    exact ⟨blank_good n env t (i :: p), blanks_good n env ts p (i + 1)⟩
end

/-- `store_script_correct` from any `Good` state -/
theorem runScript_good (T : Ty) (r : PlaceId) (hr : r ≠ []) (env0 : Env) (n0 : Nat) :
    ∀ (script : List SOp) (pv : PVal) (vs : List Val) (L : Locals) (n : Nat) (env : Env),
      RefRun T env0 n0 script pv vs → Good n L env r T pv → Ext env0 n0 env n →
      ∃ ws L2 n2 ops env2, runScript T r script L n = .ok (ws, L2, n2, ops) ∧
        Ran env n ops env2 n2 ∧ env2.all ws = some vs
  | [], pv, vs, L, n, env, href, _, _ => by
    cases href
    exact ⟨[], L, n, [], env, rfl, .refl env n, rfl⟩
  | .set s w :: rest, pv, vs, L, n, env, href, hg, h0 => by
    cases href with
    | @set _ _ t' v _ _ _ hat hw hlt hs hrest =>
      obtain ⟨env1, R1, G1⟩ := setitem_good_sub hr hg hat (h0.wire hlt hw).2 (h0.wire hlt hw).1 hs
      obtain ⟨ws, L2, n2, o2, env2, e, R2, hall⟩ :=
        runScript_good T r hr env0 n0 rest _ vs _ _ env1 hrest G1 (h0.trans R1.toExt)
      exact ⟨ws, L2, n2, _, env2, by simp only [runScript, hat, e], R1.append R2, hall⟩
  | .get s :: rest, pv, vs, L, n, env, href, hg, h0 => by
    cases href with
    | get hat hpv hv hrest =>
      obtain ⟨w', L1, n1, o1, env1, e1, R1, hw', hv', G1⟩ := getitem_good_sub hr hg hat hpv hv
      obtain ⟨ws, L2, n2, o2, env2, e, R2, hall⟩ :=
        runScript_good T r hr env0 n0 rest _ _ L1 n1 env1 hrest G1 (h0.trans R1.toExt)
      exact ⟨w' :: ws, L2, n2, o1 ++ o2, env2, by simp only [runScript, hat, e1, e], R1.append R2,
        by simp only [Env.all, R2.old w' hw', hv', hall]⟩

end GuppyVerif.DFWiring
