import GuppyVerif.Lemmas.C06Sound
/-! C06: completeness.  On a good, well-kinded program no step of `checkCfg` raises a user error: a
    pass-1 error would be a leaf's bookkeeping stuck, hence a bad path (`stuck_sem`); and every walk
    enters its block in the state the liveness predicts (`good_pre`), which is what the pass-2 checks
    test (`edge_iff`).  Of `Prog.WF` the `acts` clause is not used. -/
namespace GuppyVerif.Linearity

section
variable {P : Prog} (hw : P.WF) (hk : P.KindsOK) (hg : Good P) {l : Leaf}
include hw hg

omit hw in
theorem good_run (l : Leaf) {bs : List Blk} {b : Blk} (hwk : Walk P bs b) :
    ∃ o o1, runEvs (P.initOwned l) (P.trace l bs) = some o ∧ runEvs o (P.blockEvs l b) = some o1 ∧
      runEvs (P.initOwned l) (P.trace l (bs ++ [b])) = some o1 := by
  have h := (hg.leaves l).noBadUse bs b hwk
  cases ho : runEvs (P.initOwned l) (P.trace l bs) with
  | none => rw [trace_snoc, runEvs_append, ho] at h; exact absurd rfl h
  | some o =>
    rw [runEvs_trace_snoc ho] at h
    obtain ⟨o1, ho1⟩ := Option.ne_none_iff_exists'.mp h
    exact ⟨o, o1, rfl, ho1, (runEvs_trace_snoc ho).trans ho1⟩

/-- `NoGap` is used twice: in `liveDefault_nil` (nothing is live by default, hence `Tables P []`)
    and here: outside the gaps what is held is read on some continuation.  On the way to the exit
    `noLeak` is asked again at every block; where it answers `MayIdle` the block is silent. -/
theorem good_willUse (hgap : NoGap P) {bs : List Blk} {b : Blk} (hwk : Walk P bs b)
    (ho : runEvs (P.initOwned l) (P.trace l bs) = some true) : WillUse P l b := by
  rcases hgap with h | ⟨_, h⟩
  · exact ((hg.leaves l).noLeak _ b hwk ho).resolve_right fun ⟨hbl, _⟩ => by rw [h] at hbl; cases hbl
  · have hre := h b (walk_blocks hw hwk)
    induction hre generalizing bs with
    | exit => exact ((hg.leaves l).noLeak _ _ hwk ho).elim id fun ⟨hbl, _⟩ => willUse_exit hw hbl
    | @step b c hcb _ ih =>
      rcases (hg.leaves l).noLeak _ _ hwk ho with h | ⟨_, f, rfl, hf⟩
      · exact h
      · exact .later (hf 0).1 hcb (ih (.step hwk hcb) (by rw [trace_snoc, (hf 0).1, List.append_nil]; exact ho))

include hk

theorem held_kind (hgap : NoGap P) {bs : List Blk} {b : Blk} (hwk : Walk P bs b)
    (ho : runEvs (P.initOwned l) (P.trace l bs) = some true) : P.rowKind b l = some true := by
  induction hwk with
  | entry =>
    simp [Prog.trace, runEvs, Prog.initOwned] at ho
    exact rowKind_true.mpr ⟨hk.rows _ hw.entryIn _ ho, ho⟩
  | @step bs b c hwk hcb ih =>
    have hb := walk_blocks hw hwk
    obtain ⟨o, o1, h1, h2, h3⟩ := good_run hg l hwk
    rw [h3] at ho
    cases ho
    obtain ⟨k1, hk1, hs⟩ := hk.blocks l b hb
    have hk1t : k1 = some true := runEvs_linear h2 hk1 (fun ho' => ih (by rw [h1, ho'])) rfl
    have hcB := hw.closed b hb c hcb
    have hrow : l ∈ P.row c := willUse_row hw hk hcB (good_willUse hw hg hgap (Walk.step hwk hcb) h3)
    rw [hs c hcb hrow, hk1t]

theorem absent_willUse {bs : List Blk} {b : Blk} (hwk : Walk P bs b)
    (ho : runEvs (P.initOwned l) (P.trace l bs) = some false) (hkind : P.rowKind b l = some true)
    (hu : WillUse P l b) : False := by
  induction hu generalizing bs with
  | @here b hh =>
    obtain ⟨o, o1, h1, h2, _⟩ := good_run hg l hwk
    rw [ho] at h1
    cases h1
    obtain ⟨k1, hk1, _⟩ := hk.blocks l b (walk_blocks hw hwk)
    obtain ⟨el, r, hev⟩ := head_isUse_iff.mp hh
    rw [hev] at h2 hk1
    obtain ⟨_, hke, _⟩ := krun_cons_some.mp hk1
    obtain ⟨_, hse, _⟩ := runEvs_cons_some.mp h2
    -- the read is at the kind of the row, which is linear, and nothing is held
    cases (Ev.kstep_use hke).1.symm.trans hkind
    simp [Ev.step_use] at hse
  | @later b c hev hcb hu' ih =>
    have hb := walk_blocks hw hwk
    obtain ⟨k1, hk1, hs⟩ := hk.blocks l b hb
    rw [hev] at hk1
    cases hk1
    refine ih (Walk.step hwk hcb) ?_ ?_
    · rw [trace_snoc, hev, List.append_nil]
      exact ho
    · rw [hs c hcb (willUse_row hw hk (hw.closed b hb c hcb) hu'), hkind]

end

theorem checkBlock_no_user_err {P : Prog} (hw : P.WF) (hk : P.KindsOK) (hg : Good P) (hgap : NoGap P)
    (hr : ∀ b ∈ P.blocks, b ≠ P.exit → Reachable P b) {b : Blk} (hb : b ∈ P.blocks) {e : Err}
    (h : checkBlock P b = .error e) : e = .crash := by
  by_cases hbe : b = P.exit
  · subst hbe
    rw [checkBlock_exit hw] at h
    cases h
  · obtain ⟨bs, hwk⟩ := hr b hb hbe
    have hr := checkBlock_reads P b
    rw [h] at hr
    by_cases hcr : e = .crash
    · exact hcr
    rcases hr with ⟨-, st, hst, hs⟩ | ⟨l, hf⟩
    · exact absurd (hg.rules b ⟨bs, hwk⟩ st hst) hs
    · exfalso
      obtain ⟨o, o1, h1, h2, _⟩ := good_run hg l hwk
      obtain ⟨k1, hk1, _⟩ := hk.blocks l b hb
      have hK : P.rowKind b l ≠ some true → o = false := fun hne => by
        cases o
        · rfl
        · exact absurd (held_kind hw hk hg hgap hwk h1) hne
      -- the block's events are the statements' events, of which `hf` speaks, `++` the exit's
      -- hand-back: the `es ++ more` of `stuck_sem`
      unfold Prog.blockEvs at h2 hk1
      have := stuck_sem hf hcr hK (by rw [initScope_kind b]; exact hk1)
      rw [initScope_held fun he => by rw [walk_entry hw hwk he] at h1; exact (Option.some.inj h1).symm, h2] at this
      cases this

theorem scopes_no_user_err {P : Prog} (hw : P.WF) (hk : P.KindsOK) (hg : Good P) (hgap : NoGap P)
    (hr : ∀ b ∈ P.blocks, b ≠ P.exit → Reachable P b) {e : Err} (h : scopes P = .error e) : e = .crash := by
  rcases scopes_err hw h with ⟨b, hb, h2⟩ | ⟨_, he, _⟩
  · exact checkBlock_no_user_err hw hk hg hgap hr hb h2
  · exact he

section
variable {P : Prog} (hw : P.WF) (hk : P.KindsOK) (hg : Good P) (hgap : NoGap P) (C : Tables P []) {l : Leaf}
include hw hk hg hgap C

omit hk hg hgap in
theorem willUse_live {b : Blk} (hb : b ∈ P.blocks) (hbe : b ≠ P.entry) (h : WillUse P l b) : l ∈ C.live b := by
  induction h with
  | @here b hh => exact (C.live_eq hw hb).mpr (.inl ((C.block b hb).used_of_head hbe hh))
  | @later b c hev hcb _ ih =>
    exact (C.live_eq hw hb).mpr (.inr ⟨(C.block b hb).not_vars_of_nil hbe hev, c, hcb,
      ih (hw.closed b hb c hcb) fun e => hw.entryNoPred b hb (e ▸ hcb)⟩)

theorem good_pre {bs : List Blk} {b : Blk} (hwk : Walk P bs b) {o : Bool}
    (ho : runEvs (P.initOwned l) (P.trace l bs) = some o) : Pre C l b o := by
  by_cases hbe : b = P.entry
  · subst hbe
    rw [walk_entry hw hwk rfl] at ho
    exact (pre_entry C).mpr (Option.some.inj ho).symm
  · have hb := walk_blocks hw hwk
    rw [pre_other C hbe]
    constructor
    · rintro rfl
      exact ⟨willUse_live hw C hb hbe (good_willUse hw hg hgap hwk ho), held_kind hw hk hg hgap hwk ho⟩
    · rintro ⟨hlb, hkb⟩
      cases o
      · exact (absent_willUse hw hk hg hwk ho hkb (live_willUse hw C hb hlb)).elim
      · rfl

theorem edgeOK_of_good {b : Blk} (hb : b ∈ P.blocks) (hrb : Reachable P b) : EdgeOK P C.live b (C.sc b) l := by
  obtain ⟨bs, hwk⟩ := hrb
  obtain ⟨o, -, ho, -, -⟩ := good_run hg l hwk
  have hp := good_pre hw hk hg hgap C hwk ho
  obtain ⟨ho1, hs⟩ := block_ok hw hk C hb hp
  refine (edge_iff hw hk C hb hp hs fun c hcb hlc => ?_).mpr fun c hcb =>
    good_pre hw hk hg hgap C (.step hwk hcb) ((runEvs_trace_snoc ho).trans ho1)
  exact willUse_row hw hk (hw.closed b hb c hcb) (live_willUse hw C (hw.closed b hb c hcb) hlc)

end

theorem checkCfg_no_user_err {P : Prog} (hw : P.WF) (hk : P.KindsOK)
    (hr : ∀ b ∈ P.blocks, b ≠ P.exit → Reachable P b)
    (hgap : NoGap P) (hg : Good P) {e : Err} (h : checkCfg P = .error e) : e = .crash := by
  rw [checkCfg_eq, liveDefault_nil hgap] at h
  rcases checkWith_judges hw (init := []) nofun with ⟨e', hs, he⟩ | ⟨C, hj⟩
  · cases he.symm.trans h; exact scopes_no_user_err hw hk hg hgap hr hs
  · refine Decidable.by_contra fun hne => (Judges.user_iff hne).mp (h ▸ hj) fun b hb x => ?_
    by_cases hbe : b = P.exit
    · subst hbe
      exact ⟨by rw [hw.exitSucc]; nofun, by rw [hw.exitSucc]; exact fun _ _ => nofun⟩
    · exact edgeOK_of_good hw hk hg hgap C hb (hr b hb hbe)

end GuppyVerif.Linearity
