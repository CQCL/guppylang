import GuppyVerif.Lemmas.C08Rows
/-! The entry block decides definedness: `check_bb` on it fails exactly when some variable is `Undef`, and
    otherwise hands good rows to its successors (`checkBB_entry`). -/
namespace GuppyVerif.UseDef
open GuppyVerif.Dataflow

theorem args_lookup_isSome (U : UCfg) (x : Var) : (lookup x U.args).isSome ↔ x ∈ U.argNames :=
  lookup_isSome_iff_mem x U.args

theorem undef_of_defCheck {U : UCfg} (hU : U.WF) {A : Ana} (hA : AnaOK U A) {s : Blk}
    (hs : s ∈ U.succ U.entry ++ U.dsucc U.entry) {x : Var} (hx : x ∈ A.live s) {e : Err}
    (hd : defCheck U (runEvents U.args (U.events U.entry)) x = some e) :
    e = .notDefined x ∧ Undef U x := by
  have hb := hU.entry_mem
  refine ⟨defCheck_some U _ x e hd, ?_⟩
  have hlp : LivePath U.cfg x s := (hA.live _ (hU.cfg.closed _ hb _ hs) x).mp hx
  have hnone : ¬ defCheck U (runEvents U.args (U.events U.entry)) x = none := by
    rw [hd]; exact Option.some_ne_none _
  rw [defCheck_none_iff] at hnone
  by_cases hAS : x ∈ U.assignedSomewhere
  · have : ¬ (lookup x (runEvents U.args (U.events U.entry))).isSome :=
      fun h => hnone ⟨fun _ => h, fun h' => absurd hAS h'⟩
    rw [lookup_runEvents_isSome, args_lookup_isSome, not_or] at this
    exact ⟨this.1, Or.inl hAS, .step this.2 hs hlp⟩
  · exact ⟨fun h => hAS (args_sub_AS h), Or.inr fun h => hnone ⟨fun h' => absurd h' hAS, fun _ => h⟩,
      .step (fun h => hAS (assigned_sub_AS hb h)) hs hlp⟩

def Errs (mk : Var → Err) (P : Var → Prop) (es : List Err) : Prop :=
  es ≠ [] ∧ ∀ e ∈ es, ∃ x, e = mk x ∧ P x

theorem Errs.exists {mk : Var → Err} {P : Var → Prop} {es : List Err} (h : Errs mk P es) :
    ∃ x, mk x ∈ es ∧ P x := by
  obtain ⟨e, he⟩ := List.exists_mem_of_ne_nil _ h.1
  obtain ⟨x, rfl, hx⟩ := h.2 e he
  exact ⟨x, he, hx⟩

theorem checkBB_entry {U : UCfg} (hU : U.WF) {A : Ana} (hA : AnaOK U A) :
    match checkBB U A U.entry U.args with
    | .ok outs => (∀ x, ¬ Undef U x) ∧ outs = outsOf U A U.entry U.args ∧ RowOK U A U.entry U.args
    | .error es => Errs .notDefined (Undef U) es := by
  have hb := hU.entry_mem
  by_cases hE : entryErrs U A U.entry = []
  · by_cases hS : succErrs U A U.entry U.args = []
    · rw [checkBB_of_nil hE hS]
      have key := succErrs_eq_nil.mp hS
      have noUndef : ∀ x, ¬ Undef U x := by
        rintro x ⟨hna, hloc, hp⟩
        cases hp with
        | use hu =>
          have : Err.notDefined x ∈ entryErrs U A U.entry :=
            mem_entryErrs.mpr ⟨x, rfl, hu, fun h => hna ((hA.defass x).mp h), hloc⟩
          rw [hE] at this; cases this
        | step hn he hpc =>
          have hx : x ∈ A.live _ := (hA.live _ (hU.cfg.closed _ hb _ he) x).mpr hpc
          have := (defCheck_none_iff U _ x).mp (key _ he x hx)
          have hAS : x ∈ U.assignedSomewhere := Classical.not_not.mp fun hAS =>
            hloc.elim hAS fun h => h (this.2 hAS)
          have h2 := this.1 hAS
          rw [lookup_runEvents_isSome, args_lookup_isSome] at h2
          exact h2.elim hna hn
      have rowEntry : RowOK U A U.entry U.args := by
        refine ⟨fun x hx hAS => ?_, fun x hx hAS => ?_, fun x hx =>
          ⟨args_sub_AS ((args_lookup_isSome U x).mp hx), fun h => absurd rfl h⟩⟩
        · rw [args_lookup_isSome]
          exact Classical.not_not.mp fun hna =>
            noUndef x ⟨hna, Or.inl hAS, (hA.live _ hb x).mp hx⟩
        · exact Classical.not_not.mp fun hg =>
            noUndef x ⟨fun h => hAS (args_sub_AS h), Or.inr hg, (hA.live _ hb x).mp hx⟩
      exact ⟨noUndef, rfl, rowEntry⟩
    · have hne : (!(succErrs U A U.entry U.args).isEmpty) = true := by simpa using hS
      rw [checkBB_eq, hE]
      simp only [List.isEmpty_nil, Bool.not_true, Bool.false_eq_true, ↓reduceIte, hne]
      refine ⟨hS, fun e he => ?_⟩
      obtain ⟨s, hs, x, hx, hd⟩ := mem_succErrs.mp he
      exact ⟨x, undef_of_defCheck hU hA hs hx hd⟩
  · have hne : (!(entryErrs U A U.entry).isEmpty) = true := by simpa using hE
    rw [checkBB_eq]
    simp only [hne, ↓reduceIte]
    refine ⟨hE, fun e he => ?_⟩
    obtain ⟨x, rfl, hu, hd, hloc⟩ := mem_entryErrs.mp he
    exact ⟨x, rfl, fun h => hd ((hA.defass x).mpr h), hloc, .use hu⟩

end GuppyVerif.UseDef
