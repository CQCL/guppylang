import GuppyVerif.Lemmas.Basic
import Mathlib.Analysis.SpecialFunctions.Trigonometric.Basic
import Mathlib.Data.Matrix.Block
import Mathlib.LinearAlgebra.Matrix.Notation
import GuppyVerif.Gen.C20GateTable
import GuppyVerif.Spec.C20
/-! Two unrelated halves.  `Gate.Mat`: the documented real matrices of `ry`, `cz`, `ch` (`std/quantum/__init__.py`), a
    two-qubit operator `[control, target]` in block form over `control ⊕ target`.  `Gate`: `lookup` / `emit` facts, `emit_inst`
    and the one evaluation over the regenerated gate table, `table_spec`. -/
namespace GuppyVerif.Gate.Mat
open Matrix Real

/-- docstring of `ry`: `Ry(θ) = [[cos θ/2, -sin θ/2], [sin θ/2, cos θ/2]]` -/
noncomputable def Ry (θ : ℝ) : Matrix (Fin 2) (Fin 2) ℝ :=
  !![cos (θ / 2), -sin (θ / 2); sin (θ / 2), cos (θ / 2)]

def Zm : Matrix (Fin 2) (Fin 2) ℝ := !![1, 0; 0, -1]

/-- docstring of `h`: `H = 1/√2 [[1, 1], [1, -1]]` -/
noncomputable def Hm : Matrix (Fin 2) (Fin 2) ℝ := (1 / √2) • !![1, 1; 1, -1]

/-- `I ⊗ U`: `U` on the target whatever the control -/
def onTarget (U : Matrix (Fin 2) (Fin 2) ℝ) : Matrix (Fin 2 ⊕ Fin 2) (Fin 2 ⊕ Fin 2) ℝ :=
  fromBlocks U 0 0 U

/-- controlled-`U`: identity on the control-0 block, `U` on the control-1 block
    (`controlled Zm` is the documented `CZ = diag(1,1,1,-1)`, `controlled Hm` is CH) -/
def controlled (U : Matrix (Fin 2) (Fin 2) ℝ) : Matrix (Fin 2 ⊕ Fin 2) (Fin 2 ⊕ Fin 2) ℝ :=
  fromBlocks 1 0 0 U

theorem ry_mul (α β : ℝ) : Ry α * Ry β = Ry (α + β) := by
  simp only [Ry, Matrix.mul_fin_two, add_div, cos_add, sin_add]
  congr 1
  ring_nf

theorem ry_inv (θ : ℝ) : Ry θ * Ry (-θ) = 1 := by
  rw [ry_mul, add_neg_cancel]
  simp [Ry, Matrix.one_fin_two]

theorem ry_z (θ : ℝ) : Ry θ * Zm = Zm * Ry (-θ) := by
  simp [Ry, Zm, neg_div]

theorem ry_z_ry (θ : ℝ) : Ry θ * Zm * Ry (-θ) = !![cos θ, sin θ; sin θ, -cos θ] := by
  have e : (-θ + -θ) / 2 = -θ := by ring
  rw [ry_z, Matrix.mul_assoc, ry_mul]
  simp [Ry, Zm, e]

theorem rot_quarter_eq_H :
    (!![cos (π / 4), sin (π / 4); sin (π / 4), -cos (π / 4)] : Matrix (Fin 2) (Fin 2) ℝ) = Hm := by
  have h : √2 / 2 = 1 / √2 := by
    rw [div_eq_div_iff (by norm_num) (by positivity), one_mul, Real.mul_self_sqrt (by norm_num)]
  rw [Real.cos_pi_div_four, Real.sin_pi_div_four, h]
  simp [Hm, Matrix.smul_of]

end GuppyVerif.Gate.Mat

namespace GuppyVerif.Gate

theorem perm_of_positions {α : Type} [BEq α] [LawfulBEq α] {a b : List α}
    (h : (a.map (b.idxOf ·)).Perm (List.range b.length)) : a.Nodup ∧ a.Perm b := by
  have hn : a.Nodup := .of_map _ (h.nodup_iff.2 List.nodup_range)
  refine ⟨hn, (List.subperm_of_subset hn fun x hx => ?_).perm_of_length_le ?_⟩
  · exact List.idxOf_lt_length_iff.1 (List.mem_range.1 (h.subset (List.mem_map_of_mem hx)))
  · simpa using h.length_eq.ge

theorem lookup_isSome_of_mem {tbl : List Row} {r : Row} (h : r ∈ tbl) :
    (lookup tbl r.modl r.name).isSome = true :=
  List.find?_isSome.2 ⟨r, h, by simp⟩

theorem emit_some_row {tbl : List Row} {n : Nat} {m f : String} {as : List Exp} {out : List Emitted}
    (h : emit tbl n m f as = some out) :
    ∃ row, lookup tbl m f = some row ∧ row.params.length = as.length := by
  cases n with
  | zero => simp [emit] at h
  | succ n =>
    unfold emit at h
    split at h
    · simp at h
    · next row hrow =>
      split at h
      · simp at h
      · next hlen => exact ⟨row, hrow, not_not.1 hlen⟩

/-! `emit` is parametric in the actual arguments: putting `σ i` for `p i` in the arguments of a call puts it into everything the
call applies (`emit_inst`) and returns (`returnsOf_inst`), provided every body of the table mentions only the parameters its row
declares (`subst` leaves an undeclared `p i` alone, `inst` does not).  So a theorem about every assignment `σ` is its instance at
the arguments `p 0, p 1, …`, which is closed and evaluated in `table_spec`. -/

def Exp.inst (σ : Nat → Exp) : Exp → Exp
  | .p i => σ i
  | .pi => .pi
  | .neg e => .neg (e.inst σ)
  | .divN e n => .divN (e.inst σ) n
  | .mulN e n => .mulN (e.inst σ) n
  | .toFloat e => .toFloat (e.inst σ)
  | .res j => .res j

def OpArg.inst (σ : Nat → Exp) : OpArg → OpArg
  | .val e => .val (e.inst σ)
  | .rot e => .rot (e.inst σ)

def Emitted.inst (σ : Nat → Exp) (e : Emitted) : Emitted := ⟨e.op, e.args.map (OpArg.inst σ)⟩

def Exp.scoped (n : Nat) : Exp → Bool
  | .p i => i < n
  | .neg e | .divN e _ | .mulN e _ | .toFloat e => e.scoped n
  | .pi | .res _ => true

/-- the calls and the returned expressions of a body mention only the parameters the row declares -/
def Row.scoped (r : Row) : Bool :=
  r.returns.all (Exp.scoped r.params.length) &&
    match r.binding with
    | .body calls => calls.all fun c => c.args.all (Exp.scoped r.params.length)
    | _ => true

theorem subst_inst {as : List Exp} {e : Exp} (σ : Nat → Exp) (h : e.scoped as.length = true) :
    e.subst (as.map (Exp.inst σ)) = (e.subst as).inst σ := by
  induction e with
  | p i =>
    have hi : i < as.length := by simpa [Exp.scoped] using h
    show (as.map (Exp.inst σ)).getD i _ = (as.getD i _).inst σ
    simp [List.getD, hi]
  | pi => rfl
  | res j => rfl
  | neg e ih => exact congrArg Exp.neg (ih h)
  | divN e n ih => exact congrArg (Exp.divN · n) (ih h)
  | mulN e n ih => exact congrArg (Exp.mulN · n) (ih h)
  | toFloat e ih => exact congrArg Exp.toFloat (ih h)

theorem map_subst_inst {as es : List Exp} (σ : Nat → Exp) (h : es.all (Exp.scoped as.length) = true) :
    es.map (Exp.subst (as.map (Exp.inst σ))) = (es.map (Exp.subst as)).map (Exp.inst σ) := by
  rw [List.map_map]
  exact List.map_congr_left fun e he => subst_inst σ (List.all_eq_true.1 h e he)

theorem emit_inst {tbl : List Row} (htbl : ∀ r ∈ tbl, r.scoped = true) (σ : Nat → Exp) :
    ∀ (n : Nat) (m f : String) (as : List Exp),
      emit tbl n m f (as.map (Exp.inst σ)) = (emit tbl n m f as).map (List.map (Emitted.inst σ))
  | 0, _, _, _ => rfl
  | n + 1, m, f, as => by
    unfold emit
    cases hrow : lookup tbl m f with
    | none => rfl
    | some row =>
      have hsc := Bool.and_eq_true_iff.1 (htbl row (List.mem_of_find?_eq_some hrow))
      simp only [List.length_map]
      split
      · rfl
      · next hlen =>
        have hlen : row.params.length = as.length := Decidable.not_not.1 hlen
        cases hb : row.binding with
        | direct op | measure op | measureReset op => simp [Emitted.inst, OpArg.inst, Function.comp_def]
        | «opaque» => rfl
        | rotation op =>
          simp only [← List.map_reverse]
          cases as.reverse with
          | nil => rfl
          | cons a qs => simp [Emitted.inst, OpArg.inst, Function.comp_def]
        | body calls =>
          rw [hb] at hsc
          refine List.mapM_flatten_map fun c hc => ?_
          rw [← emit_inst htbl σ n, map_subst_inst σ (hlen ▸ List.all_eq_true.1 hsc.2 c hc)]

theorem returnsOf_inst {tbl : List Row} (htbl : ∀ r ∈ tbl, r.scoped = true) (σ : Nat → Exp) (m f : String)
    (as : List Exp) :
    returnsOf tbl m f (as.map (Exp.inst σ)) = (returnsOf tbl m f as).map (List.map (Exp.inst σ)) := by
  unfold returnsOf
  cases hrow : lookup tbl m f with
  | none => rfl
  | some row =>
    have hsc := Bool.and_eq_true_iff.1 (htbl row (List.mem_of_find?_eq_some hrow))
    simp only [List.length_map]
    split
    · rfl
    · next hlen =>
      have hlen : row.params.length = as.length := Decidable.not_not.1 hlen
      cases row.binding <;> try rfl
      exact congrArg some (map_subst_inst σ (hlen ▸ hsc.1))

theorem actuals_inst (n : Nat) (σ : Nat → Exp) : Spec.actuals n σ = (Spec.actuals n .p).map (Exp.inst σ) := by
  simp [Spec.actuals, Function.comp_def, Exp.inst]

theorem expected_inst (s : Spec.GateSpec) (σ : Nat → Exp) : (s.expected .p).map (Emitted.inst σ) = s.expected σ := by
  unfold Spec.GateSpec.expected
  cases s.mode <;> simp [Emitted.inst, OpArg.inst, Exp.inst, Function.comp_def]

theorem expectedReturns_inst (f : Spec.FuncSpec) (σ : Nat → Exp) :
    (f.expectedReturns .p).map (Exp.inst σ) = f.expectedReturns σ := by
  unfold Spec.FuncSpec.expectedReturns
  cases f.returnsQubits <;> cases f.bit <;> simp [Exp.inst, Function.comp_def]

/-- every row's name located in the specification: with `perm_of_positions`, the names are duplicate-free and a rearrangement
    of `Spec.allNames` -/
abbrev TablePositions : Prop :=
  ((Gen.table.map fun r => (r.modl, r.name)).map (Spec.allNames.idxOf ·)).Perm (List.range Spec.allNames.length)

abbrev TableGates : Prop := ∀ s ∈ Spec.gates,
  emit Gen.table fuel s.modl s.name (Spec.actuals s.arity .p) = some (s.expected .p) ∧
  (lookup Gen.table s.modl s.name).map (·.params) = some s.paramKinds

abbrev TableFunctional : Prop := ∀ f ∈ Spec.functional,
  (emit Gen.table fuel f.modl f.name (Spec.actuals f.arity .p) =
      emit Gen.table fuel f.baseModl f.name (Spec.actuals f.arity .p) ∧
    (emit Gen.table fuel f.modl f.name (Spec.actuals f.arity .p)).isSome = true ∧
    returnsOf Gen.table f.modl f.name (Spec.actuals f.arity .p) = some (f.expectedReturns .p)) ∧
  (lookup Gen.table f.modl f.name).map (·.params) = some f.paramKinds

abbrev TableScoped : Prop := ∀ r ∈ Gen.table, r.scoped = true

abbrev TableOpaque : Prop :=
  ∀ r ∈ Gen.table, r.binding = .opaque → (r.modl, r.name) ∈ Spec.unmodelled ++ Spec.utilities

/-- The one evaluation of the regenerated gate table against `Spec/C20.lean`: the kernel decodes the table's strings once per
    declaration. -/
theorem table_spec : TablePositions ∧ TableGates ∧ TableFunctional ∧ TableScoped ∧ TableOpaque := by
  decide +kernel

theorem table_positions : TablePositions := table_spec.1
theorem table_gates : TableGates := table_spec.2.1
theorem table_functional : TableFunctional := table_spec.2.2.1
theorem table_scoped : TableScoped := table_spec.2.2.2.1
theorem table_opaque : TableOpaque := table_spec.2.2.2.2

end GuppyVerif.Gate
