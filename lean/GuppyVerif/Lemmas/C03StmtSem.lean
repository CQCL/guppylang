import GuppyVerif.Lemmas.C03ExprSem
import GuppyVerif.Lemmas.C03StmtShape
/-! # C03: `build` is correct: CFG execution simulates the big-step semantics of statements (the rule lemmas `semS_*`, one
    for each constructor of `Exec` or pair of like constructors, assembled in `sem_stmt`) -/
namespace GuppyVerif.Builder
open GuppyVerif.Surface

/-- `break` / `continue` occur only inside loops (`il`: already inside a loop) -/
def loopScoped : Stmt → Bool → Bool
  | .brk, il | .cont, il => il
  | .cons s r, il => loopScoped s il && loopScoped r il
  | .ite _ t e, il => loopScoped t il && loopScoped e il
  | .while _ b, _ => loopScoped b true
  | .for _ _ b, _ => loopScoped b true
  | .forFrom _ _ _ b, _ => loopScoped b true
  | _, _ => true

def JOk (J : Jumps) (il : Bool) : Prop := il = true → (∃ t, J.brk = some t) ∧ (∃ t, J.cont = some t)

/-- what a CFG run started in configuration `c0` achieves, for outcome `o` and Python's final state `st'` -/
def PostS (env : Env) (bl : List Block) (J : Jumps) (r : BState × Option Nat) (o : Outcome) (c0 : Config)
    (nt : Nat) (st' : S) : Prop :=
  ∃ stc : S, agreeU stc.1 st'.1 ∧ stc.2 = st'.2 ∧ (∀ k, k < nt → stc.1 (.tmp k) = c0.s.1 (.tmp k)) ∧
    match o with
    | .normal => ∃ b', r.2 = some b' ∧ Steps env bl c0 ⟨b', (r.1.blk b').stmts.length, stc, c0.ret⟩
    | .brk => ∃ t, J.brk = some t ∧ Steps env bl c0 ⟨t, 0, stc, c0.ret⟩
    | .cont => ∃ t, J.cont = some t ∧ Steps env bl c0 ⟨t, 0, stc, c0.ret⟩
    | .ret v => Steps env bl c0 ⟨J.ret, 0, stc, some v⟩

theorem PostS.prefix {env : Env} {bl : List Block} {J : Jumps} {r : BState × Option Nat} {o : Outcome}
    {c0 c1 : Config} {nt nt' : Nat} {st' : S} (h1 : Steps env bl c0 c1) (hr : c1.ret = c0.ret)
    (ht : ∀ k, k < nt → c1.s.1 (.tmp k) = c0.s.1 (.tmp k)) (hle : nt ≤ nt')
    (h : PostS env bl J r o c1 nt' st') : PostS env bl J r o c0 nt st' := by
  obtain ⟨stc, a1, a2, a4, a3⟩ := h
  refine ⟨stc, a1, a2, KeepT.trans ht a4 hle, ?_⟩
  cases o with
  | normal => obtain ⟨b', e1, e2⟩ := a3; exact ⟨b', e1, by rw [← hr]; exact h1.trans e2⟩
  | brk => obtain ⟨t, e1, e2⟩ := a3; exact ⟨t, e1, by rw [← hr]; exact h1.trans e2⟩
  | cont => obtain ⟨t, e1, e2⟩ := a3; exact ⟨t, e1, by rw [← hr]; exact h1.trans e2⟩
  | ret v => exact h1.trans a3

theorem PostS.jump {env : Env} {bl : List Block} {J : Jumps} {r r' : BState × Option Nat} {o : Outcome}
    {c0 : Config} {nt : Nat} {st' : S} (ho : o ≠ .normal) (h : PostS env bl J r o c0 nt st') :
    PostS env bl J r' o c0 nt st' := by
  cases o with
  | normal => exact absurd rfl ho
  | brk => exact h
  | cont => exact h
  | ret v => exact h

theorem PostS.continue_to {env : Env} {bl : List Block} {J : Jumps} {r r' : BState × Option Nat} {o : Outcome}
    {c0 : Config} {nt : Nat} {st' : S}
    (hj : ∀ b', r.2 = some b' → ∀ (stc : S) (rv : Option Val), ∃ b'', r'.2 = some b'' ∧
      Steps env bl ⟨b', (r.1.blk b').stmts.length, stc, rv⟩ ⟨b'', (r'.1.blk b'').stmts.length, stc, rv⟩)
    (h : PostS env bl J r o c0 nt st') : PostS env bl J r' o c0 nt st' := by
  cases o with
  | normal =>
    obtain ⟨stc, q1, q2, q5, b', q3, q4⟩ := h
    obtain ⟨b'', r1, r2⟩ := hj b' q3 stc _
    exact ⟨stc, q1, q2, q5, b'', r1, q4.trans r2⟩
  | brk => exact h
  | cont => exact h
  | ret w => exact h

theorem build_rest_ext (rest : Stmt) (b : Nat) (cur : Option Nat) (J : Jumps) (σ1 : BState) (bl : List Block)
    (hc : ∀ b1, cur = some b1 → b1 < σ1.len ∧ (σ1.blk b1).succs = [])
    (hx : Ext (build rest b cur J σ1).1 bl) : Ext σ1 bl := by
  cases cur with
  | some b1 =>
    obtain ⟨c1, c2⟩ := hc b1 rfl
    exact Ext.stepS (build_good rest b b1 J σ1 c1 c2).touch c2 hx
  | none =>
    by_cases hnil : rest = .nil
    · subst hnil; exact hx
    · rw [build_ensure rest hnil, ensure_none] at hx
      have hno : ((dummyLink b σ1.len (newBB σ1).2).blk σ1.len).succs = [] := by
        by_cases hb : σ1.len = b
        · rw [← hb, blk_dummyLink_same _ _ _ (by simp), blk_newBB_new]
        · rw [blk_dummyLink_other _ _ _ _ hb, blk_newBB_new]
      have g2 := build_good rest b σ1.len J _ (by simp) hno
      have t0 : TouchS σ1 σ1.len (dummyLink b σ1.len (newBB σ1).2) :=
        (touch_newBB _ _).toS.trans (touchS_dummyLink _ _ _ _) (.inl rfl)
      exact Ext.stepS (t0.trans g2.touch (.inl rfl)) (by rw [empty_of_ge σ1 (Nat.le_refl _)]) hx

/-- a value-mode build of `e`, then one appended statement `st` over the residual -/
theorem expr_then {env : Env} {bl : List Block} {e : Expr} {b : Nat} {σ : BState} (st : Expr → BStmt)
    (hu : userE e = true) (hb : b < σ.len) (ho : (σ.blk b).succs = [])
    (hx : Ext (addStmt (bld e .val b σ).2.1 (st (bld e .val b σ).1) (bld e .val b σ).2.2) bl)
    {stI st0 s1 : S} {v : Val} (hag : agreeU stI.1 st0.1) (htr : stI.2 = st0.2) (hev : eval env e st0 = (v, s1))
    (rv : Option Val) :
    ∃ (s2 : S) (n : Nat), eval env (bld e .val b σ).1 s2 = (v, (s2.1, s1.2)) ∧ agreeU s2.1 s1.1 ∧
      KeepT σ.nextTmp stI s2 ∧
      ((addStmt (bld e .val b σ).2.1 (st (bld e .val b σ).1) (bld e .val b σ).2.2).blk (bld e .val b σ).2.1).stmts.length
        = n + 1 ∧
      Steps env bl ⟨b, (σ.blk b).stmts.length, stI, rv⟩
        (execB env (st (bld e .val b σ).1) ⟨(bld e .val b σ).2.1, n, s2, rv⟩) := by
  have g := bld_good e b σ hb ho
  obtain ⟨s2, hst, hev2, hag2, htm2⟩ :=
    expr_val hu hb ho (Ext.step (touch_addStmt _ _ _) g.opn hx) hag htr hev rv
  obtain ⟨h1, hl⟩ := step_added (env := env) (st (bld e .val b σ).1) g.lt hx s2 rv
  exact ⟨s2, _, hev2, hag2, htm2, hl, hst.trans (Steps.single h1)⟩

/-- the statement builder is correct for the derivation `Exec env s st o st'`, from the current block -/
def SemP (env : Env) (s : Stmt) (st : S) (o : Outcome) (st' : S) : Prop :=
  ∀ (prev b : Nat) (J : Jumps) (σ : BState) (bl : List Block) (il : Bool) (stI : S) (rv : Option Val),
    userS s = true → loopScoped s il = true → JOk J il →
    b < σ.len → (σ.blk b).succs = [] → Ext (build s prev (some b) J σ).1 bl →
    agreeU stI.1 st.1 → stI.2 = st.2 →
    PostS env bl J (build s prev (some b) J σ) o ⟨b, (σ.blk b).stmts.length, stI, rv⟩ σ.nextTmp st'

/-- a `while` statement, from its loop head (`∀ c body, s = … →`: the motive of the induction over `Exec` ranges over all `s`) -/
def SemW (env : Env) (s : Stmt) (st : S) (o : Outcome) (st' : S) : Prop :=
  ∀ c body, s = .while c body →
  ∀ (prev b : Nat) (J : Jumps) (σ : BState) (bl : List Block) (il : Bool) (stI : S) (rv : Option Val),
    userS s = true → loopScoped s il = true → JOk J il →
    b < σ.len → (σ.blk b).succs = [] → Ext (build s prev (some b) J σ).1 bl →
    agreeU stI.1 st.1 → stI.2 = st.2 →
    PostS env bl J (build s prev (some b) J σ) o ⟨σ.len, 0, stI, rv⟩ σ.nextTmp st'

/-- the remaining iterations `i, i+1, … < m` of a `for` loop, from its loop head, when the iterator temporary
    holds `iter i m` -/
def SemC (env : Env) (s : Stmt) (st : S) (o : Outcome) (st' : S) : Prop :=
  ∀ (x : Var) (i m : Int) (body : Stmt), s = .forFrom x i m body →
  ∀ (e : Expr) (prev b : Nat) (J : Jumps) (σ : BState) (bl : List Block) (il : Bool) (stI : S) (rv : Option Val),
    userS (.for x e body) = true → loopScoped (.for x e body) il = true →
    JOk J il → b < σ.len → (σ.blk b).succs = [] → Ext (build (.for x e body) prev (some b) J σ).1 bl →
    agreeU stI.1 st.1 → stI.2 = st.2 → stI.1 (.tmp σ.nextTmp) = .iter i m →
    PostS env bl J (build (.for x e body) prev (some b) J σ) o ⟨(forS1 e b σ).len, 0, stI, rv⟩ σ.nextTmp st'

/-- the induction hypothesis: the two loop forms are also entered from their loop head -/
def SemS (env : Env) (s : Stmt) (st : S) (o : Outcome) (st' : S) : Prop :=
  SemP env s st o st' ∧ SemW env s st o st' ∧ SemC env s st o st'

theorem SemS.of_plain {env : Env} {s : Stmt} {st st' : S} {o : Outcome}
    (hp : match s with | .while .. | .forFrom .. => False | _ => True) (h : SemP env s st o st') :
    SemS env s st o st' :=
  ⟨h, fun _ _ hs => by subst hs; exact hp.elim, fun _ _ _ _ hs => by subst hs; exact hp.elim⟩

theorem semS_nil (env : Env) (st : S) : SemS env .nil st .normal st :=
  .of_plain trivial fun _ b _ _ _ _ stI _ _ _ _ _ _ _ hag htr => ⟨stI, hag, htr, KeepT.refl _ _, b, rfl, .refl _⟩

theorem semS_pass (env : Env) (st : S) : SemS env .pass st .normal st :=
  .of_plain trivial fun _ b _ _ _ _ stI _ _ _ _ _ _ _ hag htr => ⟨stI, hag, htr, KeepT.refl _ _, b, rfl, .refl _⟩

theorem semS_brk (env : Env) (st : S) : SemS env .brk st .brk st := by
  refine .of_plain trivial fun prev b J σ bl il stI rv _ hsc hJ hb ho hx hag htr => ?_
  obtain ⟨⟨t, ht⟩, _⟩ := hJ hsc
  simp only [build, ensure_some, ht] at hx
  exact ⟨stI, hag, htr, KeepT.refl _ _, t, ht, Steps.single (step_linked hb ho hx stI rv)⟩

theorem semS_cont (env : Env) (st : S) : SemS env .cont st .cont st := by
  refine .of_plain trivial fun prev b J σ bl il stI rv _ hsc hJ hb ho hx hag htr => ?_
  obtain ⟨_, ⟨t, ht⟩⟩ := hJ hsc
  simp only [build, ensure_some, ht] at hx
  exact ⟨stI, hag, htr, KeepT.refl _ _, t, ht, Steps.single (step_linked hb ho hx stI rv)⟩

theorem semS_ret0 (env : Env) (st : S) : SemS env .ret0 st (.ret .none) st := by
  refine .of_plain trivial ?_
  intro prev b J σ bl il stI rv _ _ _ hb ho hx hag htr
  simp only [build, ensure_some] at hx
  have ho1 : ((addStmt b .ret0 σ).blk b).succs = [] := by rw [blk_addStmt_same _ _ _ hb]; exact ho
  obtain ⟨h1, hl⟩ := step_added (env := env) .ret0 hb (Ext.step (touch_link _ _ _) ho1 hx) stI rv
  have h2 := step_linked (env := env) (t := J.ret) (by simpa using hb) ho1 hx stI (some .none)
  rw [hl] at h2
  exact ⟨stI, hag, htr, fun _ _ => rfl, .head h1 (.head (by simpa [execB] using h2) (.refl _))⟩

theorem semS_ret {env : Env} {e : Expr} {st s1 : S} {v : Val} (hev : eval env e st = (v, s1)) :
    SemS env (.ret e) st (.ret v) s1 := by
  refine .of_plain trivial ?_
  intro prev b J σ bl il stI rv hu _ _ hb ho hx hag htr
  simp only [build, ensure_some, buildE] at hx
  have g := bld_good e b σ hb ho
  have ho1 : ((addStmt (bld e .val b σ).2.1 (.ret (bld e .val b σ).1) (bld e .val b σ).2.2).blk
      (bld e .val b σ).2.1).succs = [] := by rw [blk_addStmt_same _ _ _ g.lt]; exact g.opn
  obtain ⟨s2, n, hev2, hag2, htm2, hl, hst⟩ :=
    expr_then .ret hu hb ho (Ext.step (touch_link _ _ _) ho1 hx) hag htr hev rv
  have h2 := step_linked (env := env) (t := J.ret) (by simpa using g.lt) ho1 hx (s2.1, s1.2) (some v)
  rw [hl] at h2
  simp only [execB, hev2] at hst
  exact ⟨(s2.1, s1.2), hag2, rfl, htm2, hst.trans (Steps.single h2)⟩

theorem semS_assign {env : Env} {e : Expr} {x : Var} {st s1 : S} {v : Val} (hev : eval env e st = (v, s1)) :
    SemS env (.assign x e) st .normal (s1.1.set x v, s1.2) := by
  refine .of_plain trivial ?_
  intro prev b J σ bl il stI rv hu _ _ hb ho hx hag htr
  simp only [userS, Bool.and_eq_true] at hu
  simp only [build, ensure_some, buildE] at hx ⊢
  obtain ⟨s2, n, hev2, hag2, htm2, hl, hst⟩ := expr_then (.assign x) hu.2 hb ho hx hag htr hev rv
  simp only [execB, hev2] at hst
  obtain ⟨u, rfl⟩ : ∃ u, x = .user u := by cases x <;> simp_all [isUser]
  refine ⟨(s2.1.set (.user u) v, s1.2), agreeU_set hag2 _ _, rfl,
    KeepT.trans htm2 (.set_user _ _ u _ _) (Nat.le_refl _), _, rfl, ?_⟩
  simp only [hl]
  exact hst

theorem semS_aug {env : Env} {e : Expr} {x : Var} {op : BinOp} {st s1 : S} {v : Val}
    (hev : eval env e st = (v, s1)) :
    SemS env (.aug x op e) st .normal (s1.1.set x (arith op (st.1 x) v), s1.2) := by
  refine .of_plain trivial ?_
  intro prev b J σ bl il stI rv hu _ _ hb ho hx hag htr
  simp only [userS, Bool.and_eq_true] at hu
  obtain ⟨u, rfl⟩ : ∃ u, x = .user u := by cases x <;> simp_all [isUser]
  simp only [build, ensure_some, buildE] at hx ⊢
  cases hw : (writes e).contains (Var.user u) with
  | false =>
    rw [hw] at hx
    simp only [Bool.false_eq_true, if_false] at hx ⊢
    obtain ⟨s2, n, hev2, hag2, htm2, hl, hst⟩ := expr_then (.aug (.user u) op) hu.2 hb ho hx hag htr hev rv
    -- `e` does not assign `x`, so the statement reads Python's old value of `x`
    have hxv : s2.1 (.user u) = st.1 (.user u) := by
      rw [hag2 u]
      have := eval_writes env e st _ (fun hm => by rw [List.contains_iff_mem.mpr hm] at hw; cases hw)
      rw [hev] at this; exact this
    simp only [execB, hev2, hxv] at hst
    refine ⟨(s2.1.set (.user u) (arith op (st.1 (.user u)) v), s1.2), agreeU_set hag2 _ _, rfl,
      KeepT.trans htm2 (.set_user _ _ u _ _) (Nat.le_refl _), _, rfl, ?_⟩
    simp only [hl]
    exact hst
  | true =>
    rw [hw] at hx
    simp only [if_true] at hx ⊢
    -- the old value of `x` is saved in a temporary before `e` is built
    have g0 := (Built.refl hb ho).bind hb true (.var (.user u))
    have hpb : (preBind true (.var (.user u)) b σ) = bindTmp (.var (.user u)) b σ := rfl
    rw [← hpb] at hx ⊢
    have g1 := bld_good e b _ g0.lt g0.opn
    have hxp : Ext (preBind true (.var (.user u)) b σ).2 bl :=
      Ext.step g1.touch g0.opn (Ext.step (touch_addStmt _ _ _) g1.opn hx)
    obtain ⟨sD, hstD, _, hagD, htmD, hbt, _⟩ := preBind_sem (env := env) true hb hxp stI rv (stI.1 (.user u)) stI.2 rfl
    obtain ⟨hD, hD1, hD2⟩ := hbt rfl
    obtain ⟨s2, n, hev2, hag2, htm2, hl, hst⟩ := expr_then
      (fun r => .assign (.user u) (.bi (.arith op) (preBind true (.var (.user u)) b σ).1 r)) hu.2 g0.lt g0.opn hx
      (hagD.trans hag) (by rw [hD]; exact htr) hev rv
    have hold : s2.1 (.tmp σ.nextTmp) = st.1 (.user u) := by
      rw [htm2 _ (by rw [hD2]; exact Nat.lt_succ_self _), hD]
      simp only [set_same]
      exact hag u
    rw [hD1] at hst
    simp only [execB, eval_arith_tmp, hev2, hold] at hst
    refine ⟨(s2.1.set (.user u) (arith op (st.1 (.user u)) v), s1.2), agreeU_set hag2 _ _, rfl,
      (KeepT.trans htmD htm2 (by rw [hD2]; omega)).trans (.set_user _ _ u _ _) (Nat.le_refl _), _, rfl, ?_⟩
    simp only [hl]
    exact hstD.trans hst

theorem semS_expr {env : Env} {e : Expr} {st s1 : S} {v : Val} (hev : eval env e st = (v, s1)) :
    SemS env (.expr e) st .normal s1 := by
  refine .of_plain trivial ?_
  intro prev b J σ bl il stI rv hu _ _ hb ho hx hag htr
  simp only [userS] at hu
  simp only [build, ensure_some, buildE] at hx ⊢
  cases hT : isTmpVar (bld e .val b σ).1 with
  | true =>
    rw [hT] at hx
    simp only [] at hx ⊢
    obtain ⟨s2, hst, hev2, hag2, htm2⟩ := expr_val hu hb ho hx hag htr hev rv
    obtain ⟨k, hk⟩ := isTmpVar_spec hT
    rw [hk, eval_tmpvar] at hev2
    exact ⟨s2, hag2, by simpa using congrArg (fun p => p.2.2) hev2, htm2, _, rfl, hst⟩
  | false =>
    rw [hT] at hx
    simp only [] at hx ⊢
    obtain ⟨s2, n, hev2, hag2, htm2, hl, hst⟩ := expr_then .expr hu hb ho hx hag htr hev rv
    simp only [execB, hev2] at hst
    refine ⟨(s2.1, s1.2), hag2, rfl, htm2, _, rfl, ?_⟩
    simp only [hl]
    exact hst

theorem semS_consN {env : Env} {a rest : Stmt} {st s1 s2 : S} {o : Outcome}
    (iha : SemS env a st .normal s1) (ihr : SemS env rest s1 o s2) : SemS env (.cons a rest) st o s2 := by
  refine .of_plain trivial ?_
  intro prev b J σ bl il stI rv hu hsc hJ hb ho hx hag htr
  simp only [userS, Bool.and_eq_true] at hu
  simp only [loopScoped, Bool.and_eq_true] at hsc
  simp only [build, ensure_some] at hx ⊢
  have ga := build_good a b b J σ hb ho
  have hx1 : Ext (build a b (some b) J σ).1 bl :=
    build_rest_ext rest b _ J _ bl (fun b1 h => (ga.cur b1 h).2) hx
  obtain ⟨stc, a1, a2, a4, b1, e1, e2⟩ := iha.1 b b J σ bl il stI rv hu.1 hsc.1 hJ hb ho hx1 hag htr
  obtain ⟨_, c2, c3⟩ := ga.cur b1 e1
  rw [e1] at hx ⊢
  exact PostS.prefix e2 rfl a4 ga.touch.tmp (ihr.1 b b1 J _ bl il stc rv hu.2 hsc.2 hJ c2 c3 hx a1 a2)

theorem semS_consJ {env : Env} {a rest : Stmt} {st s1 : S} {o : Outcome}
    (iha : SemS env a st o s1) (hne : o ≠ .normal) : SemS env (.cons a rest) st o s1 := by
  refine .of_plain trivial ?_
  intro prev b J σ bl il stI rv hu hsc hJ hb ho hx hag htr
  simp only [userS, Bool.and_eq_true] at hu
  simp only [loopScoped, Bool.and_eq_true] at hsc
  simp only [build, ensure_some] at hx ⊢
  have ga := build_good a b b J σ hb ho
  have hx1 : Ext (build a b (some b) J σ).1 bl :=
    build_rest_ext rest b _ J _ bl (fun b1 h => (ga.cur b1 h).2) hx
  exact PostS.jump hne (iha.1 b b J σ bl il stI rv hu.1 hsc.1 hJ hb ho hx1 hag htr)

/-- how a run leaves either arm of an `if`: to where the statement continues -/
theorem iteFin_steps {σ1 : BState} {tb eb : Nat} {rt re : BState × Option Nat} (heb1 : eb < σ1.len) (hne : tb ≠ eb)
    (gt : GoodS σ1 tb rt) (ge : GoodS rt.1 eb re) {env : Env} {bl : List Block} (hx : Ext (iteFin rt re).1 bl) :
    Ext re.1 bl ∧
    (∀ a, rt.2 = some a → ∀ (stc : S) (rv : Option Val), ∃ b', (iteFin rt re).2 = some b' ∧
      Steps env bl ⟨a, (rt.1.blk a).stmts.length, stc, rv⟩ ⟨b', ((iteFin rt re).1.blk b').stmts.length, stc, rv⟩) ∧
    (∀ b2, re.2 = some b2 → ∀ (stc : S) (rv : Option Val), ∃ b', (iteFin rt re).2 = some b' ∧
      Steps env bl ⟨b2, (re.1.blk b2).stmts.length, stc, rv⟩ ⟨b', ((iteFin rt re).1.blk b').stmts.length, stc, rv⟩) := by
  have hlt := gt.touch.len
  have hle := ge.touch.len
  cases hrt : rt.2 with
  | none =>
    simp only [iteFin, hrt] at hx ⊢
    exact ⟨hx, fun a h => (nomatch h), fun b2 h stc rv => ⟨b2, h, .refl _⟩⟩
  | some a =>
    obtain ⟨a1, a2, a3⟩ := gt.cur a hrt
    have hca := ge.touch.frame a a2 (by rcases a1 with h | h <;> omega)
    have a3' : (re.1.blk a).succs = [] := by rw [core_succs hca]; exact a3
    cases hre : re.2 with
    | none =>
      simp only [iteFin, hrt, hre] at hx ⊢
      refine ⟨hx, fun a' ha' stc rv => ?_, fun b2 h => (nomatch h)⟩
      cases ha'
      exact ⟨a, rfl, by rw [core_stmts hca]; exact .refl _⟩
    | some b2 =>
      obtain ⟨d1, d2, d3⟩ := ge.cur b2 hre
      have hab : a ≠ b2 := by rcases d1 with h | h <;> rcases a1 with h' | h' <;> omega
      simp only [iteFin, hrt, hre, fst_newBB2] at hx ⊢
      obtain ⟨hA, hB, hO⟩ := blk_newBB2 (σ := re.1) (show a < re.1.len by omega) d2 hab
      have hm : ((newBB2 a b2 re.1).2.blk re.1.len).stmts.length = 0 := by
        rw [hO _ (by omega) (by omega), empty_of_ge re.1 (Nat.le_refl _)]; rfl
      refine ⟨hx.of_le (by simp) fun i hi => ?_, ?_, ?_⟩
      · by_cases hia : i = a
        · subst hia; exact .inr ⟨a3', by rw [hA]; exact List.prefix_refl _⟩
        · by_cases hib : i = b2
          · subst hib; exact .inr ⟨d3, by rw [hB]; exact List.prefix_refl _⟩
          · exact .inl (hO i hia hib)
      · intro a' ha' stc rv; cases ha'
        have h1 := step_goto (env := env) hx (b := a) (t := re.1.len) (by simp; omega) (by rw [hA, a3']; rfl) stc rv
        rw [hA] at h1
        exact ⟨_, rfl, by rw [hm, ← core_stmts hca]; exact Steps.single h1⟩
      · intro b' hb' stc rv; cases hb'
        have h1 := step_goto (env := env) hx (b := b2) (t := re.1.len) (by simp; omega) (by rw [hB, d3]; rfl) stc rv
        rw [hB] at h1
        exact ⟨_, rfl, by rw [hm]; exact Steps.single h1⟩

theorem semS_ite {env : Env} {c : Expr} {t e : Stmt} {st s1 s2 : S} {v : Val} {o : Outcome}
    (hev : eval env c st = (v, s1))
    (hbr : if v.truthy then SemS env t s1 o s2 else SemS env e s1 o s2) : SemS env (.ite c t e) st o s2 := by
  refine .of_plain trivial ?_
  intro prev b J σ bl il stI rv hu hsc hJ hb ho hx hag htr
  simp only [userS, Bool.and_eq_true] at hu
  simp only [loopScoped, Bool.and_eq_true] at hsc
  rw [build_ite_eq] at hx ⊢
  have I := itS1_spec c hb ho
  have hl1 := I.len
  have htb := I.thn
  have heb := I.els
  have gt := build_good t σ.len σ.len J (itS1 c b σ) (by omega) (by rw [htb])
  obtain ⟨hlt, heb2⟩ := I.els_after gt
  have hebc := gt.touch.frame (σ.len + 1) (by omega) (by omega)
  have ge := build_good e (σ.len + 1) (σ.len + 1) J _ hlt heb2
  obtain ⟨hxe, j2, j3⟩ := iteFin_steps (env := env) (tb := σ.len) (by omega) (by omega) gt ge hx
  have hxt : Ext (build t σ.len (some σ.len) J (itS1 c b σ)).1 bl := Ext.stepS ge.touch heb2 hxe
  have hx1 : Ext (itS1 c b σ) bl := Ext.stepS gt.touch (by rw [htb]) hxt
  obtain ⟨sA, hstA, htrA, hagA, htmA⟩ := expr_br (e := c) (t := σ.len) (f := σ.len + 1) hu.1.1 I.lt I.opn hx1 hag htr hev rv
  rw [I.stmts] at hstA
  cases hv : v.truthy with
  | true =>
    rw [hv] at hstA hbr
    simp only [if_true] at hstA hbr
    have h := hbr.1 σ.len σ.len J (itS1 c b σ) bl il sA rv hu.1.2 hsc.1 hJ (by omega) (by rw [htb])
      hxt hagA htrA
    rw [htb] at h
    exact PostS.prefix hstA rfl htmA I.touchS.tmp (h.continue_to j2)
  | false =>
    rw [hv] at hstA hbr
    simp only [Bool.false_eq_true, if_false] at hstA hbr
    have h := hbr.1 (σ.len + 1) (σ.len + 1) J _ bl il sA rv hu.2 hsc.2 hJ hlt heb2
      hxe hagA htrA
    rw [core_stmts hebc, heb] at h
    exact PostS.prefix hstA rfl htmA (Nat.le_trans I.touchS.tmp gt.touch.tmp) (h.continue_to j3)

/-! ### `while` loops -/

/-- what the loop rules need from a CFG extending `loopFin hd rb` (body built from `σ7`, result `rb`) -/
structure LoopExt (env : Env) (bl : List Block) (hd : Nat) (σ7 : BState) (rb : BState × Option Nat) : Prop where
  xb : Ext rb.1 bl
  x7 : Ext σ7 bl
  fin : (loopFin hd rb).2 = some (hd + 2)
  z : ((loopFin hd rb).1.blk (hd + 2)).stmts.length = 0
  back : ∀ e, rb.2 = some e → ∀ (stc : S) (rv : Option Val),
    step env bl ⟨e, (rb.1.blk e).stmts.length, stc, rv⟩ = some ⟨hd, 0, stc, rv⟩

theorem loop_setup {env : Env} {bl : List Block} {σ σ7 : BState} {b hd bb : Nat} {rb : BState × Option Nat}
    (K : LoopSkel σ b σ7 hd bb) (gb : GoodS σ7 bb rb) (hx : Ext (loopFin hd rb).1 bl) : LoopExt env bl hd σ7 rb := by
  have ftl := K.tail
  have hlb := gb.touch.len
  have ctl := gb.touch.frame (hd + 2) K.tl K.bbne.symm
  have hxrb : Ext rb.1 bl ∧ ((loopFin hd rb).1.blk (hd + 2)).stmts.length = 0 ∧
      (∀ e, rb.2 = some e → ∀ (stc : S) (rv : Option Val),
        step env bl ⟨e, (rb.1.blk e).stmts.length, stc, rv⟩ = some ⟨hd, 0, stc, rv⟩) := by
    cases hrb : rb.2 with
    | none =>
      simp only [loopFin, hrb] at hx ⊢
      exact ⟨hx, by rw [core_stmts ctl, ftl]; rfl, fun e h => by cases h⟩
    | some e =>
      obtain ⟨e1, e2, e3⟩ := gb.cur e hrb
      have hetl : e ≠ hd + 2 := by have := K.tl; have := K.bbne; rcases e1 with h | h <;> omega
      simp only [loopFin, hrb] at hx ⊢
      refine ⟨Ext.step (touch_link _ _ _) e3 hx, ?_, ?_⟩
      · rw [blk_link_other _ _ _ _ (Ne.symm hetl), core_stmts ctl, ftl]; rfl
      · intro e' he' stc rv; cases he'
        exact step_linked e2 e3 hx stc rv
  exact ⟨hxrb.1, Ext.stepS gb.touch K.opn hxrb.1, by simp only [loopFin]; split <;> rfl, hxrb.2.1, hxrb.2.2⟩

theorem while_setup {env : Env} {bl : List Block} (c : Expr) (body : Stmt) (b : Nat) (J : Jumps) (σ : BState)
    (hb : b < σ.len) (ho : (σ.blk b).succs = [])
    (hx : Ext (loopFin σ.len (whRB c body b J σ)).1 bl) :
    LoopExt env bl σ.len (whS1 c b σ) (whRB c body b J σ) ∧
    ∀ (stI : S) (rv : Option Val), step env bl ⟨b, (σ.blk b).stmts.length, stI, rv⟩ = some ⟨σ.len, 0, stI, rv⟩ := by
  obtain ⟨K, fb, _⟩ := whS1_skel c hb ho
  have L := loop_setup (env := env) K (build_good body (σ.len + 1) (σ.len + 1) (whJ J σ) (whS1 c b σ) K.bbl K.opn) hx
  refine ⟨L, fun stI rv => ?_⟩
  have := step_goto (env := env) L.x7 (b := b) (t := σ.len) (Nat.lt_of_lt_of_le hb K.touch.len) (by rw [fb]) stI rv
  rw [fb] at this
  exact this

theorem while_cond {env : Env} {bl : List Block} {c : Expr} {b : Nat} {σ : BState} (hu : userE c = true)
    (hb : b < σ.len) (ho : (σ.blk b).succs = []) (hxs : Ext (whS1 c b σ) bl)
    {stI st s1 : S} {v : Val} (hag : agreeU stI.1 st.1) (htr : stI.2 = st.2) (hev : eval env c st = (v, s1))
    (rv : Option Val) :
    ∃ sA : S, Steps env bl ⟨σ.len, 0, stI, rv⟩ ⟨if v.truthy then σ.len + 1 else σ.len + 2, 0, sA, rv⟩ ∧
      sA.2 = s1.2 ∧ agreeU sA.1 s1.1 ∧ KeepT σ.nextTmp stI sA := by
  have W := whS0_spec hb ho
  have l0 := W.len
  have n0 := W.tmp
  have fh := W.head
  have := expr_br (e := c) (t := σ.len + 1) (f := σ.len + 2) (b := σ.len) (σ := whS0 b σ) hu (by omega)
    (by rw [fh]) hxs hag htr hev rv
  rw [fh, n0] at this
  exact this

theorem semS_while_of_head {env : Env} {c : Expr} {body : Stmt} {st st' : S} {o : Outcome}
    (hB : SemW env (.while c body) st o st') : SemS env (.while c body) st o st' := by
  refine ⟨?_, hB, fun _ _ _ _ h => nomatch h⟩
  intro prev b J σ bl il stI rv hu hsc hJ hb ho hx hag htr
  have B := hB c body rfl prev b J σ bl il stI rv hu hsc hJ hb ho hx hag htr
  rw [build_while_eq] at hx
  obtain ⟨_, hgo⟩ := while_setup (env := env) c body b J σ hb ho hx
  exact PostS.prefix (Steps.single (hgo stI rv)) rfl (fun _ _ => rfl) (Nat.le_refl _) B

theorem semS_whileF {env : Env} {c : Expr} {body : Stmt} {st s1 : S} {v : Val}
    (hev : eval env c st = (v, s1)) (hv : v.truthy = false) : SemS env (.while c body) st .normal s1 := by
  refine semS_while_of_head ?_
  intro c' body' hs prev b J σ bl il stI rv hu hsc hJ hb ho hx hag htr
  cases hs
  simp only [userS, Bool.and_eq_true] at hu
  rw [build_while_eq] at hx ⊢
  obtain ⟨L, _⟩ := while_setup (env := env) c body b J σ hb ho hx
  obtain ⟨sA, hstA, htrA, hagA, htmA⟩ := while_cond hu.1 hb ho L.x7 hag htr hev rv
  rw [hv] at hstA
  exact ⟨sA, hagA, htrA, htmA, σ.len + 2, L.fin, by rw [L.z]; simpa using hstA⟩

def AtHead (env : Env) (bl : List Block) (hd : Nat) (c0 : Config) (nt : Nat) (st' : S) : Prop :=
  ∃ stc : S, agreeU stc.1 st'.1 ∧ stc.2 = st'.2 ∧ KeepT nt c0.s stc ∧ Steps env bl c0 ⟨hd, 0, stc, c0.ret⟩

/-- one run of a loop body, seen from the loop: `break` completes it, `return` returns, otherwise back at the head -/
def LoopPost (env : Env) (bl : List Block) (J : Jumps) (hd : Nat) (rb : BState × Option Nat) (o : Outcome)
    (c0 : Config) (nt : Nat) (st' : S) : Prop :=
  match o with
  | .brk => PostS env bl J (loopFin hd rb) .normal c0 nt st'
  | .ret v => PostS env bl J (loopFin hd rb) (.ret v) c0 nt st'
  | _ => AtHead env bl hd c0 nt st'

theorem loop_body {env : Env} {bl : List Block} {J J' : Jumps} {hd : Nat} {rb : BState × Option Nat} {o : Outcome}
    {σ7 : BState} {c0 c1 : Config} {nt nt' : Nat} {st' : S} (hr : J'.ret = J.ret) (hc : J'.cont = some hd)
    (hk : J'.brk = some (hd + 2)) (L : LoopExt env bl hd σ7 rb)
    (h1 : Steps env bl c0 c1) (hr1 : c1.ret = c0.ret) (ht : KeepT nt c0.s c1.s)
    (hle : nt ≤ nt') (h : PostS env bl J' rb o c1 nt' st') : LoopPost env bl J hd rb o c0 nt st' := by
  obtain ⟨stc, q1, q2, q5, q3⟩ := PostS.prefix h1 hr1 ht hle h
  cases o with
  | normal => obtain ⟨e, e1, e2⟩ := q3; exact ⟨stc, q1, q2, q5, e2.trans (Steps.single (L.back e e1 stc _))⟩
  | cont => obtain ⟨t, e1, e2⟩ := q3; rw [hc] at e1; cases e1; exact ⟨stc, q1, q2, q5, e2⟩
  | brk => obtain ⟨t, e1, e2⟩ := q3; rw [hk] at e1; cases e1; exact ⟨stc, q1, q2, q5, _, L.fin, by rw [L.z]; exact e2⟩
  | ret v => exact ⟨stc, q1, q2, q5, by rw [← hr]; exact q3⟩

theorem while_iter {env : Env} {c : Expr} {body : Stmt} {st s1 s2 : S} {v : Val} {o : Outcome}
    (hev : eval env c st = (v, s1)) (hv : v.truthy = true) (ihb : SemS env body s1 o s2)
    {b : Nat} (J : Jumps) {σ : BState} {bl : List Block} {stI : S} (rv : Option Val)
    (hu : userS (.while c body) = true) (hsc : loopScoped body true = true) (hb : b < σ.len)
    (ho : (σ.blk b).succs = []) (hx : Ext (loopFin σ.len (whRB c body b J σ)).1 bl)
    (hag : agreeU stI.1 st.1) (htr : stI.2 = st.2) :
    LoopPost env bl J σ.len (whRB c body b J σ) o ⟨σ.len, 0, stI, rv⟩ σ.nextTmp s2 := by
  simp only [userS, Bool.and_eq_true] at hu
  obtain ⟨L, _⟩ := while_setup (env := env) c body b J σ hb ho hx
  obtain ⟨K, _, fbb⟩ := whS1_skel c hb ho
  obtain ⟨sA, hstA, htrA, hagA, htmA⟩ := while_cond hu.1 hb ho L.x7 hag htr hev rv
  rw [hv] at hstA
  have hbody := ihb.1 (σ.len + 1) (σ.len + 1) (whJ J σ) (whS1 c b σ) bl true sA rv hu.2 hsc
    (fun _ => ⟨⟨_, rfl⟩, ⟨_, rfl⟩⟩) K.bbl K.opn L.xb hagA htrA
  rw [fbb] at hbody
  exact loop_body (J' := whJ J σ) (c1 := ⟨σ.len + 1, 0, sA, rv⟩) rfl rfl rfl L (by simpa using hstA) rfl htmA
    K.touch.tmp hbody

def exitOf : Outcome → Outcome
  | .brk => .normal
  | o => o

theorem semS_whileX {env : Env} {c : Expr} {body : Stmt} {st s1 s2 : S} {v : Val} {o : Outcome}
    (hev : eval env c st = (v, s1)) (hv : v.truthy = true) (ihb : SemS env body s1 o s2)
    (ho : o = .brk ∨ ∃ r, o = .ret r) : SemS env (.while c body) st (exitOf o) s2 :=
  semS_while_of_head fun _ _ hs prev b J σ bl il stI rv hu hsc hJ hb hob hx hag htr => by
    cases hs
    rw [build_while_eq] at hx ⊢
    have := while_iter hev hv ihb J rv hu hsc hb hob hx hag htr
    rcases ho with rfl | ⟨r, rfl⟩ <;> exact this

theorem semS_whileT {env : Env} {c : Expr} {body : Stmt} {st s1 s2 s3 : S} {v : Val} {o o' : Outcome}
    (hev : eval env c st = (v, s1)) (hv : v.truthy = true) (ihb : SemS env body s1 o s2)
    (ho' : o = .normal ∨ o = .cont) (ihw : SemS env (.while c body) s2 o' s3) :
    SemS env (.while c body) st o' s3 :=
  semS_while_of_head fun _ _ hs prev b J σ bl il stI rv hu hsc hJ hb ho hx hag htr => by
    cases hs
    have hhead : AtHead env bl σ.len ⟨σ.len, 0, stI, rv⟩ σ.nextTmp s2 := by
      have := while_iter hev hv ihb J rv hu hsc hb ho (build_while_eq c body prev b J σ ▸ hx) hag htr
      rcases ho' with rfl | rfl <;> exact this
    obtain ⟨stc, q1, q2, q5, q4⟩ := hhead
    exact PostS.prefix q4 rfl q5 (Nat.le_refl _)
      (ihw.2.1 c body rfl prev b J σ bl il stc rv hu hsc hJ hb ho hx q1 q2)

/-! ### `for` loops -/

theorem for_setup {env : Env} {bl : List Block} (x : Var) (e : Expr) (body : Stmt) (b : Nat) (J : Jumps) (σ : BState)
    (hb : b < σ.len) (ho : (σ.blk b).succs = [])
    (hx : Ext (loopFin (forS1 e b σ).len (forRB x e body b J σ)).1 bl) :
    LoopExt env bl (forS1 e b σ).len (forS7 x e b σ) (forRB x e body b J σ) := by
  have K := forS7_skel x e hb ho
  exact loop_setup K (build_good body _ _ (forJ J e b σ) (forS7 x e b σ) K.bbl K.opn) hx

theorem tpl_iter {env : Env} {bl : List Block} {σ1 σ7 : BState} {a it rs : Nat} {x : Var} (hx7 : Ext σ7 bl)
    (T : ForTpl x it rs a σ1 σ7)
    (stI : S) (rv : Option Val) (i m : Int) (hit : stI.1 (.tmp it) = .iter i m) :
    (¬ i < m → Steps env bl ⟨σ1.len, 0, stI, rv⟩ ⟨σ1.len + 2, 0, (stI.1.set (.tmp rs) .none, stI.2), rv⟩) ∧
    (i < m → Steps env bl ⟨σ1.len, 0, stI, rv⟩
      ⟨σ1.len + 4, 1, (((stI.1.set (.tmp rs) (.some i (i + 1) m)).set x (.int i)).set (.tmp it) (.iter (i + 1) m), stI.2), rv⟩) := by
  have hl : σ1.len + 4 < σ7.len := by rw [T.len]; omega
  have fhd := T.head
  have fbb := T.next
  have ftb := T.stop
  have feb := T.bind
  -- head -> body block; `res = iter_next`
  have s1 := step_goto (env := env) hx7 (b := σ1.len) (t := σ1.len + 1) (by omega) (by rw [fhd]) stI rv
  rw [fhd] at s1
  have s2 := step_stmt (env := env) hx7 (b := σ1.len + 1) (k := 0) (by omega)
    (st := .assign (.tmp rs) (eIterNext it)) (by rw [fbb]; rfl) stI rv
  have hnext : eval env (eIterNext it) stI = (applyPrim .iternext (.iter i m), stI) := by
    simp only [eIterNext, eval, applyUn, hit]
  simp only [execB, hnext] at s2
  -- the branch on `is_some`, whatever `res` is
  have s3 : ∀ w : Val, step env bl ⟨σ1.len + 1, 1, (stI.1.set (.tmp rs) w, stI.2), rv⟩ =
      some ⟨if (applyPrim .issome w).truthy then σ1.len + 4 else σ1.len + 3, 0, (stI.1.set (.tmp rs) w, stI.2), rv⟩ := by
    intro w
    have := step_branch (env := env) hx7 (b := σ1.len + 1) (t := σ1.len + 4) (f := σ1.len + 3) (p := eIsSome rs) (by omega)
      (by rw [fbb]) (by rw [fbb]) (stI.1.set (.tmp rs) w, stI.2) rv
    rw [fbb] at this
    simpa [eIsSome, eval, applyUn] using this
  constructor
  · intro hlt
    have hv : applyPrim .iternext (.iter i m) = .none := by simp [applyPrim, hlt]
    rw [hv] at s2
    have s4 := step_stmt (env := env) hx7 (b := σ1.len + 3) (k := 0) (by omega)
      (st := .expr (eUnwrapNothing rs)) (by rw [ftb]; rfl) (stI.1.set (.tmp rs) .none, stI.2) rv
    have hu : (eval env (eUnwrapNothing rs) (stI.1.set (.tmp rs) .none, stI.2)).2 =
        (stI.1.set (.tmp rs) .none, stI.2) := by simp [eUnwrapNothing, eval, applyUn]
    simp only [execB, hu] at s4
    have s5 := step_goto (env := env) hx7 (b := σ1.len + 3) (t := σ1.len + 2) (by omega) (by rw [ftb])
      (stI.1.set (.tmp rs) .none, stI.2) rv
    rw [ftb] at s5
    exact .head s1 (.head s2 (.head (by simpa [applyPrim] using s3 .none) (.head s4 (.head (by simpa using s5) (.refl _)))))
  · intro hlt
    have hv : applyPrim .iternext (.iter i m) = .some i (i + 1) m := by simp [applyPrim, hlt]
    rw [hv] at s2
    have s4 := step_stmt (env := env) hx7 (b := σ1.len + 4) (k := 0) (by omega)
      (st := .assign2 x (.tmp it) (eUnwrap rs)) (by rw [feb]; rfl) (stI.1.set (.tmp rs) (.some i (i + 1) m), stI.2) rv
    have hu : eval env (eUnwrap rs) (stI.1.set (.tmp rs) (.some i (i + 1) m), stI.2) =
        (.some i (i + 1) m, (stI.1.set (.tmp rs) (.some i (i + 1) m), stI.2)) := by
      simp [eUnwrap, eval, applyUn, applyPrim]
    simp only [execB, hu] at s4
    exact .head s1 (.head s2 (.head (by simpa [applyPrim] using s3 (.some i (i + 1) m)) (.head s4 (.refl _))))

/-- `forFrom` is not a surface statement: it is only entered from its loop head -/
theorem SemS.of_forFrom {env : Env} {x : Var} {n m : Int} {body : Stmt} {st st' : S} {o : Outcome}
    (h : SemC env (.forFrom x n m body) st o st') : SemS env (.forFrom x n m body) st o st' :=
  ⟨fun prev b J σ bl il stI rv hu => by simp [userS] at hu, fun _ _ h => (nomatch h), h⟩

theorem for_ctx {x : Var} {e : Expr} {body : Stmt} (hu : userS (.for x e body) = true)
    {il : Bool} (hsc : loopScoped (.for x e body) il = true) :
    (∃ u, x = .user u) ∧ userE e = true ∧ userS body = true ∧
    loopScoped body true = true := by
  simp only [userS, Bool.and_eq_true] at hu
  simp only [loopScoped] at hsc
  refine ⟨?_, hu.1.2, hu.2, hsc⟩
  cases x with
  | user u => exact ⟨u, rfl⟩
  | tmp k => simp [isUser] at hu

theorem semS_forDone {env : Env} {x : Var} {n m : Int} {body : Stmt} {st : S} (hlt : ¬ n < m) :
    SemS env (.forFrom x n m body) st .normal st := by
  refine .of_forFrom ?_
  intro x' i m' body' heq e prev b J σ bl il stI rv hu hsc hJ hb ho hx hag htr hit
  cases heq
  rw [build_for_eq] at hx ⊢
  have L := for_setup (env := env) x e body b J σ hb ho hx
  have hst := (tpl_iter (env := env) L.x7 (forS7_tpl x e hb ho) stI rv n m hit).1 hlt
  exact ⟨(stI.1.set (.tmp (σ.nextTmp + 1)) .none, stI.2), (set_tmp_agreeU _ _ _).trans hag, htr,
    KeepT.set_tmp _ _ _ (Nat.le_succ _), _, L.fin, by rw [L.z]; exact hst⟩

theorem semS_for {env : Env} {x : Var} {e : Expr} {body : Stmt} {st s1 s2 : S} {n m : Int} {o : Outcome}
    (hev : eval env e st = (.iter n m, s1)) (ihf : SemS env (.forFrom x n m body) s1 o s2) :
    SemS env (.for x e body) st o s2 := by
  refine .of_plain trivial ?_
  intro prev b J σ bl il stI rv hu hsc hJ hb ho hx hag htr
  obtain ⟨⟨u, rfl⟩, hue, _, _⟩ := for_ctx hu hsc
  have hx0 := hx
  rw [build_for_eq] at hx ⊢
  have hx7 := (for_setup (env := env) (.user u) e body b J σ hb ho hx).x7
  have g1 := forS1_built e hb ho
  have g1lt := g1.lt
  have T := forS7_tpl (.user u) e hb ho
  have hx1 : Ext (forS1 e b σ) bl := hx7.of_le (by rw [T.len]; omega) fun i hi => by
    by_cases h : i = (forA e b σ).2.1
    · subst h; exact Or.inr ⟨g1.opn, by rw [T.jump]; exact List.prefix_refl _⟩
    · exact Or.inl (T.frame i hi h)
  obtain ⟨s2c, n0, hev2, hag2, htm2, hl, hst⟩ := expr_then (σ := (freshTmp (freshTmp σ).2).2)
    (fun r => .assign (.tmp σ.nextTmp) (.un (.prim .makeiter) r)) hue hb ho hx1 hag htr hev rv
  have hmk : eval env (.un (.prim .makeiter) (bld e .val b (freshTmp (freshTmp σ).2).2).1) s2c =
      (.iter n m, (s2c.1, s1.2)) := by simp only [eval, hev2, applyUn, applyPrim]
  simp only [execB, hmk] at hst
  -- the jump to the loop head
  have h2 := step_goto (env := env) hx7 (b := (forA e b σ).2.1) (t := (forS1 e b σ).len)
    (by rw [T.len]; omega) (by rw [T.jump]) (s2c.1.set (.tmp σ.nextTmp) (.iter n m), s1.2) rv
  rw [T.jump] at h2
  have hl' : ((forS1 e b σ).blk (forA e b σ).2.1).stmts.length = n0 + 1 := hl
  simp only [hl'] at h2
  have hC := ihf.2.2 (.user u) n m body rfl e prev b J σ bl il (s2c.1.set (.tmp σ.nextTmp) (.iter n m), s1.2) rv
    hu hsc hJ hb ho hx0 ((set_tmp_agreeU _ _ _).trans hag2) rfl (by simp)
  rw [build_for_eq] at hC
  exact PostS.prefix (hst.trans (Steps.single h2)) rfl
    (KeepT.trans (KeepT.mono htm2 (Nat.le_add_right _ 2)) (.set_tmp _ _ _ (Nat.le_refl _)) (Nat.le_refl _)) (Nat.le_refl _) hC

theorem for_body_agree {stI : Store} {s : Store} (hag : agreeU stI s) (u : String) (i m : Int) (it rs : Nat) :
    agreeU (((stI.set (.tmp rs) (.some i (i + 1) m)).set (.user u) (.int i)).set (.tmp it) (.iter (i + 1) m))
      (s.set (.user u) (.int i)) :=
  (set_tmp_agreeU _ _ _).trans (agreeU_set ((set_tmp_agreeU _ _ _).trans hag) _ _)

theorem for_body_tmps (stI : Store) (u : String) (i m : Int) (it : Nat) (k : Nat) (hk : k < it) :
    (((stI.set (.tmp (it + 1)) (.some i (i + 1) m)).set (.user u) (.int i)).set (.tmp it) (.iter (i + 1) m)) (.tmp k) =
      stI (.tmp k) := by
  rw [set_other _ _ (by intro h; injection h with h; omega), set_other _ _ Var.noConfusion,
    set_other _ _ (by intro h; injection h with h; omega)]

theorem for_iter_body {env : Env} {x : Var} {n m : Int} {body : Stmt} {st s1 : S} {o : Outcome} (hlt : n < m)
    (ihb : SemS env body (st.1.set x (.int n), st.2) o s1) (e : Expr) {b : Nat} (J : Jumps) {σ : BState}
    {bl : List Block} {stI : S} (rv : Option Val) {il : Bool} (hu : userS (.for x e body) = true)
    (hsc : loopScoped (.for x e body) il = true) (hb : b < σ.len) (ho : (σ.blk b).succs = [])
    (hx : Ext (loopFin (forS1 e b σ).len (forRB x e body b J σ)).1 bl) (hag : agreeU stI.1 st.1)
    (htr : stI.2 = st.2) (hit : stI.1 (.tmp σ.nextTmp) = .iter n m) :
    ∃ (b1 pc1 : Nat) (sB : S), Steps env bl ⟨(forS1 e b σ).len, 0, stI, rv⟩ ⟨b1, pc1, sB, rv⟩ ∧
      KeepT σ.nextTmp stI sB ∧ sB.1 (.tmp σ.nextTmp) = .iter (n + 1) m ∧
      LoopPost env bl J (forS1 e b σ).len (forRB x e body b J σ) o ⟨b1, pc1, sB, rv⟩ (σ.nextTmp + 2) s1 := by
  obtain ⟨⟨u, rfl⟩, _, hub, hscb⟩ := for_ctx hu hsc
  have L := for_setup (env := env) (.user u) e body b J σ hb ho hx
  have K := forS7_skel (.user u) e hb ho
  have feb := (forS7_tpl (.user u) e hb ho).bind
  have hst := (tpl_iter (env := env) L.x7 (forS7_tpl (.user u) e hb ho) stI rv n m hit).2 hlt
  have hbody := ihb.1 _ _ (forJ J e b σ) (forS7 (.user u) e b σ) bl true
    (((stI.1.set (.tmp (σ.nextTmp + 1)) (.some n (n + 1) m)).set (.user u) (.int n)).set (.tmp σ.nextTmp)
      (.iter (n + 1) m), stI.2) rv hub hscb
    (fun _ => ⟨⟨_, rfl⟩, ⟨_, rfl⟩⟩) K.bbl K.opn L.xb (for_body_agree hag u n m _ _) htr
  rw [feb] at hbody
  exact ⟨_, _, _, hst, for_body_tmps stI.1 u n m σ.nextTmp, by simp,
    loop_body (J' := forJ J e b σ) rfl rfl rfl L (.refl _) rfl (fun _ _ => rfl)
      (forS7_tmp (.user u) e hb ho) hbody⟩

theorem semS_forX {env : Env} {x : Var} {n m : Int} {body : Stmt} {st s1 : S} {o : Outcome} (hlt : n < m)
    (ihb : SemS env body (st.1.set x (.int n), st.2) o s1) (ho : o = .brk ∨ ∃ r, o = .ret r) :
    SemS env (.forFrom x n m body) st (exitOf o) s1 := by
  refine .of_forFrom ?_
  intro x' i m' body' heq e prev b J σ bl il stI rv hu hsc hJ hb hob hx hag htr hit
  cases heq
  rw [build_for_eq] at hx ⊢
  obtain ⟨b1, pc1, sB, hst, htm, _, hpost⟩ := for_iter_body hlt ihb e J rv hu hsc hb hob hx hag htr hit
  refine PostS.prefix hst rfl htm (Nat.le_add_right _ 2) ?_
  rcases ho with rfl | ⟨r, rfl⟩ <;> exact hpost

theorem semS_forStep {env : Env} {x : Var} {n m : Int} {body : Stmt} {st s1 s2 : S} {o o' : Outcome} (hlt : n < m)
    (ihb : SemS env body (st.1.set x (.int n), st.2) o s1) (ho' : o = .normal ∨ o = .cont)
    (ihf : SemS env (.forFrom x (n + 1) m body) s1 o' s2) : SemS env (.forFrom x n m body) st o' s2 := by
  refine .of_forFrom ?_
  intro x' i m' body' heq e prev b J σ bl il stI rv hu hsc hJ hb ho hx hag htr hit
  cases heq
  obtain ⟨b1, pc1, sB, hst, htm, hit1, hpost⟩ :=
    for_iter_body hlt ihb e J rv hu hsc hb ho (build_for_eq x e body prev b J σ ▸ hx) hag htr hit
  have hhead : AtHead env bl (forS1 e b σ).len ⟨b1, pc1, sB, rv⟩ (σ.nextTmp + 2) s1 := by
    rcases ho' with rfl | rfl <;> exact hpost
  obtain ⟨stc, q1, q2, q5, q4⟩ := hhead
  exact PostS.prefix (hst.trans q4) rfl (KeepT.trans htm q5 (Nat.le_add_right _ 2)) (Nat.le_refl _)
    (ihf.2.2 x (n + 1) m body rfl e prev b J σ bl il stc rv hu hsc hJ hb ho hx q1 q2
      (by rw [q5 _ (by omega)]; exact hit1))

theorem sem_stmt {env : Env} {s : Stmt} {st st' : S} {o : Outcome} (h : Exec env s st o st') :
    SemS env s st o st' := by
  induction h with
  | nil => exact semS_nil env _
  | consN _ _ ih1 ih2 => exact semS_consN ih1 ih2
  | consJ _ hne ih => exact semS_consJ ih hne
  | assign hev => exact semS_assign hev
  | aug hev => exact semS_aug hev
  | expr hev => exact semS_expr hev
  | pass => exact semS_pass env _
  | brk => exact semS_brk env _
  | cont => exact semS_cont env _
  | ret hev => exact semS_ret hev
  | ret0 => exact semS_ret0 env _
  | iteT hev hv _ ih => exact semS_ite hev (by rw [hv]; exact ih)
  | iteF hev hv _ ih => exact semS_ite hev (by rw [hv]; exact ih)
  | whileF hev hv => exact semS_whileF hev hv
  | whileT hev hv _ ho _ ihb ihw => exact semS_whileT hev hv ihb ho ihw
  | whileB hev hv _ ihb => exact semS_whileX hev hv ihb (.inl rfl)
  | whileR hev hv _ ihb => exact semS_whileX hev hv ihb (.inr ⟨_, rfl⟩)
  | «for» hev _ ih => exact semS_for hev ih
  | forDone hlt => exact semS_forDone hlt
  | forStep hlt _ ho _ ihb ihf => exact semS_forStep hlt ihb ho ihf
  | forB hlt _ ihb => exact semS_forX hlt ihb (.inl rfl)
  | forR hlt _ ihb => exact semS_forX hlt ihb (.inr ⟨_, rfl⟩)

end GuppyVerif.Builder
