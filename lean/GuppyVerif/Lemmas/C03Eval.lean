import GuppyVerif.Spec.C03
/-! # C03: facts about Python's expression semantics `eval` (which variables an evaluation can change, what it depends on,
    when it is pure), about stores, and about the builder's syntactic predicates. -/
namespace GuppyVerif.Builder
open GuppyVerif.Surface

/-- stores that agree on user variables -/
def agreeU (a b : Store) : Prop := ∀ x, a (.user x) = b (.user x)

theorem agreeU.refl (a : Store) : agreeU a a := fun _ => rfl
theorem agreeU.symm {a b : Store} (h : agreeU a b) : agreeU b a := fun x => (h x).symm
theorem agreeU.trans {a b c : Store} (h : agreeU a b) (h' : agreeU b c) : agreeU a c :=
  fun x => (h x).trans (h' x)

theorem agreeU_set {a b : Store} (h : agreeU a b) (x : Var) (v : Val) : agreeU (a.set x v) (b.set x v) := by
  intro y; simp only [Store.set]; split <;> simp_all [h y]

theorem set_tmp_agreeU (a : Store) (k : Nat) (v : Val) : agreeU (a.set (.tmp k) v) a := by
  intro y; simp [Store.set]

@[simp] theorem set_same (a : Store) (x : Var) (v : Val) : (a.set x v) x = v := by simp [Store.set]
theorem set_other (a : Store) {x y : Var} (v : Val) (h : y ≠ x) : (a.set x v) y = a y := by simp [Store.set, h]

/-- the temporaries below `nt` are in `s'` what they were in `s` (the temporaries clause of `ValPost`, `BrPost`, `PostS`, spelled
    out there): an operand stored in a temporary must survive the code built after it -/
abbrev KeepT (nt : Nat) (s s' : S) : Prop := ∀ k, k < nt → s'.1 (.tmp k) = s.1 (.tmp k)

theorem KeepT.refl (nt : Nat) (s : S) : KeepT nt s s := fun _ _ => rfl
theorem KeepT.mono {nt nt' : Nat} {s s' : S} (h : KeepT nt s s') (hle : nt' ≤ nt) : KeepT nt' s s' :=
  fun k hk => h k (Nat.lt_of_lt_of_le hk hle)
theorem KeepT.trans {nt nt' : Nat} {s s1 s2 : S} (h1 : KeepT nt s s1) (h2 : KeepT nt' s1 s2) (hle : nt ≤ nt') :
    KeepT nt s s2 := fun k hk => (h2 k (Nat.lt_of_lt_of_le hk hle)).trans (h1 k hk)
theorem KeepT.set_tmp {nt k : Nat} (s : S) (v : Val) (T : Trace) (hk : nt ≤ k) : KeepT nt s (s.1.set (.tmp k) v, T) :=
  fun j hj => set_other s.1 (x := .tmp k) (y := .tmp j) v (by intro h; injection h with h; omega)
theorem KeepT.set_user (nt : Nat) (s : S) (u : String) (v : Val) (T : Trace) : KeepT nt s (s.1.set (.user u) v, T) :=
  fun j _ => set_other s.1 (x := .user u) (y := .tmp j) v Var.noConfusion

theorem applyUn_store (env : Env) (o : UnOp) (v : Val) (s : S) : (applyUn env o v s).2.1 = s.1 := by
  cases o <;> rfl
theorem applyBi_store (env : Env) (o : BiOp) (a b : Val) (s : S) : (applyBi env o a b s).2.1 = s.1 := by
  cases o <;> rfl

theorem eval_writes (env : Env) (e : Expr) : ∀ (s : S) (x : Var), x ∉ writes e → (eval env e s).2.1 x = s.1 x := by
  induction e with
  | var _ | num _ | bool _ | call0 _ => intro s x _; rfl
  | un o e ih => intro s x h; simp only [eval, applyUn_store]; exact ih s x h
  | bi o l r ihl ihr =>
    intro s x h; simp only [writes, List.mem_append, not_or] at h
    simp only [eval, applyBi_store]; rw [ihr _ x h.2, ihl s x h.1]
  | cmp2 o1 o2 l m r ihl ihm ihr =>
    intro s x h; simp only [writes, List.mem_append, not_or] at h
    simp only [eval]; split <;> simp only [ihr _ x h.2, ihm _ x h.1.2, ihl s x h.1.1]
  | and l r ihl ihr | or l r ihl ihr =>
    intro s x h; simp only [writes, List.mem_append, not_or] at h
    simp only [eval]; split <;> simp only [ihr _ x h.2, ihl s x h.1]
  | ite t b o iht ihb iho =>
    intro s x h; simp only [writes, List.mem_append, not_or] at h
    simp only [eval]; split <;> simp only [ihb _ x h.1.2, iho _ x h.2, iht s x h.1.1]
  | walrus y e ih =>
    intro s x h; simp only [writes, List.mem_cons, not_or] at h
    simp only [eval]; rw [set_other _ _ h.1]; exact ih s x h.2

theorem writes_nil_of_not_lifts (e : Expr) (h : lifts e = false) : writes e = [] := by
  induction e with
  | un o e ih => exact ih h
  | bi o l r ihl ihr => simp only [lifts, Bool.or_eq_false_iff] at h; simp [writes, ihl h.1, ihr h.2]
  | _ => first | rfl | simp [lifts] at h

theorem eval_store_of_not_lifts (env : Env) (e : Expr) (h : lifts e = false) (s : S) :
    (eval env e s).2.1 = s.1 := by
  funext x; apply eval_writes; simp [writes_nil_of_not_lifts e h]

theorem applyUn_pure (env : Env) (o : UnOp) (hc : (match o with | .call1 _ => true | _ => false) = false)
    (v : Val) (s s' : S) : applyUn env o v s = ((applyUn env o v s').1, s) := by
  cases o <;> simp_all [applyUn]
theorem applyBi_pure (env : Env) (o : BiOp) (hc : (match o with | .call2 _ => true | _ => false) = false)
    (v w : Val) (s s' : S) : applyBi env o v w s = ((applyBi env o v w s').1, s) := by
  cases o <;> simp_all [applyBi]

theorem eval_trace_of_no_call (env : Env) (e : Expr) (hc : anyCall e = false) :
    ∀ s : S, (eval env e s).2.2 = s.2 := by
  induction e with
  | var _ | num _ | bool _ => intro s; rfl
  | call0 f => simp [anyCall] at hc
  | un o e ih =>
    intro s; simp only [anyCall, Bool.or_eq_false_iff] at hc
    simp only [eval]; rw [applyUn_pure env o hc.1 _ _ (eval env e s).2]; exact ih hc.2 s
  | bi o l r ihl ihr =>
    intro s; simp only [anyCall, Bool.or_eq_false_iff] at hc
    simp only [eval]; rw [applyBi_pure env o hc.1.1 _ _ _ (eval env r (eval env l s).2).2]
    simp only; rw [ihr hc.2, ihl hc.1.2]
  | cmp2 o1 o2 l m r ihl ihm ihr =>
    intro s; simp only [anyCall, Bool.or_eq_false_iff] at hc
    simp only [eval]; split <;> simp only [ihr hc.2, ihm hc.1.2, ihl hc.1.1]
  | and l r ihl ihr | or l r ihl ihr =>
    intro s; simp only [anyCall, Bool.or_eq_false_iff] at hc
    simp only [eval]; split <;> simp only [ihr hc.2, ihl hc.1]
  | ite t b o iht ihb iho =>
    intro s; simp only [anyCall, Bool.or_eq_false_iff] at hc
    simp only [eval]; split <;> simp only [ihb hc.1.2, iho hc.2, iht hc.1.1]
  | walrus y e ih => intro s; simp only [anyCall] at hc; simp only [eval]; exact ih hc s

theorem user_writes (e : Expr) (h : userE e = true) (k : Nat) : Var.tmp k ∉ writes e := by
  induction e with
  | var _ | num _ | bool _ | call0 _ => exact List.not_mem_nil
  | un o e ih => exact ih h
  | bi o l r ihl ihr | and l r ihl ihr | or l r ihl ihr =>
    simp only [userE, Bool.and_eq_true] at h
    simp only [writes, List.mem_append, not_or]; exact ⟨ihl h.1, ihr h.2⟩
  | cmp2 o1 o2 l m r ihl ihm ihr | ite l m r ihl ihm ihr =>
    simp only [userE, Bool.and_eq_true] at h
    simp only [writes, List.mem_append, not_or]; exact ⟨⟨ihl h.1.1, ihm h.1.2⟩, ihr h.2⟩
  | walrus y e ih =>
    cases y with
    | user s => simp only [writes, List.mem_cons, not_or]; exact ⟨Var.noConfusion, ih h⟩
    | tmp n => simp [userE] at h

theorem user_writes' (e : Expr) (h : userE e = true) (k : Nat) : Var.tmp k ∉ writes e := user_writes e h k

theorem vars_user (e : Expr) (h : userE e = true) : ∀ x ∈ vars e, ∃ u, x = .user u := by
  induction e with
  | var y => cases y <;> simp_all [vars, userE]
  | num _ | bool _ | call0 _ => exact fun _ hx => nomatch hx
  | un o e ih => exact ih h
  | bi o l r ihl ihr | and l r ihl ihr | or l r ihl ihr =>
    simp only [userE, Bool.and_eq_true] at h
    intro x hx; simp only [vars, List.mem_append] at hx
    exact hx.elim (ihl h.1 x) (ihr h.2 x)
  | cmp2 o1 o2 l m r ihl ihm ihr | ite l m r ihl ihm ihr =>
    simp only [userE, Bool.and_eq_true] at h
    intro x hx; simp only [vars, List.mem_append] at hx
    exact hx.elim (·.elim (ihl h.1.1 x) (ihm h.1.2 x)) (ihr h.2 x)
  | walrus y e ih =>
    cases y with
    | user u =>
      intro x hx; simp only [vars, List.mem_cons] at hx
      exact hx.elim (fun hx => ⟨u, hx⟩) (ih h x)
    | tmp n => simp [userE] at h

theorem eval_tmp (env : Env) (e : Expr) (h : userE e = true) (s : S) (k : Nat) :
    (eval env e s).2.1 (.tmp k) = s.1 (.tmp k) := eval_writes env e s _ (user_writes e h k)

/-- what the results `r`, `r'` of two runs from `s`, `s'` have in common; the traces agree if those of `s`, `s'` did, so that
    `eval_agree` serves both with equal start traces and with a call-free expression -/
structure Agrees (P : Var → Prop) (s s' : S) (r r' : Val × S) : Prop where
  val : r.1 = r'.1
  store : ∀ x, P x → r.2.1 x = r'.2.1 x
  trace : s.2 = s'.2 → r.2.2 = r'.2.2

theorem Agrees.seq {P : Var → Prop} {s s' : S} {a a' b b' : Val × S} (h : Agrees P s s' a a')
    (h' : Agrees P a.2 a'.2 b b') : Agrees P s s' b b' := ⟨h'.val, h'.store, h'.trace ∘ h.trace⟩

theorem Agrees.map {P : Var → Prop} {s s' : S} {a a' : Val × S} (h : Agrees P s s' a a') (f : Val → Val) :
    Agrees P s s' (f a.1, a.2) (f a'.1, a'.2) := ⟨congrArg f h.val, h.store, h.trace⟩

theorem applyUn_agrees (env : Env) (o : UnOp) {P : Var → Prop} {s s' : S} {a a' : Val × S} (h : Agrees P s s' a a')
    (hc : s.2 = s'.2 ∨ (match o with | .call1 _ => true | _ => false) = false) :
    Agrees P s s' (applyUn env o a.1 a.2) (applyUn env o a'.1 a'.2) := by
  obtain ⟨v, t⟩ := a
  obtain ⟨v', t'⟩ := a'
  obtain ⟨h1, h2, h3⟩ := h
  cases h1
  cases o with
  | call1 f =>
    have ht : t.2 = t'.2 := h3 (hc.resolve_right (by simp))
    simp only [applyUn, callExt, ht]; exact ⟨rfl, h2, fun _ => rfl⟩
  | _ => exact ⟨rfl, h2, h3⟩

theorem applyBi_agrees (env : Env) (o : BiOp) {P : Var → Prop} {s s' : S} {a a' b b' : Val × S}
    (ha : Agrees P s s' a a') (hb : Agrees P a.2 a'.2 b b')
    (hc : s.2 = s'.2 ∨ (match o with | .call2 _ => true | _ => false) = false) :
    Agrees P s s' (applyBi env o a.1 b.1 b.2) (applyBi env o a'.1 b'.1 b'.2) := by
  obtain ⟨w, t⟩ := b
  obtain ⟨w', t'⟩ := b'
  obtain ⟨h1, h2, h3⟩ := ha.seq hb
  cases h1
  rw [ha.val]
  cases o with
  | call2 f =>
    have ht : t.2 = t'.2 := h3 (hc.resolve_right (by simp))
    simp only [applyBi, callExt, ht]; exact ⟨rfl, h2, fun _ => rfl⟩
  | _ => exact ⟨rfl, h2, h3⟩

/-- `P` everything: independence of the trace; the user variables: surface expressions; `vars e`: residuals -/
theorem eval_agree (env : Env) (P : Var → Prop) (e : Expr) (hP : ∀ x ∈ vars e, P x) :
    ∀ (s s' : S), (∀ x, P x → s.1 x = s'.1 x) → (s.2 = s'.2 ∨ anyCall e = false) →
      Agrees P s s' (eval env e s) (eval env e s') := by
  induction e with
  | var y => exact fun s s' hs _ => ⟨hs y (hP y (.head _)), hs, id⟩
  | num _ | bool _ => exact fun s s' hs _ => ⟨rfl, hs, id⟩
  | call0 f =>
    intro s s' hs hT
    have hT : s.2 = s'.2 := hT.resolve_right (by simp [anyCall])
    refine ⟨?_, hs, fun _ => ?_⟩ <;> simp only [eval, callExt, hT]
  | un o e ih =>
    intro s s' hs hT
    simp only [anyCall, Bool.or_eq_false_iff] at hT
    exact applyUn_agrees env o (ih hP s s' hs (hT.imp_right (·.2))) (hT.imp_right (·.1))
  | bi o l r ihl ihr =>
    intro s s' hs hT
    simp only [anyCall, Bool.or_eq_false_iff] at hT
    simp only [vars, List.mem_append] at hP
    have hl := ihl (fun x hx => hP x (.inl hx)) s s' hs (hT.imp_right (·.1.2))
    exact applyBi_agrees env o hl (ihr (fun x hx => hP x (.inr hx)) _ _ hl.store (hT.imp hl.trace (·.2)))
      (hT.imp_right (·.1.1))
  | cmp2 o1 o2 l m r ihl ihm ihr =>
    intro s s' hs hT
    simp only [anyCall, Bool.or_eq_false_iff] at hT
    simp only [vars, List.mem_append] at hP
    have hl := ihl (fun x hx => hP x (.inl (.inl hx))) s s' hs (hT.imp_right (·.1.1))
    have hm := hl.seq (ihm (fun x hx => hP x (.inl (.inr hx))) _ _ hl.store (hT.imp hl.trace (·.1.2)))
    have hr := ihr (fun x hx => hP x (.inr hx)) _ _ hm.store (hT.imp hm.trace (·.2))
    simp only [eval, hl.val, hm.val]
    split
    · exact hm.seq (hr.map fun v => .bool (compare o2 (eval env m (eval env l s').2).1 v))
    · exact hm.map fun _ => .bool false
  | and l r ihl ihr =>
    intro s s' hs hT
    simp only [anyCall, Bool.or_eq_false_iff] at hT
    simp only [vars, List.mem_append] at hP
    have hl := ihl (fun x hx => hP x (.inl hx)) s s' hs (hT.imp_right (·.1))
    have hr := ihr (fun x hx => hP x (.inr hx)) _ _ hl.store (hT.imp hl.trace (·.2))
    simp only [eval, hl.val]
    split
    · exact hl.seq (hr.map fun v => .bool v.truthy)
    · exact hl.map fun _ => .bool false
  | or l r ihl ihr =>
    intro s s' hs hT
    simp only [anyCall, Bool.or_eq_false_iff] at hT
    simp only [vars, List.mem_append] at hP
    have hl := ihl (fun x hx => hP x (.inl hx)) s s' hs (hT.imp_right (·.1))
    have hr := ihr (fun x hx => hP x (.inr hx)) _ _ hl.store (hT.imp hl.trace (·.2))
    simp only [eval, hl.val]
    split
    · exact hl.map fun _ => .bool true
    · exact hl.seq (hr.map fun v => .bool v.truthy)
  | ite t x y iht ihx ihy =>
    intro s s' hs hT
    simp only [anyCall, Bool.or_eq_false_iff] at hT
    simp only [vars, List.mem_append] at hP
    have ht := iht (fun x hx => hP x (.inl (.inl hx))) s s' hs (hT.imp_right (·.1.1))
    simp only [eval, ht.val]
    split
    · exact ht.seq (ihx (fun x hx => hP x (.inl (.inr hx))) _ _ ht.store (hT.imp ht.trace (·.1.2)))
    · exact ht.seq (ihy (fun x hx => hP x (.inr hx)) _ _ ht.store (hT.imp ht.trace (·.2)))
  | walrus y e ih =>
    intro s s' hs hT
    simp only [vars, List.mem_cons] at hP
    have h := ih (fun x hx => hP x (.inr hx)) s s' hs hT
    refine ⟨h.val, fun x hx => ?_, h.trace⟩
    simp only [eval, Store.set, h.val]; split
    · rfl
    · exact h.store x hx

theorem eval_from_agree (env : Env) (e : Expr) (hu : userE e = true) (sA s1 : S) (htr : sA.2 = s1.2)
    (hag : agreeU sA.1 s1.1) :
    (eval env e sA).1 = (eval env e s1).1 ∧ (eval env e sA).2.2 = (eval env e s1).2.2 ∧
    agreeU (eval env e sA).2.1 (eval env e s1).2.1 :=
  have h := eval_agree env (fun x => ∃ u, x = .user u) e (vars_user e hu) sA s1
    (fun _ ⟨u, hx⟩ => hx ▸ hag u) (.inl htr)
  ⟨h.val, h.trace htr, fun u => h.store _ ⟨u, rfl⟩⟩

/-- a lift-free expression (a residual; it may contain calls) evaluated in two states with the same trace whose
    stores agree on its variables: same value, same resulting trace, store untouched -/
theorem eval_resid_congr (env : Env) (e : Expr) (hl : lifts e = false) :
    ∀ (s s' : S), (∀ x ∈ vars e, s.1 x = s'.1 x) → s.2 = s'.2 →
      eval env e s = ((eval env e s').1, (s.1, (eval env e s').2.2)) := fun s s' h ht =>
  have ha := eval_agree env (· ∈ vars e) e (fun _ hx => hx) s s' h (.inl ht)
  Prod.ext ha.val (Prod.ext (eval_store_of_not_lifts env e hl s) (ha.trace ht))

theorem eval_nocall_indep (env : Env) (e : Expr) (hc : anyCall e = false) :
    ∀ (st : Store) (T T' : Trace), (eval env e (st, T)).1 = (eval env e (st, T')).1 ∧
      (eval env e (st, T)).2.1 = (eval env e (st, T')).2.1 := fun st T T' =>
  have h := eval_agree env (fun _ => True) e (fun _ _ => trivial) (st, T) (st, T') (fun _ _ => rfl) (.inr hc)
  ⟨h.val, funext fun x => h.store x trivial⟩

theorem eval_pure_state (env : Env) (e : Expr) (hl : lifts e = false) (hc : anyCall e = false) (s : S) :
    (eval env e s).2 = s :=
  Prod.ext (eval_store_of_not_lifts env e hl s) (eval_trace_of_no_call env e hc s)

theorem eval_pure (env : Env) (e : Expr) (hl : lifts e = false) (hc : anyCall e = false) (s s' : S)
    (h : ∀ x ∈ vars e, s.1 x = s'.1 x) : eval env e s = ((eval env e s').1, s) :=
  Prod.ext (eval_agree env (· ∈ vars e) e (fun _ hx => hx) s s' h (.inr hc)).val (eval_pure_state env e hl hc s)

theorem mayEff_nocall : ∀ (e : Expr), mayEff e = false → anyCall e = false
  | .var _, _ | .num _, _ | .bool _, _ => rfl
  | .call0 _, h => by simp [mayEff] at h
  | .un o e, h => by
    simp only [mayEff, Bool.or_eq_false_iff] at h
    have := mayEff_nocall e h.2
    cases o <;> simp_all [anyCall]
  | .bi _ _ _, h => by simp [mayEff] at h
  | .cmp2 .., h => by simp [mayEff] at h
  | .and l r, h => by
    simp only [mayEff, Bool.or_eq_false_iff] at h
    simp [anyCall, mayEff_nocall l h.1, mayEff_nocall r h.2]
  | .or l r, h => by
    simp only [mayEff, Bool.or_eq_false_iff] at h
    simp [anyCall, mayEff_nocall l h.1, mayEff_nocall r h.2]
  | .ite t b o, h => by
    simp only [mayEff, Bool.or_eq_false_iff] at h
    simp [anyCall, mayEff_nocall t h.1.1, mayEff_nocall b h.1.2, mayEff_nocall o h.2]
  | .walrus _ e, h => by
    simp only [mayEff] at h
    simp [anyCall, mayEff_nocall e h]

theorem disjoint_spec {a b : List Var} (h : disjoint a b = true) : ∀ x ∈ a, x ∉ b := by
  intro x hx; simp only [disjoint, List.all_eq_true] at h; simpa using h x hx

theorem atomic_nocall {e : Expr} (h : atomicSyn e = true) : anyCall e = false ∧ writes e = [] ∧ lifts e = false := by
  cases e <;> simp_all [atomicSyn, anyCall, writes, lifts]

theorem stable_atomic {e r : Expr} (h : stable e r = true) : atomicSyn e = true := by
  cases e <;> simp_all [stable, atomicSyn]

@[simp] theorem truthy_bool (b : Bool) : (Val.bool b).truthy = b := rfl

theorem eval_tmpvar (env : Env) (k : Nat) (s : S) : eval env (.var (.tmp k)) s = (s.1 (.tmp k), s) := rfl

theorem applyUn_swap (env : Env) (o : UnOp) (v : Val) (a b : Store) (tr : Trace) :
    applyUn env o v (a, tr) = ((applyUn env o v (b, tr)).1, (a, (applyUn env o v (b, tr)).2.2)) := by
  cases o <;> simp [applyUn, callExt]

theorem applyBi_swap (env : Env) (o : BiOp) (v w : Val) (a b : Store) (tr : Trace) :
    applyBi env o v w (a, tr) = ((applyBi env o v w (b, tr)).1, (a, (applyBi env o v w (b, tr)).2.2)) := by
  cases o <;> simp [applyBi, callExt]

theorem eval_bi_of {env : Env} (o : BiOp) {l' r' : Expr} {s X Y : S} {vl vr : Val}
    (h1 : eval env l' s = (vl, X)) (h2 : eval env r' X = (vr, Y)) :
    eval env (.bi o l' r') s = applyBi env o vl vr Y := by
  simp only [eval, h1, h2]

theorem eval_cmp (env : Env) (o : CmpOp) (l r : Expr) (s : S) : eval env (.bi (.cmp o) l r) s =
    (.bool (compare o (eval env l s).1 (eval env r (eval env l s).2).1), (eval env r (eval env l s).2).2) := rfl

theorem eval_cmp2 (env : Env) (o1 o2 : CmpOp) (l m r : Expr) (s : S) : eval env (.cmp2 o1 o2 l m r) s =
    if compare o1 (eval env l s).1 (eval env m (eval env l s).2).1 then
      (.bool (compare o2 (eval env m (eval env l s).2).1 (eval env r (eval env m (eval env l s).2).2).1),
        (eval env r (eval env m (eval env l s).2).2).2)
    else (.bool false, (eval env m (eval env l s).2).2) := rfl

theorem eval_ite (env : Env) (c x y : Expr) (s : S) : eval env (.ite c x y) s =
    if (eval env c s).1.truthy then eval env x (eval env c s).2 else eval env y (eval env c s).2 := rfl

theorem eval_atomic (env : Env) {e : Expr} (h : atomicSyn e = true) (s s' : S) (hs : s.1 = s'.1) :
    eval env e s = ((eval env e s').1, s) := by
  cases e <;> simp_all [atomicSyn, eval]

theorem eval_arith_tmp (env : Env) (op : BinOp) (k : Nat) (r : Expr) (s : S) :
    eval env (.bi (.arith op) (.var (.tmp k)) r) s = (arith op (s.1 (.tmp k)) (eval env r s).1, (eval env r s).2) := rfl

theorem isTmpVar_spec {e : Expr} (h : isTmpVar e = true) : ∃ k, e = .var (.tmp k) := by
  cases e with
  | var x => cases x with
    | tmp k => exact ⟨k, rfl⟩
    | user u => simp [isTmpVar] at h
  | _ => simp [isTmpVar] at h

end GuppyVerif.Builder
