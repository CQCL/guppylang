import GuppyVerif.Lemmas.Basic
import GuppyVerif.Spec.C12
/-! Terms and substitutions (instantiation, erasure of flags), association lists, solutions, and what the occurs check
    decides: reachability of a variable along the bindings. -/
namespace GuppyVerif.Unify

theorem Tm.induct {P : Tm → Prop} (var : ∀ v, P (.var v)) (atom : ∀ a, P (.atom a))
    (node : ∀ h as, (∀ a ∈ as, P a) → P (.node h as)) (targ : ∀ t, P t → P (.targ t))
    (carg : ∀ c, P c → P (.carg c)) : ∀ t, P t := by
  intro t
  refine Tm.rec (motive_1 := P) (motive_2 := fun as => ∀ a ∈ as, P a) var atom ?_ targ carg ?_ ?_ t
  · intro h as ih; exact node h as ih
  · intro a ha; cases ha
  · intro a as iha ihas b hb
    cases hb with
    | head => exact iha
    | tail _ h => exact ihas b h

theorem varsList_eq (as : List Tm) : varsList as = as.flatMap Tm.vars := by
  induction as with
  | nil => simp [varsList]
  | cons a as ih => simp [varsList, ih]

theorem instList_eq (θ : V → Tm) (as : List Tm) : instList θ as = as.map (inst θ) := by
  induction as with
  | nil => simp [instList]
  | cons a as ih => simp [instList, ih]

theorem eraseList_eq (as : List Tm) : eraseList as = as.map erase := by
  induction as with
  | nil => simp [eraseList]
  | cons a as ih => simp [eraseList, ih]

theorem mem_varsList {y : V} {as : List Tm} : y ∈ varsList as ↔ ∃ a ∈ as, y ∈ a.vars := by
  simp [varsList_eq]

theorem size_le_sizeList {a : Tm} {as : List Tm} (h : a ∈ as) : a.size ≤ sizeList as := by
  induction as with
  | nil => cases h
  | cons b as ih =>
    simp only [sizeList]
    cases h with
    | head => omega
    | tail _ h => have := ih h; omega

theorem lookup_cons (v w : V) (t : Tm) (σ : Subst) :
    lookup ((v, t) :: σ) w = if v = w then some t else lookup σ w := rfl

theorem lookup_cons_some {σ : Subst} {v x : V} {t w : Tm} (h : lookup ((v, t) :: σ) x = some w) :
    (x = v ∧ w = t) ∨ lookup σ x = some w := by
  rw [lookup_cons] at h
  by_cases e : v = x
  · rw [if_pos e] at h; cases h; exact .inl ⟨e.symm, rfl⟩
  · rw [if_neg e] at h; exact .inr h

theorem lookup_mem {σ : Subst} {v : V} {u : Tm} (h : lookup σ v = some u) : (v, u) ∈ σ := by
  induction σ with
  | nil => cases h
  | cons p σ ih =>
    rcases lookup_cons_some (v := p.1) (t := p.2) h with ⟨rfl, rfl⟩ | h
    · exact List.mem_cons_self ..
    · exact List.mem_cons_of_mem _ (ih h)

theorem mem_keys_of_bound {σ : Subst} (v : V) (hv : lookup σ v ≠ none) : v ∈ σ.map Prod.fst := by
  obtain ⟨u, hl⟩ := Option.ne_none_iff_exists'.mp hv
  exact List.mem_map.mpr ⟨(v, u), lookup_mem hl, rfl⟩

theorem lookup_singleton {v x : V} {t u : Tm} (h : lookup [(v, t)] x = some u) : x = v ∧ u = t :=
  (lookup_cons_some h).resolve_right nofun

theorem lookup_map_snd (g : Tm → Tm) : ∀ (l : Subst) (v : V),
    lookup (l.map fun p => (p.1, g p.2)) v = (lookup l v).map g := by
  intro l v
  induction l with
  | nil => rfl
  | cons p l ih =>
    obtain ⟨w, t⟩ := p
    simp only [List.map_cons, lookup_cons]
    split
    · rfl
    · exact ih

theorem lookup_filter (P : V → Bool) : ∀ (l : Subst) (v : V),
    lookup (l.filter fun p => P p.1) v = if P v then lookup l v else none := by
  intro l v
  induction l with
  | nil => simp [lookup]
  | cons p l ih =>
    obtain ⟨w, t⟩ := p
    by_cases hw : P w = true <;> by_cases e : w = v <;> simp_all [lookup_cons]

theorem lookup_append (s σ : Subst) (v : V) : lookup (s ++ σ) v = (lookup s v).or (lookup σ v) := by
  induction s with
  | nil => simp [lookup]
  | cons p s ih => obtain ⟨w, t⟩ := p; simp only [List.cons_append, lookup_cons]; split <;> simp [ih]

theorem lookup_append_elim {P : V → Tm → Prop} {s σ : Subst} (h1 : ∀ v u, lookup s v = some u → P v u)
    (h2 : ∀ v u, lookup σ v = some u → P v u) : ∀ v u, lookup (s ++ σ) v = some u → P v u := by
  intro v u hv
  rw [lookup_append] at hv
  cases hs : lookup s v with
  | some w => rw [hs] at hv; exact Option.some.inj hv ▸ h1 v w hs
  | none => rw [hs] at hv; exact h2 v u hv

theorem asFun_of_some {σ : Subst} {v : V} {u : Tm} (h : lookup σ v = some u) : asFun σ v = u := by simp [asFun, h]

theorem asFun_of_none {σ : Subst} {v : V} (h : lookup σ v = none) : asFun σ v = .var v := by simp [asFun, h]

theorem asFun_closed_iff {σ : Subst} {f : V} : (asFun σ f).vars = [] ↔ ∃ u, lookup σ f = some u ∧ u.vars = [] := by
  unfold asFun
  cases lookup σ f <;> simp [Tm.vars]

theorem apply_var (σ : Subst) (v : V) : apply σ (.var v) = asFun σ v := by simp [apply, inst]

/-- `fh`: what `f` does to the head of a node, given the head and the arguments as written -/
structure Hom (f : Tm → Tm) (fh : Head → List Tm → Head) : Prop where
  node : ∀ h as, f (.node h as) = .node (fh h as) (as.map f)
  targ : ∀ t, f (.targ t) = .targ (f t)
  carg : ∀ c, f (.carg c) = .carg (f c)

theorem Hom.ext {f g : Tm → Tm} {fh gh : Head → List Tm → Head} (hf : Hom f fh) (hg : Hom g gh)
    (ha : ∀ a, f (.atom a) = g (.atom a)) (hh : ∀ h as, fh h as = gh h as) :
    ∀ t : Tm, (∀ v ∈ t.vars, f (.var v) = g (.var v)) → f t = g t := by
  intro t
  induction t using Tm.induct with
  | var v => exact fun h => h v (by simp [Tm.vars])
  | atom a => exact fun _ => ha a
  | node h as ih =>
    intro hv
    rw [hf.node, hg.node, hh]
    exact congrArg _ (List.map_congr_left fun a ha =>
      ih a ha fun v hva => hv v (by simp only [Tm.vars]; exact mem_varsList.mpr ⟨a, ha, hva⟩))
  | targ t ih => intro hv; rw [hf.targ, hg.targ, ih (by simpa [Tm.vars] using hv)]
  | carg t ih => intro hv; rw [hf.carg, hg.carg, ih (by simpa [Tm.vars] using hv)]

theorem Hom.comp {f g : Tm → Tm} {fh gh : Head → List Tm → Head} (hf : Hom f fh) (hg : Hom g gh) :
    Hom (fun t => f (g t)) (fun h as => fh (gh h as) (as.map g)) :=
  ⟨fun h as => by rw [hg.node, hf.node, List.map_map]; rfl, fun t => by rw [hg.targ, hf.targ],
    fun t => by rw [hg.carg, hf.carg]⟩

theorem Hom.vars {f : Tm → Tm} {fh : Head → List Tm → Head} (hf : Hom f fh) (ha : ∀ a, (f (.atom a)).vars = []) :
    ∀ t : Tm, (f t).vars = t.vars.flatMap fun y => (f (.var y)).vars := by
  intro t
  induction t using Tm.induct with
  | var v => simp [Tm.vars]
  | atom a => simp [Tm.vars, ha]
  | node h as ih =>
    simp only [hf.node, Tm.vars, varsList_eq, List.flatMap_map, List.flatMap_assoc]
    exact congrArg List.flatten (List.map_congr_left ih)
  | targ t ih => simpa [hf.targ, Tm.vars] using ih
  | carg t ih => simpa [hf.carg, Tm.vars] using ih

theorem Hom.id : Hom (fun t => t) (fun h _ => h) := ⟨fun _ _ => by simp, fun _ => rfl, fun _ => rfl⟩

theorem Hom.inst (θ : V → Tm) : Hom (inst θ) (fun h _ => h) :=
  ⟨fun _ _ => by simp [Unify.inst, instList_eq], fun _ => rfl, fun _ => rfl⟩

theorem Hom.erase : Hom erase (fun h _ => eraseH h) :=
  ⟨fun _ _ => by simp [Unify.erase, eraseList_eq], fun _ => rfl, fun _ => rfl⟩

theorem inst_congr {θ θ' : V → Tm} : ∀ t : Tm, (∀ y ∈ t.vars, θ y = θ' y) → inst θ t = inst θ' t :=
  (Hom.inst θ).ext (.inst θ') (fun _ => rfl) fun _ _ => rfl

theorem inst_id_of : ∀ t : Tm, ∀ θ : V → Tm, (∀ y ∈ t.vars, θ y = .var y) → inst θ t = t :=
  fun t θ => (Hom.inst θ).ext .id (fun _ => rfl) (fun _ _ => rfl) t

theorem inst_inst (θ ρ : V → Tm) (t : Tm) : inst ρ (inst θ t) = inst (fun v => inst ρ (θ v)) t :=
  ((Hom.inst ρ).comp (.inst θ)).ext (.inst fun v => inst ρ (θ v)) (fun _ => rfl) (fun _ _ => rfl) t fun _ _ => rfl

theorem vars_inst (θ : V → Tm) (t : Tm) : (inst θ t).vars = t.vars.flatMap fun y => (θ y).vars :=
  (Hom.inst θ).vars (fun _ => rfl) t

theorem mem_vars_inst {θ : V → Tm} {z : V} (t : Tm) : z ∈ (inst θ t).vars ↔ ∃ y ∈ t.vars, z ∈ (θ y).vars := by
  simp [vars_inst]

theorem erase_inst (θ : V → Tm) (t : Tm) : erase (inst θ t) = inst (fun v => erase (θ v)) (erase t) :=
  (Hom.erase.comp (.inst θ)).ext ((Hom.inst _).comp .erase) (fun _ => rfl) (fun _ _ => rfl) t fun _ _ => rfl

theorem vars_erase (t : Tm) : (erase t).vars = t.vars := by
  simpa [erase, Tm.vars] using Hom.erase.vars (fun _ => rfl) t

theorem erase_inst_congr {θ θ' : V → Tm} (t : Tm) (h : ∀ y ∈ t.vars, erase (θ y) = erase (θ' y)) :
    erase (inst θ t) = erase (inst θ' t) := by
  rw [erase_inst, erase_inst]
  apply inst_congr
  intro y hy
  exact h y (by rw [← vars_erase t]; exact hy)

theorem inst_closed {t : Tm} (h : t.vars = []) (θ : V → Tm) : inst θ t = t :=
  inst_id_of t θ (fun y hy => by rw [h] at hy; cases hy)

theorem apply_closed {t : Tm} (h : t.vars = []) (σ : Subst) : apply σ t = t := inst_closed h _

theorem FlagEq.inst {θ : V → Tm} {s t : Tm} (h : FlagEq s t) : FlagEq (inst θ s) (inst θ t) := by
  unfold FlagEq at *
  rw [erase_inst, erase_inst, h]

theorem closed_of_flagEq {a b : Tm} (h : FlagEq a b) (hb : b.vars = []) : a.vars = [] := by
  rw [← vars_erase, h, vars_erase, hb]

theorem Unifies.closes {θ : V → Tm} {s t : Tm} (hs : s.vars = []) (h : Unifies θ s t) : ∀ f ∈ t.vars, (θ f).vars = [] :=
  List.flatMap_eq_nil_iff.mp (vars_inst θ t ▸ closed_of_flagEq (Eq.symm h) ((inst_closed hs θ).symm ▸ hs))

theorem Extends.refl (σ : Subst) : Extends σ σ := fun _ _ h => h
theorem Extends.trans {a b c : Subst} (h₁ : Extends a b) (h₂ : Extends b c) : Extends a c :=
  fun v u h => h₂ v u (h₁ v u h)

theorem Extends.cons {σ : Subst} {v : V} (t : Tm) (h : lookup σ v = none) : Extends σ ((v, t) :: σ) := by
  intro w u hw
  rw [lookup_cons, if_neg (fun e => by rw [← e, h] at hw; cases hw), hw]

/-- `θ` solves the equations of `σ` in the reading of "identical" given by the normal form `N`; `Solves`, `SolvesX`,
    `SolvesL E` of the specification are the cases `erase`, `id`, `norm E` -/
def SolvesBy (N : Tm → Tm) (θ : V → Tm) (σ : Subst) : Prop :=
  ∀ v u, lookup σ v = some u → N (θ v) = N (inst θ u)

theorem solves_iff_solvesBy {θ : V → Tm} {σ : Subst} : Solves θ σ ↔ SolvesBy erase θ σ := Iff.rfl
theorem solvesX_iff_solvesBy {θ : V → Tm} {σ : Subst} : SolvesX θ σ ↔ SolvesBy id θ σ := Iff.rfl
theorem solvesL_iff_solvesBy {E : Env} {θ : V → Tm} {σ : Subst} : SolvesL E θ σ ↔ SolvesBy (norm E) θ σ := Iff.rfl

theorem SolvesBy.of_extends {N : Tm → Tm} {θ : V → Tm} {σ σ' : Subst} (h : SolvesBy N θ σ') (e : Extends σ σ') :
    SolvesBy N θ σ := fun v u hv => h v u (e v u hv)

theorem Solves.of_extends {θ : V → Tm} {σ σ' : Subst} (h : Solves θ σ') (e : Extends σ σ') : Solves θ σ :=
  SolvesBy.of_extends (N := erase) h e

theorem SolvesBy.nil (N : Tm → Tm) (θ : V → Tm) : SolvesBy N θ [] := fun _ _ h => nomatch h

theorem solves_nil (θ : V → Tm) : Solves θ [] := SolvesBy.nil erase θ

theorem SolvesX.solves {θ : V → Tm} {σ : Subst} (h : SolvesX θ σ) : Solves θ σ :=
  fun v u hv => by unfold FlagEq; rw [h v u hv]

theorem UnifiesX.unifies {θ : V → Tm} {s t : Tm} (h : UnifiesX θ s t) : Unifies θ s t := by
  unfold Unifies FlagEq; unfold UnifiesX at h; rw [h]

theorem wfSubst_nil : WfSubst [] := fun _ _ h => nomatch h

theorem firstM_false {f : V → Option Bool} {ys : List V} : firstM f ys = some false → ∀ y ∈ ys, f y = some false := by
  fun_induction firstM f ys with
  | case1 => nofun
  | case2 | case3 => nofun
  | case4 y ys h ih => exact fun hf z hz => (List.mem_cons.mp hz).elim (· ▸ h) (ih hf z)

theorem firstM_true {f : V → Option Bool} {ys : List V} : firstM f ys = some true → ∃ y ∈ ys, f y = some true := by
  fun_induction firstM f ys with
  | case1 | case2 => nofun
  | case3 y ys h => exact fun _ => ⟨y, List.mem_cons_self, h⟩
  | case4 y ys _ ih => exact fun hf => (ih hf).imp fun z hz => ⟨List.mem_cons_of_mem _ hz.1, hz.2⟩

theorem firstM_mono {f f' : V → Option Bool} (h : ∀ y, f y ≠ none → f' y = f y) (ys : List V) :
    firstM f ys ≠ none → firstM f' ys = firstM f ys := by
  fun_induction firstM f ys with
  | case1 => exact fun _ => rfl
  | case2 => exact fun hn => absurd rfl hn
  | case3 y ys hy => exact fun _ => by rw [firstM, h y (hy ▸ nofun), hy]
  | case4 y ys hy ih => exact fun hn => by rw [firstM, h y (hy ▸ nofun), hy]; exact ih hn

theorem firstM_ne_none {f : V → Option Bool} {ys : List V} : (∀ y ∈ ys, f y ≠ none) → firstM f ys ≠ none := by
  fun_induction firstM f ys with
  | case1 | case3 => nofun
  | case2 y ys h => exact fun hy => absurd h (hy y List.mem_cons_self)
  | case4 y ys _ ih => exact fun hy => ih fun z hz => hy z (List.mem_cons_of_mem _ hz)

inductive Reach (σ : Subst) : V → V → Prop
  | refl (x : V) : Reach σ x x
  | step {x y z : V} {u : Tm} : lookup σ x = some u → y ∈ u.vars → Reach σ y z → Reach σ x z

theorem occurs_false {σ : Subst} {v : V} : ∀ (n : Nat) (t : Tm), occurs n σ v t = some false →
    ∀ y ∈ t.vars, ¬ Reach σ y v := by
  intro n
  induction n with
  | zero => intro t h; simp [occurs] at h
  | succ n ih =>
    intro t h y hy hr
    simp only [occurs] at h
    have hy' := firstM_false h y hy
    cases hr with
    | refl => simp at hy'
    | step hl hm hr' =>
      rename_i z u
      by_cases e : y = v
      · simp [e] at hy'
      · simp only [e, if_false, hl] at hy'
        exact ih u hy' z hm hr'

theorem occurs_true {σ : Subst} {v : V} : ∀ (n : Nat) (t : Tm), occurs n σ v t = some true →
    ∃ y ∈ t.vars, Reach σ y v := by
  intro n
  induction n with
  | zero => intro t h; simp [occurs] at h
  | succ n ih =>
    intro t h
    simp only [occurs] at h
    obtain ⟨y, hy, hfy⟩ := firstM_true h
    refine ⟨y, hy, ?_⟩
    by_cases e : y = v
    · rw [e]; exact .refl v
    · simp only [e, if_false] at hfy
      cases hl : lookup σ y with
      | none => simp [hl] at hfy
      | some u =>
        simp only [hl] at hfy
        obtain ⟨z, hz, hr⟩ := ih u hfy
        exact .step hl hz hr

theorem acyclic_nil : Acyclic [] := ⟨fun _ => 0, fun _ _ h => nomatch h⟩

theorem Acyclic.cons {σ : Subst} {v : V} {t : Tm} (ha : Acyclic σ)
    (hno : ∀ y ∈ t.vars, ¬ Reach σ y v) : Acyclic ((v, t) :: σ) := by
  obtain ⟨r, hr⟩ := ha
  classical
  let K := 1 + (t.vars.map r).sum
  refine ⟨fun x => r x + (if Reach σ x v then K else 0), ?_⟩
  intro x u hx y hy
  rw [lookup_cons] at hx
  by_cases e : v = x
  · subst e
    simp only [if_true, Option.some.injEq] at hx
    subst hx
    have h1 : ¬ Reach σ y v := hno y hy
    have h2 : Reach σ v v := Reach.refl v
    have h3 : r y < K := by
      have : r y ≤ (t.vars.map r).sum := List.le_sum_map r _ y hy
      omega
    simp only [h1, h2, if_true, if_false]
    omega
  · simp only [e, if_false] at hx
    have h1 := hr x u hx y hy
    by_cases hyv : Reach σ y v
    · have hxv : Reach σ x v := Reach.step hx hy hyv
      simp only [hyv, hxv, if_true]
      omega
    · simp only [hyv, if_false]
      omega

end GuppyVerif.Unify
