import GuppyVerif.Lemmas.C01
/-! DFContainer as a store: invariant `Good` relating `locals` to a reference partial value
    (allowing cached struct/tuple wires and moved/stale leaves); `getitem` in any `Good` state
    returns the reference value and leaves a `Good` state. -/
namespace GuppyVerif.DFWiring

mutual
/-- `locals`/`env` agree with the reference partial value `pv` of place `p : t`: defined leaves
    are present with the right value; a cached struct/tuple wire is right whenever the reference
    value is fully defined (holes = moved or never assigned: nothing is promised) -/
def Good (n : Nat) (L : Locals) (env : Env) (p : PlaceId) : Ty → PVal → Prop
  | .leaf _ _, .hole => True
  | .leaf _ _, .val v => ∃ w, L p = some w ∧ w.node < n ∧ env w = some v
  | .leaf _ _, .tup _ => False
  | .node _ cs, .tup ps =>
    (∀ w v, L p = some w → (PVal.tup ps).total = some v → w.node < n ∧ env w = some v) ∧
      GoodList n L env p 0 cs ps
  | .node _ _, .hole => False
  | .node _ _, .val _ => False
def GoodList (n : Nat) (L : Locals) (env : Env) (p : PlaceId) (i : Nat) :
    List Ty → List PVal → Prop
  | [], [] => True
  | t :: ts, q :: qs => Good n L env (i :: p) t q ∧ GoodList n L env p (i + 1) ts qs
  | [], _ :: _ => False
  | _ :: _, [] => False
end

theorem GoodList_iff (n : Nat) (L : Locals) (env : Env) (p : PlaceId) (i : Nat) (ts : List Ty)
    (ps : List PVal) : GoodList n L env p i ts ps ↔ ts.length = ps.length ∧
      ∀ (j : Nat) (t : Ty), ts[j]? = some t → ∃ q, ps[j]? = some q ∧ Good n L env ((i + j) :: p) t q :=
  List.zipPred_iff (P := fun i ts ps => GoodList n L env p i ts ps)
    (R := fun i t q => Good n L env (i :: p) t q)
    (fun _ => trivial) (fun _ _ _ _ _ => Iff.rfl) (fun _ _ _ h => h) (fun _ _ _ h => h) ts i ps

theorem Good.child {n : Nat} {L : Locals} {env : Env} {p : PlaceId} {k : Kind} {cs : List Ty}
    {ps : List PVal} (h : Good n L env p (.node k cs) (.tup ps)) {j : Nat} {tj : Ty}
    (hj : cs[j]? = some tj) : ∃ pj, ps[j]? = some pj ∧ Good n L env (j :: p) tj pj := by
  simp only [Good, GoodList_iff, Nat.zero_add] at h
  exact h.2.2 j tj hj

theorem GoodList.map {n n' : Nat} {L L' : Locals} {env env' : Env} {p : PlaceId} (ts : List Ty)
    (i : Nat) (ps : List PVal)
    (hf : ∀ j tj pj, i ≤ j → ts[j - i]? = some tj → ps[j - i]? = some pj →
        Good n L env (j :: p) tj pj → Good n' L' env' (j :: p) tj pj)
    (h : GoodList n L env p i ts ps) : GoodList n' L' env' p i ts ps := by
  rw [GoodList_iff] at h ⊢
  refine ⟨h.1, fun j t ht => ?_⟩
  obtain ⟨q, hq, hg⟩ := h.2 j t ht
  exact ⟨q, hq, hf (i + j) t q (Nat.le_add_right ..) (by simpa using ht) (by simpa using hq) hg⟩

/-- transport of `Good`: `locals` unchanged strictly below `p`; at `p` itself either unchanged, or
    forgotten (allowed for struct/tuple places, and for leaves whose reference value is a hole) -/
theorem Good.transport {n n' : Nat} {L L' : Locals} {env env' : Env} (hx : Ext env n env' n')
    (t : Ty) :
    ∀ (p : PlaceId) (pv : PVal), (∀ q, p <:+ q → q ≠ p → L' q = L q) →
      (L' p = L p ∨ (L' p = none ∧ (t.isLeaf = true → pv = .hole))) →
      Good n L env p t pv → Good n' L' env' p t pv := by
  induction t using Ty.ind with
  | leaf c d =>
    intro p pv _ hp h
    cases pv with
    | hole => simp [Good]
    | tup _ => simp [Good] at h
    | val v =>
      simp only [Good] at h ⊢
      obtain ⟨w, h1, h2, h3⟩ := h
      rcases hp with hp | ⟨_, hp⟩
      · exact ⟨w, by rw [hp]; exact h1, hx.wire h2 h3⟩
      · cases hp rfl
  | node k cs ih =>
    intro p pv hL hp h
    cases pv with
    | hole | val _ => simp [Good] at h
    | tup ps =>
      simp only [Good] at h ⊢
      have hch : ∀ j x, (j :: p) <:+ x → L' x = L x := fun j x hx =>
        hL x (under_child_trans hx) (under_child_ne hx)
      refine ⟨fun w v hw hv => ?_, GoodList.map cs 0 ps (fun j tj pj _ ht _ hg =>
        ih tj (List.mem_of_getElem? ht) _ pj (fun x hx _ => hch j x hx)
          (Or.inl (hch j _ (List.suffix_refl _))) hg) h.2⟩
      rcases hp with hp | ⟨hp, _⟩
      · rw [hp] at hw
        exact hx.wire (h.1 w v hw hv).1 (h.1 w v hw hv).2
      · rw [hp] at hw; cases hw

theorem GoodList.transport {n n' : Nat} {L L' : Locals} {env env' : Env} (hx : Ext env n env' n')
    (ts : List Ty) (p : PlaceId) (i : Nat) (ps : List PVal)
    (hL : ∀ j q, i ≤ j → (j :: p) <:+ q → L' q = L q) :
    GoodList n L env p i ts ps → GoodList n' L' env' p i ts ps :=
  GoodList.map ts i ps fun j tj pj hj _ _ hg => hg.transport hx tj _ pj
    (fun x hx _ => hL j x hj hx) (Or.inl (hL j _ hj (List.suffix_refl _)))

mutual
theorem total_moved : ∀ (t : Ty) (pv : PVal) (v : Val), (moved t pv).total = some v → pv.total = some v
  | .leaf c _, pv, v, h => by
    cases c with
    | true => simpa [moved] using h
    | false => simp [moved, PVal.total] at h
  | .node _ cs, .tup ps, v, h => by
    simp only [moved, PVal.total] at h ⊢
    cases hm : PVal.totals (moveds cs ps) with
    | none => simp [hm] at h
    | some vs =>
      rw [totals_moveds cs ps vs hm]
      simpa [hm] using h
  | .node _ _, .hole, v, h => by simpa [moved] using h
  | .node _ _, .val _, v, h => by simpa [moved] using h
theorem totals_moveds : ∀ (ts : List Ty) (ps : List PVal) (vs : List Val),
    PVal.totals (moveds ts ps) = some vs → PVal.totals ps = some vs
  | [], ps, vs, h => by simpa [moveds] using h
  | _ :: _, [], vs, h => by simpa [moveds] using h
  | t :: ts, q :: qs, vs, h => by
    simp only [moveds, PVal.totals] at h ⊢
    cases h1 : (moved t q).total with
    | none => simp [h1] at h
    | some v =>
      cases h2 : PVal.totals (moveds ts qs) with
      | none => simp [h1, h2] at h
      | some vs' =>
        rw [total_moved t q v h1, totals_moveds ts qs vs' h2]
        simpa [h1, h2] using h
end

mutual
/-- moving out only weakens the obligations -/
theorem Good.moved {n : Nat} {L : Locals} {env : Env} : ∀ (t : Ty) (p : PlaceId) (pv : PVal),
    Good n L env p t pv → Good n L env p t (moved t pv)
  | .leaf c _, p, pv, h => by
    cases c with
    | true => simpa [DFWiring.moved] using h
    | false => simp [DFWiring.moved, Good]
  | .node k cs, p, .tup ps, h => by
    simp only [Good, DFWiring.moved] at h ⊢
    refine ⟨fun w v hw hv => h.1 w v hw (total_moved (.node k cs) (.tup ps) v (by simpa [DFWiring.moved] using hv)),
      GoodList.moved cs p 0 ps h.2⟩
  | .node _ _, _, .hole, h => by simp [Good] at h
  | .node _ _, _, .val _, h => by simp [Good] at h
theorem GoodList.moved {n : Nat} {L : Locals} {env : Env} :
    ∀ (ts : List Ty) (p : PlaceId) (i : Nat) (ps : List PVal),
      GoodList n L env p i ts ps → GoodList n L env p i ts (moveds ts ps)
  | [], _, _, [], _ => by simp [GoodList, moveds]
  | t :: ts, p, i, q :: qs, h => by
    simp only [GoodList, moveds] at h ⊢
    exact ⟨Good.moved t (i :: p) q h.1, GoodList.moved ts p (i + 1) qs h.2⟩
  | [], _, _, _ :: _, h => by simp [GoodList] at h
  | _ :: _, _, _, [], h => by simp [GoodList] at h
end

mutual
theorem Holds.good {n : Nat} {L : Locals} {env : Env} : ∀ (t : Ty) (p : PlaceId) (v : Val),
    Holds n L env p t v → Good n L env p t (embed t v)
  | .leaf _ _, p, v, h => by simpa [Good, embed, Holds] using h
  | .node _ cs, p, .tup vs, h => by
    simp only [Holds] at h
    simp only [Good, embed]
    exact ⟨fun w v hw _ => (by rw [h.1] at hw; cases hw), HoldsList.good cs p 0 vs h.2⟩
  | .node _ _, _, .atom _, h => by simp [Holds] at h
theorem HoldsList.good {n : Nat} {L : Locals} {env : Env} :
    ∀ (ts : List Ty) (p : PlaceId) (i : Nat) (vs : List Val),
      HoldsList n L env p i ts vs → GoodList n L env p i ts (embeds ts vs)
  | [], _, _, [], _ => by simp [GoodList, embeds]
  | t :: ts, p, i, v :: vs, h => by
    simp only [HoldsList] at h
    simp only [GoodList, embeds]
    exact ⟨Holds.good t (i :: p) v h.1, HoldsList.good ts p (i + 1) vs h.2⟩
  | [], _, _, _ :: _, h => by simp [HoldsList] at h
  | _ :: _, _, _, [], h => by simp [HoldsList] at h
end

mutual
theorem Holds.total_embed {n : Nat} {L : Locals} {env : Env} : ∀ (t : Ty) (p : PlaceId) (v : Val),
    Holds n L env p t v → (embed t v).total = some v
  | .leaf _ _, _, _, _ => rfl
  | .node _ cs, p, .tup vs, h => by
    simp only [Holds] at h
    simp only [embed, PVal.total, HoldsList.totals_embeds cs p 0 vs h.2]
  | .node _ _, _, .atom _, h => by simp [Holds] at h
theorem HoldsList.totals_embeds {n : Nat} {L : Locals} {env : Env} :
    ∀ (ts : List Ty) (p : PlaceId) (i : Nat) (vs : List Val),
      HoldsList n L env p i ts vs → PVal.totals (embeds ts vs) = some vs
  | [], _, _, [], _ => rfl
  | t :: ts, p, i, v :: vs, h => by
    simp only [HoldsList] at h
    simp only [embeds, PVal.totals, Holds.total_embed t (i :: p) v h.1,
      HoldsList.totals_embeds ts p (i + 1) vs h.2]
  | [], _, _, _ :: _, h | _ :: _, _, _, [], h => by simp [HoldsList] at h
end

theorem moveds_get : ∀ (ts : List Ty) (ps : List PVal) (k : Nat) (tk : Ty) (pk' : PVal),
    ts[k]? = some tk → (moveds ts ps)[k]? = some pk' → ∃ pk, ps[k]? = some pk ∧ pk' = moved tk pk
  | [], _, _, _, _, h, _ => by simp at h
  | _ :: _, [], _, _, _, _, h => by simp [moveds] at h
  | t :: ts, q :: qs, 0, tk, pk', h1, h2 => by
    simp only [List.getElem?_cons_zero, Option.some.injEq, moveds] at h1 h2
    subst h1; exact ⟨q, by simp, h2.symm⟩
  | t :: ts, q :: qs, k + 1, tk, pk', h1, h2 => by
    simp only [List.getElem?_cons_succ, moveds] at h1 h2
    simpa using moveds_get ts qs k tk pk' h1 h2

theorem linear_leaf_not_copyable {c d : Bool} (h : (Ty.leaf c d).linear = true) : c = false := by
  cases c <;> simp [Ty.linear, Ty.copyable] at h ⊢

theorem totals_cons {q : PVal} {qs : List PVal} {vs : List Val}
    (h : PVal.totals (q :: qs) = some vs) :
    ∃ v vs', vs = v :: vs' ∧ q.total = some v ∧ PVal.totals qs = some vs' := by
  simp only [PVal.totals] at h
  cases h1 : q.total with
  | none => simp [h1] at h
  | some v =>
    cases h2 : PVal.totals qs with
    | none => simp [h1, h2] at h
    | some vs' => exact ⟨v, vs', by simpa [h1, h2] using h.symm, rfl, rfl⟩

structure GetOk (L : Locals) (n : Nat) (p : PlaceId) (env : Env) (t : Ty) (pv : PVal) (v : Val)
    (w' : Wire) (L2 : Locals) (n2 : Nat) (ops : List Op) (env2 : Env) : Prop where
  ran : Ran env n ops env2 n2
  fresh : w'.node < n2
  cached : L2 p = some w'
  frame : ∀ q, ¬ p <:+ q → L2 q = L q
  val : env2 w' = some v
  good : Good n2 L2 env2 p t (moved t pv)

def GoodGetPost (L : Locals) (n : Nat) (p : PlaceId) (env : Env) (t : Ty) (pv : PVal) (v : Val)
    (r : Except Err (Wire × Locals × Nat × List Op)) : Prop :=
  ∃ w' L2 n2 ops env2, r = .ok (w', L2, n2, ops) ∧ GetOk L n p env t pv v w' L2 n2 ops env2

structure GetListOk (L : Locals) (n : Nat) (p : PlaceId) (i : Nat) (env : Env) (ts : List Ty)
    (ps : List PVal) (vs : List Val) (ws : List Wire) (L2 : Locals) (n2 : Nat) (ops : List Op)
    (env2 : Env) : Prop where
  ran : Ran env n ops env2 n2
  fresh : ∀ w ∈ ws, w.node < n2
  present : ∀ j t, i ≤ j → ts[j - i]? = some t → (L2 (j :: p)).isSome
  frame : ∀ q, (∀ j, i ≤ j → ¬ (j :: p) <:+ q) → L2 q = L q
  vals : env2.all ws = some vs
  good : GoodList n2 L2 env2 p i ts (moveds ts ps)

def GoodGetListPost (L : Locals) (n : Nat) (p : PlaceId) (i : Nat) (env : Env) (ts : List Ty)
    (ps : List PVal) (vs : List Val) (r : Except Err (List Wire × Locals × Nat × List Op)) : Prop :=
  ∃ ws L2 n2 ops, r = .ok (ws, L2, n2, ops) ∧ n ≤ n2 ∧ (∀ w ∈ ws, w.node < n2) ∧
    (∀ j t, i ≤ j → ts[j - i]? = some t → (L2 (j :: p)).isSome) ∧
    (∀ q, (∀ j, i ≤ j → ¬ (j :: p) <:+ q) → L2 q = L q) ∧
    ∃ env2, evalOps env ops = some env2 ∧ env2.all ws = some vs ∧
      (∀ x : Wire, x.node < n → env2 x = env x) ∧ GoodList n2 L2 env2 p i ts (moveds ts ps)

section
variable {L L1 L2 : Locals} {n n1 n2 : Nat} {p : PlaceId} {i : Nat} {env env1 env2 : Env} {t : Ty}
  {ts : List Ty} {q : PVal} {qs : List PVal} {v : Val} {vs : List Val} {w : Wire} {ws : List Wire}
  {o1 o2 : List Op}

/-- `GoodGetListPost` is the form `getitemList_good` is stated in; proofs use `GetListOk` -/
theorem goodGetListPost_iff {r : Except Err (List Wire × Locals × Nat × List Op)} :
    GoodGetListPost L n p i env ts qs vs r ↔ ∃ ws L2 n2 ops env2,
      r = .ok (ws, L2, n2, ops) ∧ GetListOk L n p i env ts qs vs ws L2 n2 ops env2 :=
  ⟨fun ⟨ws, L2, n2, ops, e, a1, a2, a3, a4, env2, a5, a6, a7, a8⟩ =>
      ⟨ws, L2, n2, ops, env2, e, ⟨⟨a1, a7⟩, a5⟩, a2, a3, a4, a6, a8⟩,
    fun ⟨ws, L2, n2, ops, env2, e, h⟩ => ⟨ws, L2, n2, ops, e, h.ran.le, h.fresh, h.present, h.frame,
      env2, h.ran.eval, h.vals, h.ran.old, h.good⟩⟩

theorem GetOk.hit (hL : L p = some w) (hw : w.node < n) (hv : env w = some v)
    (hg : Good n L env p t q) : GetOk L n p env t q v w L n [] env :=
  ⟨.refl env n, hw, hL, fun _ _ => rfl, hv, hg.moved t p q⟩

theorem GetOk.later (A : GetOk L n (i :: p) env t q v w L1 n1 o1 env1) (j : Nat) (x : PlaceId)
    (hj : i + 1 ≤ j) (hx : (j :: p) <:+ x) : L1 x = L x :=
  A.frame x fun hx' => by have := under_child_inj hx hx'; omega

theorem GetListOk.below (B : GetListOk L1 n1 p (i + 1) env1 ts qs vs ws L2 n2 o2 env2) (x : PlaceId)
    (hx : (i :: p) <:+ x) : L2 x = L1 x :=
  B.frame x fun j hj hx' => by have := under_child_inj hx hx'; omega

theorem GetListOk.nil : GetListOk L n p i env [] [] [] [] L n [] env :=
  ⟨.refl env n, by simp, by simp, fun _ _ => rfl, rfl, trivial⟩

theorem GetListOk.cons (A : GetOk L n (i :: p) env t q v w L1 n1 o1 env1)
    (B : GetListOk L1 n1 p (i + 1) env1 ts qs vs ws L2 n2 o2 env2) :
    GetListOk L n p i env (t :: ts) (q :: qs) (v :: vs) (w :: ws) L2 n2 (o1 ++ o2) env2 where
  ran := A.ran.append B.ran
  fresh x hx := by
    rcases List.mem_cons.mp hx with rfl | hx
    · exact Nat.lt_of_lt_of_le A.fresh B.ran.le
    · exact B.fresh x hx
  present := (List.forall_children_cons i t ts).mpr
    ⟨by rw [B.below _ (List.suffix_refl _), A.cached]; rfl, B.present⟩
  frame x hx := by rw [B.frame x (fun j hj => hx j (by omega)), A.frame x (hx i (Nat.le_refl i))]
  vals := by simp only [Env.all, B.ran.old w A.fresh, A.val, B.vals]
  good := ⟨A.good.transport B.ran.toExt t (i :: p) _ (fun x hx _ => B.below x hx)
    (Or.inl (B.below _ (List.suffix_refl _))), B.good⟩

end

theorem getitem_pack {k : Kind} {cs : List Ty} {L : Locals} {n : Nat} {p : PlaceId} {env : Env}
    {ps : List PVal} {vs : List Val} (hLp : L p = none) (hts : PVal.totals ps = some vs)
    (hlist : GoodGetListPost L n p 0 env cs ps vs (getitemList L n p 0 cs)) :
    GoodGetPost L n p env (.node k cs) (.tup ps) (.tup vs) (getitem L n p (.node k cs)) := by
  obtain ⟨ws, L1, n1, ops1, env1, e1, A⟩ := goodGetListPost_iff.mp hlist
  obtain ⟨L2, b1, P⟩ := popLinear_spec cs L1 p 0 A.present
  simp only [getitem, hLp, e1, b1]
  refine ⟨_, _, _, _, env1.set ⟨n1, 0⟩ (.tup vs), rfl, A.ran.append (.make A.vals), by simp, by simp,
    fun q hq => ?_, by simp, ?_⟩
  · simp only [Locals.set_apply, ne_of_not_under hq, ↓reduceIte]
    rw [P.other q (fun j _ _ _ e => hq (by rw [e]; exact List.suffix_cons _ _)),
      A.frame q (fun j _ hj => hq (under_child_trans hj))]
  · simp only [moved, Good]
    refine ⟨fun w v' hw hv' => ?_, GoodList.map cs 0 (moveds cs ps) (fun j tj pj' hj htj hpj' hgood => ?_)
      A.good⟩
    · -- the new cached wire: if the moved value is still fully defined it is the value just packed
      simp only [Locals.set_apply, ↓reduceIte, Option.some.injEq] at hw
      subst hw
      have := total_moved (.node k cs) (.tup ps) v' (by simpa [moved] using hv')
      simp only [PVal.total, hts, Option.some.injEq] at this
      subst this
      exact ⟨by simp, by simp⟩
    · -- child `j`: below it nothing changed; itself kept, or popped as linear (then a leaf is a hole)
      refine hgood.transport (Ran.make A.vals).toExt tj (j :: p) pj' (fun q hq hne => ?_) ?_
      · simp only [Locals.set_apply, under_child_ne hq, ↓reduceIte]
        exact P.other q (fun j' _ _ _ => grandchild_ne_child hq hne j')
      · simp only [Locals.set_apply, under_child_ne (List.suffix_refl _), ↓reduceIte, P.child j tj hj htj]
        by_cases hlin : tj.linear = true
        · refine Or.inr ⟨if_pos hlin, fun hleaf => ?_⟩
          obtain ⟨pj, _, hpj⟩ := moveds_get cs ps j tj pj' (by simpa using htj) (by simpa using hpj')
          cases tj with
          | leaf c d => simp [hpj, moved, linear_leaf_not_copyable hlin]
          | node k' cs' => simp [Ty.isLeaf] at hleaf
        · exact Or.inl (if_neg hlin)

mutual
theorem getitem_good : ∀ (t : Ty) (L : Locals) (n : Nat) (p : PlaceId) (env : Env) (pv : PVal)
    (v : Val), Good n L env p t pv → pv.total = some v →
    GoodGetPost L n p env t pv v (getitem L n p t)
  | .leaf c d, L, n, p, env, .val v', v, h, hv => by
    simp only [PVal.total, Option.some.injEq] at hv
    subst hv
    have hg := h
    simp only [Good] at h
    obtain ⟨w, h1, h2, h3⟩ := h
    simp only [getitem, h1]
    exact ⟨w, L, n, [], env, rfl, .hit h1 h2 h3 hg⟩
  | .leaf _ _, _, _, _, _, .hole, _, _, hv => by simp [PVal.total] at hv
  | .leaf _ _, _, _, _, _, .tup _, _, h, _ => by simp [Good] at h
  | .node k cs, L, n, p, env, .tup ps, v, h, hv => by
    have hg := h
    simp only [Good] at h
    cases hLp : L p with
    | some w =>
      obtain ⟨hw1, hw2⟩ := h.1 w v hLp hv
      simp only [getitem, hLp]
      exact ⟨w, L, n, [], env, rfl, .hit hLp hw1 hw2 hg⟩
    | none =>
      simp only [PVal.total] at hv
      cases hts : PVal.totals ps with
      | none => simp [hts] at hv
      | some vs =>
        cases (by simpa [hts] using hv : Val.tup vs = v)
        exact getitem_pack hLp hts (getitemList_good cs L n p 0 env ps vs h.2 hts)
  | .node _ _, _, _, _, _, .hole, _, h, _ => by simp [Good] at h
  | .node _ _, _, _, _, _, .val _, _, h, _ => by simp [Good] at h
theorem getitemList_good : ∀ (ts : List Ty) (L : Locals) (n : Nat) (p : PlaceId) (i : Nat)
    (env : Env) (ps : List PVal) (vs : List Val), GoodList n L env p i ts ps →
    PVal.totals ps = some vs → GoodGetListPost L n p i env ts ps vs (getitemList L n p i ts)
  | [], L, n, p, i, env, [], vs, _, hts => by
    cases hts
    exact goodGetListPost_iff.mpr ⟨_, _, _, _, env, rfl, .nil⟩
  | t :: ts, L, n, p, i, env, q :: qs, vs, h, hts => by
    simp only [GoodList] at h
    obtain ⟨v, vs', rfl, hq, hqs⟩ := totals_cons hts
    obtain ⟨w1, L1, n1, o1, env1, e1, A⟩ := getitem_good t L n (i :: p) env q v h.1 hq
    obtain ⟨ws, L2, n2, o2, env2, e2, B⟩ := goodGetListPost_iff.mp (getitemList_good ts L1 n1 p
      (i + 1) env1 qs vs' (h.2.transport A.ran.toExt ts p (i + 1) qs A.later) hqs)
    simp only [getitemList, e1, e2]
    exact goodGetListPost_iff.mpr ⟨_, _, _, _, env2, rfl, .cons A B⟩
  | [], _, _, _, _, _, _ :: _, _, h, _ => by simp [GoodList] at h
  | _ :: _, _, _, _, _, _, [], _, h, _ => by simp [GoodList] at h
end

/-- the state `setitem` establishes is the special case `Good … (embed t v)` -/
theorem getitem_post {t : Ty} {L : Locals} {n : Nat} {p : PlaceId} {env : Env} {v : Val}
    (h : Holds n L env p t v) : GoodGetPost L n p env t (embed t v) v (getitem L n p t) :=
  getitem_good t L n p env _ v (h.good t p v) (h.total_embed t p v)

theorem getitemList_post {ts : List Ty} {L : Locals} {n : Nat} {p : PlaceId} {i : Nat} {env : Env}
    {vs : List Val} (h : HoldsList n L env p i ts vs) :
    GoodGetListPost L n p i env ts (embeds ts vs) vs (getitemList L n p i ts) :=
  getitemList_good ts L n p i env _ vs (h.good ts p i vs) (h.totals_embeds ts p i vs)

end GuppyVerif.DFWiring
