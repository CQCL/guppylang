import GuppyVerif.Lemmas.C12
/-! Passes (`passes`, `applyN`) of a substitution whose bound variables have a rank decreasing along the bindings reach a
    saturated fixpoint that solves it once their number exceeds every rank; for an acyclic one `|σ|` passes do (`applyStar`);
    a solution is unchanged by them (`SolvesBy.applyN`). -/
namespace GuppyVerif.Unify

theorem applyN_comm (σ : Subst) : ∀ (n : Nat) (t : Tm), applyN σ n (apply σ t) = apply σ (applyN σ n t) := by
  intro n
  induction n with
  | zero => intro t; rfl
  | succ n ih => intro t; simp only [applyN]; rw [ih]

theorem passes_zero (σ : Subst) (v : V) : passes σ 0 v = .var v := rfl

theorem passes_succ_apply (σ : Subst) (n : Nat) (v : V) : passes σ (n + 1) v = apply σ (passes σ n v) := by
  simp only [passes, applyN]; rw [applyN_comm]

theorem applyN_eq_inst (σ : Subst) : ∀ (n : Nat) (t : Tm), applyN σ n t = inst (passes σ n) t := by
  intro n
  induction n with
  | zero => intro t; simp only [applyN]; exact (inst_id_of t _ (fun y _ => rfl)).symm
  | succ n ih =>
    intro t
    simp only [applyN]
    rw [ih, apply, inst_inst]
    apply inst_congr
    intro y _
    simp only [passes, applyN, apply_var]
    rw [ih]

theorem passes_succ_inst (σ : Subst) (n : Nat) (v : V) : passes σ (n + 1) v = inst (passes σ n) (asFun σ v) := by
  simp only [passes, applyN, apply_var]; rw [applyN_eq_inst]

theorem apply_saturated {σ : Subst} {t : Tm} (h : Saturated σ t) : apply σ t = t :=
  inst_id_of _ _ fun y hy => asFun_of_none (h y hy)

theorem passes_unbound {σ : Subst} {x : V} (h : lookup σ x = none) : ∀ n, passes σ n x = .var x := by
  intro n
  induction n with
  | zero => rfl
  | succ n ih => rw [passes_succ_apply, ih, apply_var, asFun_of_none h]

def Ranked (σ : Subst) (r : V → Nat) : Prop :=
  ∀ v u, lookup σ v = some u → ∀ y ∈ u.vars, lookup σ y ≠ none → r y < r v

theorem passes_saturated {σ : Subst} {r : V → Nat} (hr : Ranked σ r) :
    ∀ (n : Nat) (x : V), (lookup σ x ≠ none → r x < n) → Saturated σ (passes σ n x) := by
  intro n
  induction n with
  | zero =>
    intro x hx y hy
    cases hl : lookup σ x with
    | none => simp only [passes_zero, Tm.vars, List.mem_singleton] at hy; rw [hy, hl]
    | some u => exact absurd (hx (by rw [hl]; nofun)) (Nat.not_lt_zero _)
  | succ n ih =>
    intro x hx
    cases hl : lookup σ x with
    | none => rw [passes_unbound hl]; intro y hy; simp only [Tm.vars, List.mem_singleton] at hy; rw [hy, hl]
    | some u =>
      rw [passes_succ_inst]
      intro z hz
      obtain ⟨y, hy, hzy⟩ := (mem_vars_inst _).mp hz
      rw [asFun_of_some hl] at hy
      have := hx (by rw [hl]; nofun)
      exact ih y (fun hb => by have := hr x u hl y hy hb; omega) z hzy

theorem passes_solves_of {σ : Subst} {r : V → Nat} (hr : Ranked σ r) {n : Nat}
    (hn : ∀ v, lookup σ v ≠ none → r v < n) : SolvesX (passes σ n) σ := by
  intro v u hl
  have hv := hn v (by rw [hl]; nofun)
  obtain ⟨n', rfl⟩ : ∃ n', n = n' + 1 := ⟨n - 1, by omega⟩
  rw [passes_succ_inst, asFun_of_some hl]
  refine inst_congr _ fun y hy => ?_
  rw [passes_succ_apply, apply_saturated (passes_saturated hr n' y fun hb => by have := hr v u hl y hy hb; omega)]

theorem applyN_saturated_of {σ : Subst} {r : V → Nat} (hr : Ranked σ r) {n : Nat}
    (hn : ∀ v, lookup σ v ≠ none → r v < n) (t : Tm) : Saturated σ (applyN σ n t) := by
  intro z hz
  rw [applyN_eq_inst] at hz
  obtain ⟨y, _, hzy⟩ := (mem_vars_inst _).mp hz
  exact passes_saturated hr n y (hn y) z hzy

/-! `|σ|` passes suffice: the rank is compressed to "number of keys of smaller rank", which is `< |σ|`. -/

def crank (K : List V) (r : V → Nat) (v : V) : Nat := K.countP fun w => decide (r w < r v)

theorem crank_lt_length {K : List V} {r : V → Nat} {v : V} (hv : v ∈ K) : crank K r v < K.length := by
  simpa [crank] using
    List.countP_lt_countP (p := fun w => decide (r w < r v)) (q := fun _ => true) (fun _ _ _ => rfl) ⟨v, hv, rfl, by simp⟩

theorem crank_lt {K : List V} {r : V → Nat} {y v : V} (hy : y ∈ K) (h : r y < r v) : crank K r y < crank K r v :=
  List.countP_lt_countP (fun x _ hx => by simp only [decide_eq_true_eq] at hx ⊢; omega) ⟨y, hy, by simpa using h, by simp⟩

theorem crank_ranked {σ : Subst} {r : V → Nat} {K : List V}
    (hr : ∀ v u, lookup σ v = some u → ∀ y ∈ u.vars, r y < r v) (hK : ∀ v, lookup σ v ≠ none → v ∈ K) :
    Ranked σ (crank K r) :=
  fun v u hl y hy hby => crank_lt (hK y hby) (hr v u hl y hy)

theorem Acyclic.ranked_len {σ : Subst} (ha : Acyclic σ) :
    ∃ r, Ranked σ r ∧ ∀ n, σ.length ≤ n → ∀ v, lookup σ v ≠ none → r v < n := by
  obtain ⟨r, hr⟩ := ha
  refine ⟨crank (σ.map Prod.fst) r, crank_ranked hr mem_keys_of_bound, fun n hn v hv => ?_⟩
  have := crank_lt_length (r := r) (mem_keys_of_bound v hv)
  rw [List.length_map] at this
  omega

theorem applyN_len_saturated {σ : Subst} (ha : Acyclic σ) (n : Nat) (hn : σ.length ≤ n) (t : Tm) :
    Saturated σ (applyN σ n t) := by
  obtain ⟨r, hr, hN⟩ := ha.ranked_len
  exact applyN_saturated_of hr (hN n hn) t

theorem passes_len_solves {σ : Subst} (ha : Acyclic σ) {n : Nat} (hn : σ.length ≤ n) : SolvesX (passes σ n) σ := by
  obtain ⟨r, hr, hN⟩ := ha.ranked_len
  exact passes_solves_of hr (hN n hn)

/-- `hN`: the reading is a congruence for instantiation -/
theorem SolvesBy.applyN {N : Tm → Tm} {θ : V → Tm} {σ : Subst}
    (hN : ∀ {θ θ' : V → Tm} (t : Tm), (∀ y ∈ t.vars, N (θ y) = N (θ' y)) → N (inst θ t) = N (inst θ' t))
    (hθ : SolvesBy N θ σ) : ∀ (n : Nat) (x : Tm), N (inst θ (applyN σ n x)) = N (inst θ x)
  | 0, _ => rfl
  | n + 1, x => by
    refine (SolvesBy.applyN hN hθ n (apply σ x)).trans ?_
    rw [apply, inst_inst]
    refine hN x fun y _ => ?_
    cases hl : lookup σ y with
    | none => rw [asFun_of_none hl]; rfl
    | some u => rw [asFun_of_some hl]; exact (hθ y u hl).symm

end GuppyVerif.Unify
