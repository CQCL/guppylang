import GuppyVerif.Lemmas.C03Grow
/-! # C03: structural invariants of `bld` (ExprBuilder / BranchBuilder)
`built`: building from an open block `b` only appends to `b` and creates fresh blocks, each of which gets a predecessor,
all blocks staying well shaped; value mode ends in an open block that is `b` or fresh.  `bld_residual`: what the residual
expression may contain.  `bld_nolift`: without lifted constructs nothing is emitted. -/
namespace GuppyVerif.Builder
open GuppyVerif.Surface

/-- the result of `ExprBuilder.visit_IfExp` given the two built branches -/
def iteMerge (u v : R) : R :=
  let k := freshTmp v.2.2
  let σ2 := addStmt u.2.1 (.assign (.tmp k.1) u.1) k.2
  let σ3 := addStmt v.2.1 (.assign (.tmp k.1) v.1) σ2
  let mb := newBB2 u.2.1 v.2.1 σ3
  (.var (.tmp k.1), mb.1, mb.2)

/-- the state after `tmp = ep` in `p`, `tmp = eq` in `q` and the merge block (value mode of
    short-circuit expressions and of conditional expressions) -/
def mergeSt (p q : Nat) (ep eq : Expr) (σ2 : BState) : BState :=
  link q σ2.len (link p σ2.len (newBB (addStmt q (.assign (.tmp σ2.nextTmp) eq)
    (addStmt p (.assign (.tmp σ2.nextTmp) ep) (freshTmp σ2).2))).2)

theorem scPost_val_eq (t f b : Nat) (σ2 : BState) :
    scPost .val t f b σ2 = (.var (.tmp σ2.nextTmp), σ2.len, mergeSt t f (.bool true) (.bool false) σ2) := by
  simp [scPost, mergeSt, newBB2]

theorem scPost_val_fst (t f b : Nat) (σ : BState) : (scPost .val t f b σ).1 = .var (.tmp σ.nextTmp) := rfl

theorem iteMerge_eq (u v : R) :
    iteMerge u v = (.var (.tmp v.2.2.nextTmp), v.2.2.len, mergeSt u.2.1 v.2.1 u.1 v.1 v.2.2) := by
  simp [iteMerge, mergeSt, newBB2]

theorem mergeSt_eq (p q : Nat) (ep eq : Expr) (σ2 : BState) : mergeSt p q ep eq σ2 =
    (newBB2 p q (addStmt q (.assign (.tmp σ2.nextTmp) eq) (addStmt p (.assign (.tmp σ2.nextTmp) ep) (freshTmp σ2).2))).2 := by
  simp [mergeSt, newBB2]

theorem mergeSt_blk {σ2 : BState} {p q : Nat} (ep eq : Expr) (hp : p < σ2.len) (hq : q < σ2.len) (hpq : p ≠ q) :
    (mergeSt p q ep eq σ2).blk p = { σ2.blk p with stmts := (σ2.blk p).stmts ++ [.assign (.tmp σ2.nextTmp) ep],
                                                    succs := (σ2.blk p).succs ++ [σ2.len] } ∧
    (mergeSt p q ep eq σ2).blk q = { σ2.blk q with stmts := (σ2.blk q).stmts ++ [.assign (.tmp σ2.nextTmp) eq],
                                                    succs := (σ2.blk q).succs ++ [σ2.len] } ∧
    ∀ i, i ≠ p → i ≠ q → (mergeSt p q ep eq σ2).blk i = σ2.blk i := by
  obtain ⟨hP, hQ, hO⟩ := blk_newBB2 (σ := addStmt q (.assign (.tmp σ2.nextTmp) eq)
    (addStmt p (.assign (.tmp σ2.nextTmp) ep) (freshTmp σ2).2)) (by simpa using hp) (by simpa using hq) hpq
  rw [mergeSt_eq]
  refine ⟨?_, ?_, fun i hip hiq => ?_⟩
  · rw [hP, blk_addStmt_other _ _ _ _ hpq, blk_addStmt_same p _ (freshTmp σ2).2 hp, blk_freshTmp]; simp
  · rw [hQ, blk_addStmt_same _ _ _ (by simpa using hq), blk_addStmt_other _ _ _ _ hpq.symm, blk_freshTmp]; simp
  · rw [hO i hip hiq, blk_addStmt_other _ _ _ _ hiq, blk_addStmt_other _ _ _ _ hip, blk_freshTmp]

theorem scPre_val (σ : BState) : scPre .val σ = (σ.len, σ.len + 1, (newBB (newBB σ).2).2) := by
  simp [scPre]

theorem touch_scPre_val (σ : BState) (b : Nat) (hb : b < σ.len) : Touch σ b (newBB (newBB σ).2).2 :=
  (touch_newBB σ b).trans (touch_newBB _ b) hb (Or.inl rfl)

/-- the first comparison, once `lA` is built; returns the (possibly stored) middle operand -/
def cmpHead (o : CmpOp) (lA mid r : Expr) (x f' ab : Nat) (σa : BState) : Expr × BState :=
  let p := preBind ((lifts mid || !atomicSyn mid) && needBind lA mid) lA ab σa
  let c := bld mid .val ab p.2
  let pm := preBind (!stable c.1 r) c.1 c.2.1 c.2.2
  (pm.1, branchOn c.2.1 (.bi (.cmp o) p.1 pm.1) x f' pm.2)

/-- the second comparison of a chain: its left operand `lA` is already built -/
def cmpTail (o : CmpOp) (lA r : Expr) (t' f' x : Nat) (σ1 : BState) : BState :=
  let p2 := preBind (lifts r && needBind lA r) lA x σ1
  let d := bld r .val x p2.2
  branchOn d.2.1 (.bi (.cmp o) p2.1 d.1) t' f' d.2.2

def cmp2Body (o1 o2 : CmpOp) (l mid r : Expr) (t' f' b : Nat) (σp : BState) : BState :=
  let a := bld l .val b (newBB σp).2
  let h := cmpHead o1 a.1 mid r σp.len f' a.2.1 a.2.2
  cmpTail o2 h.1 r t' f' σp.len h.2

/-! conditional expressions: `itS1` after the condition, `itU` / `itV` the built true / false branch -/

def itS1 (c : Expr) (b : Nat) (σ : BState) : BState :=
  (bld c (.br σ.len (σ.len + 1)) b (newBB (newBB σ).2).2).2.2
def itU (c x : Expr) (b : Nat) (σ : BState) : R := bld x .val σ.len (itS1 c b σ)
def itV (c x y : Expr) (b : Nat) (σ : BState) : R := bld y .val (σ.len + 1) (itU c x b σ).2.2

theorem bld_ite_val (c x y : Expr) (b : Nat) (σ : BState) :
    bld (.ite c x y) .val b σ = iteMerge (itU c x b σ) (itV c x y b σ) := by
  simp only [bld, fst_newBB, len_newBB]; rfl
theorem bld_ite_br (c x y : Expr) (t f b : Nat) (σ : BState) :
    (bld (.ite c x y) (.br t f) b σ).2.2 =
      (bld y (.br t f) (σ.len + 1) (bld x (.br t f) σ.len (itS1 c b σ)).2.2).2.2 := by
  simp only [bld, fst_newBB, len_newBB]; rfl

theorem foldNeg_some {o : UnOp} {e : Expr} {n : Int} (h : foldNeg o e = some n) :
    o = .neg ∧ e = .num (-n) := by
  cases o <;> cases e <;> simp [foldNeg] at h
  subst h; simp

theorem bld_un_fold {o : UnOp} {e : Expr} {n : Int} (h : foldNeg o e = some n) (m : Mode) (b : Nat) (σ : BState) :
    bld (.un o e) m b σ = finish m (.num n) b σ := by
  obtain ⟨rfl, rfl⟩ := foldNeg_some h; cases m <;> simp only [bld, h]

/-- all but `not` in branch mode (which is `bld e (.br f t)`) and a folded constant -/
theorem bld_un_none {o : UnOp} {e : Expr} (h : foldNeg o e = none) (m : Mode) (b : Nat) (σ : BState)
    (hm : o = .not → m = .val) :
    bld (.un o e) m b σ = finish m (.un o (bld e .val b σ).1) (bld e .val b σ).2.1 (bld e .val b σ).2.2 := by
  cases o <;> cases m <;> first | exact absurd (hm rfl) Mode.noConfusion | simp only [bld, h]

/-! ### Builder points

A *point* is a builder state with an open block in which building goes on.  `Built` and `BuiltBr` say what lies between
two points, so that the code for a construct is a composition of the code for its parts. -/

/-- from the open block `b` of `σ` building went on to the open block `b'` of `σ'` (`b` or fresh), touching only `b`
    and fresh blocks, every fresh block having a predecessor, all blocks staying well shaped -/
structure Built (σ : BState) (b : Nat) (σ' : BState) (b' : Nat) : Prop where
  touch : Touch σ b σ'
  cur : b' = b ∨ σ.len ≤ b'
  lt : b' < σ'.len
  opn : (σ'.blk b').succs = []
  grow : Grow σ σ'

/-- the block was closed by a branch to `t` / `f`: nothing continues; both targets have a predecessor -/
structure BuiltBr (σ : BState) (b : Nat) (σ' : BState) (t f : Nat) : Prop where
  touch : Touch σ b σ'
  grow : Grow σ σ'
  hpt : HP σ' t
  hpf : HP σ' f

theorem Built.refl {σ : BState} {b : Nat} (hb : b < σ.len) (ho : (σ.blk b).succs = []) : Built σ b σ b :=
  ⟨.refl _ _, .inl rfl, hb, ho, .refl σ⟩

theorem Built.trans {σ σ1 σ2 : BState} {b b1 b2 : Nat} (hb : b < σ.len) (h1 : Built σ b σ1 b1)
    (h2 : Built σ1 b1 σ2 b2) : Built σ b σ2 b2 := by
  refine ⟨h1.touch.trans h2.touch hb h1.cur, ?_, h2.lt, h2.opn, h1.grow.trans h2.grow⟩
  have := h1.touch.len
  rcases h2.cur with h | h <;> rcases h1.cur with h' | h' <;> omega

/-- a step that leaves the current block open -/
theorem Built.step {σ σ1 σ2 : BState} {b b1 : Nat} (hb : b < σ.len) (h1 : Built σ b σ1 b1)
    (h2 : Touch σ1 b1 σ2) (g : Grow σ1 σ2) (ho : (σ2.blk b1).succs = []) : Built σ b σ2 b1 :=
  ⟨h1.touch.trans h2 hb h1.cur, h1.cur, Nat.lt_of_lt_of_le h1.lt h2.len, ho, h1.grow.trans g⟩

theorem Built.addStmt {σ σ1 : BState} {b b1 : Nat} (hb : b < σ.len) (h : Built σ b σ1 b1) (s : BStmt) :
    Built σ b (addStmt b1 s σ1) b1 :=
  h.step hb (touch_addStmt _ _ _) (grow_addStmt _ _ _) (by rw [blk_addStmt_same _ _ _ h.lt]; exact h.opn)

theorem Built.bind {σ σ1 : BState} {b b1 : Nat} (hb : b < σ.len) (h : Built σ b σ1 b1) (c : Bool) (e : Expr) :
    Built σ b (preBind c e b1 σ1).2 b1 := by
  cases c with
  | false => exact h
  | true => exact (h.step hb (touch_freshTmp _ _) (grow_freshTmp _) h.opn).addStmt hb _

/-- `tmp = ep` in `p`, `tmp = eq` in `q` and the merge block, for two distinct fresh open blocks `p`, `q` -/
theorem Built.merge {σ σ2 : BState} {b p q : Nat} (hb : b < σ.len) (hT : Touch σ b σ2) (g : Grow σ σ2) (ep eq : Expr)
    (hp : σ.len ≤ p ∧ p < σ2.len) (hq : σ.len ≤ q ∧ q < σ2.len) (hpq : p ≠ q)
    (hpo : (σ2.blk p).succs = []) (hqo : (σ2.blk q).succs = []) : Built σ b (mergeSt p q ep eq σ2) σ2.len := by
  obtain ⟨_, _, hO⟩ := mergeSt_blk ep eq hp.2 hq.2 hpq
  have hl := hT.len
  have hlen : (mergeSt p q ep eq σ2).len = σ2.len + 1 := by simp [mergeSt]
  refine ⟨⟨by omega, Nat.le_trans hT.tmp (Nat.le_succ _), fun i hi hne => ?_, ?_⟩, .inr hl, by omega, ?_, g.trans ?_⟩
  · rw [hO i (by omega) (by omega)]; exact hT.frame i hi hne
  · rw [hO b (by omega) (by omega)]; exact hT.pre
  · rw [hO _ (by omega) (by omega), empty_of_ge σ2 (Nat.le_refl _)]
  · rw [mergeSt_eq]
    refine (((grow_freshTmp σ2).trans (grow_addStmt p (.assign (.tmp σ2.nextTmp) ep) _)).trans
      (grow_addStmt q (.assign (.tmp σ2.nextTmp) eq) _)).trans (grow_newBB2 (by simpa using hp.2) hpq ?_ ?_)
    · rw [blk_addStmt_other _ _ _ _ hpq, blk_addStmt_same p _ (freshTmp σ2).2 hp.2]; exact hpo
    · rw [blk_addStmt_same _ _ _ (by simpa using hq.2), blk_addStmt_other p q _ (freshTmp σ2).2 (Ne.symm hpq)]; exact hqo

theorem Built.branch {σ σ1 : BState} {b b1 : Nat} (hb : b < σ.len) (h : Built σ b σ1 b1) (p : Expr) (t f : Nat) :
    BuiltBr σ b (branchOn b1 p t f σ1) t f :=
  ⟨h.touch.trans (touch_branchOn _ _ _ _ _) hb h.cur, h.grow.trans (grow_branchOn p t f h.opn),
    (hp_branchOn b1 p t f σ1 h.lt).1, (hp_branchOn b1 p t f σ1 h.lt).2⟩

theorem BuiltBr.swap {σ σ' : BState} {b t f : Nat} (h : BuiltBr σ b σ' t f) : BuiltBr σ b σ' f t :=
  ⟨h.touch, h.grow, h.hpf, h.hpt⟩

def BuiltM (m : Mode) (σ : BState) (b : Nat) (r : R) : Prop :=
  match m with
  | .val => Built σ b r.2.2 r.2.1
  | .br t f => BuiltBr σ b r.2.2 t f

def BuiltE (e : Expr) : Prop := ∀ (m : Mode) (b : Nat) (σ : BState), b < σ.len → (σ.blk b).succs = [] →
  BuiltM m σ b (bld e m b σ)

theorem Built.finish {σ σ' : BState} {b b' : Nat} (hb : b < σ.len) (h : Built σ b σ' b') (m : Mode) (e : Expr) :
    BuiltM m σ b (finish m e b' σ') := by
  cases m with
  | val => exact h
  | br t f => exact h.branch hb e t f

/-- `new x; F1 from b; F2 from x` (the shape of `visit_BoolOp` and `visit_Compare`) -/
theorem Touch.then_new {σp σ1 σ2 : BState} {b : Nat} (hb : b < σp.len) (h1 : Touch (newBB σp).2 b σ1)
    (h2 : σp.len < σ1.len → (σ1.blk σp.len).succs = [] → Touch σ1 σp.len σ2) : Touch σp b σ2 := by
  have hl1 := h1.len
  simp only [len_newBB] at hl1
  exact ((touch_newBB σp b).trans h1 hb (.inl rfl)).trans
    (h2 (by omega) (by rw [h1.frame _ (by simp) (by omega), blk_newBB_new])) hb (.inr (Nat.le_refl _))

theorem BuiltBr.then_left {σp σ1 σ2 : BState} {b f t' f' : Nat} (hb : b < σp.len)
    (h1 : BuiltBr (newBB σp).2 b σ1 σp.len f)
    (h2 : σp.len < σ1.len → (σ1.blk σp.len).succs = [] → BuiltBr σ1 σp.len σ2 t' f') : BuiltBr σp b σ2 t' f' := by
  have hl1 := h1.touch.len
  simp only [len_newBB] at hl1
  have k2 := h2 (by omega) (by rw [h1.touch.frame _ (by simp) (by omega), blk_newBB_new])
  exact ⟨h1.touch.then_new hb fun _ _ => k2.touch,
    Grow.after_newBB rfl (h1.grow.trans k2.grow) (h1.hpt.mono k2.grow.mono), k2.hpt, k2.hpf⟩

theorem Touch.fresh2 {σ σ' : BState} {b : Nat} (hb : b < σ.len) (h : Touch (newBB (newBB σ).2).2 b σ') :
    σ.len + 2 ≤ σ'.len ∧ σ'.blk σ.len = {} ∧ σ'.blk (σ.len + 1) = {} := by
  have hl := h.len
  simp only [len_newBB] at hl
  refine ⟨hl, ?_, ?_⟩
  · rw [h.frame σ.len (by simp; omega) (by omega), blk_newBB, blk_newBB_new]
  · rw [h.frame (σ.len + 1) (by simp) (by omega), blk_newBB, blk_newBB, empty_of_ge σ (Nat.le_succ _)]

theorem BuiltBr.grow2 {σ σ' : BState} {b : Nat} (h : BuiltBr (newBB (newBB σ).2).2 b σ' σ.len (σ.len + 1)) :
    Grow σ σ' := Grow.after_newBB rfl (Grow.after_newBB (by simp) h.grow h.hpf) h.hpt

theorem BuiltBr.merge {σ σ2 : BState} {b : Nat} (hb : b < σ.len)
    (h : BuiltBr (newBB (newBB σ).2).2 b σ2 σ.len (σ.len + 1)) (ep eq : Expr) :
    Built σ b (mergeSt σ.len (σ.len + 1) ep eq σ2) σ2.len := by
  obtain ⟨hl, hte, hfe⟩ := h.touch.fresh2 hb
  exact .merge hb ((touch_scPre_val σ b hb).trans h.touch hb (.inl rfl)) h.grow2 _ _ ⟨Nat.le_refl _, by omega⟩
    ⟨by omega, by omega⟩ (by omega) (by rw [hte]) (by rw [hfe])

theorem sc_built {m : Mode} {σ : BState} {b : Nat} (hb : b < σ.len) (ho : (σ.blk b).succs = [])
    (body : Nat → Nat → Nat → BState → BState)
    (hbody : ∀ t' f' σp, b < σp.len → (σp.blk b).succs = [] → BuiltBr σp b (body t' f' b σp) t' f') :
    BuiltM m σ b (scPost m (scPre m σ).1 (scPre m σ).2.1 b (body (scPre m σ).1 (scPre m σ).2.1 b (scPre m σ).2.2)) := by
  cases m with
  | br t f => exact hbody t f σ hb ho
  | val =>
    simp only [scPre_val, BuiltM, scPost_val_eq]
    exact (hbody _ _ _ (by simp; omega) (by rw [blk_newBB, blk_newBB]; exact ho)).merge hb _ _

theorem cmp2_built {o1 o2 : CmpOp} {l mid r : Expr} (hl : BuiltE l) (hm : BuiltE mid) (hr : BuiltE r)
    {σp : BState} {b : Nat} (hb : b < σp.len) (ho : (σp.blk b).succs = []) (t' f' : Nat) :
    BuiltBr σp b (cmp2Body o1 o2 l mid r t' f' b σp) t' f' := by
  simp only [cmp2Body, cmpHead, cmpTail]
  have hb' : b < (newBB σp).2.len := by simp; omega
  have ga : Built _ b _ _ := hl .val b _ hb' (by rw [blk_newBB]; exact ho)
  generalize bld l .val b (newBB σp).2 = a at *
  have gp := ga.bind hb' ((lifts mid || !atomicSyn mid) && needBind a.1 mid) a.1
  generalize preBind ((lifts mid || !atomicSyn mid) && needBind a.1 mid) a.1 a.2.1 a.2.2 = p at *
  have gc := gp.trans hb' (hm .val _ _ gp.lt gp.opn)
  generalize bld mid .val a.2.1 p.2 = c at *
  have gm := gc.bind hb' (!stable c.1 r) c.1
  generalize preBind (!stable c.1 r) c.1 c.2.1 c.2.2 = pm at *
  refine (gm.branch hb' (.bi (.cmp o1) p.1 pm.1) σp.len f').then_left hb fun hx1 hxo => ?_
  have gp2 := (Built.refl hx1 hxo).bind hx1 (lifts r && needBind pm.1 r) pm.1
  exact (gp2.trans hx1 (hr .val _ _ gp2.lt gp2.opn)).branch hx1 (.bi (.cmp o2) _ _) t' f'

theorem itS1_built {c : Expr} (hc : BuiltE c) {b : Nat} {σ : BState} (hb : b < σ.len) (ho : (σ.blk b).succs = []) :
    BuiltBr (newBB (newBB σ).2).2 b (itS1 c b σ) σ.len (σ.len + 1) :=
  hc (.br σ.len (σ.len + 1)) b _ (by simp; omega) (by rw [blk_newBB, blk_newBB]; exact ho)

theorem built (e : Expr) : BuiltE e := by
  induction e with
  | var _ | num _ | call0 _ => exact fun m b σ hb ho => (Built.refl hb ho).finish hb m _
  | bool v =>
    intro m b σ hb ho
    cases m with
    | val => exact Built.refl hb ho
    | br t f =>
      refine ⟨(touch_link _ _ _).trans (touch_dummyLink _ _ _) hb (.inl rfl),
        (grow_link _ ho).trans (grow_dummyLink _ _ _), ?_, ?_⟩ <;> cases v
      · exact hp_dummyLink b t _ (by simpa using hb)
      · exact (hp_link b t σ hb).mono (emono_dummyLink _ _ _)
      · exact (hp_link b f σ hb).mono (emono_dummyLink _ _ _)
      · exact hp_dummyLink b f _ (by simpa using hb)
  | un o e ih =>
    intro m b σ hb ho
    cases hf : foldNeg o e with
    | some n => rw [bld_un_fold hf]; exact (Built.refl hb ho).finish hb m _
    | none =>
      by_cases hm : o = .not → m = .val
      · rw [bld_un_none hf m b σ hm]; exact Built.finish hb (ih .val b σ hb ho) m _
      · -- `not` in branch mode swaps the targets
        obtain ⟨rfl, hm⟩ := Classical.not_imp.mp hm
        cases m with
        | val => exact absurd (fun _ => rfl) hm
        | br t f => exact (ih (.br f t) b σ hb ho).swap
  | bi o l r ihl ihr =>
    intro m b σ hb ho
    have hp := Built.bind hb (ihl .val b σ hb ho) (lifts r && needBind (bld l .val b σ).1 r) (bld l .val b σ).1
    exact (hp.trans hb (ihr .val _ _ hp.lt hp.opn)).finish hb m _
  | walrus x e ih =>
    exact fun m b σ hb ho => (Built.addStmt hb (ih .val b σ hb ho) (.assign x (bld e .val b σ).1)).finish hb m _
  | and l r ihl ihr =>
    exact fun m b σ hb ho => sc_built hb ho
      (fun t' f' b σp => (bld r (.br t' f') σp.len (bld l (.br σp.len f') b (newBB σp).2).2.2).2.2)
      fun t' f' σp hb ho => BuiltBr.then_left hb
        (ihl (.br σp.len f') b _ (by simp; omega) (by rw [blk_newBB]; exact ho)) (ihr (.br t' f') _ _)
  | or l r ihl ihr =>
    exact fun m b σ hb ho => sc_built hb ho
      (fun t' f' b σp => (bld r (.br t' f') σp.len (bld l (.br t' σp.len) b (newBB σp).2).2.2).2.2)
      fun t' f' σp hb ho => BuiltBr.then_left hb
        (BuiltBr.swap (ihl (.br t' σp.len) b _ (by simp; omega) (by rw [blk_newBB]; exact ho))) (ihr (.br t' f') _ _)
  | cmp2 o1 o2 l mid r ihl ihm ihr =>
    exact fun m b σ hb ho => sc_built hb ho (fun t' f' b σp => cmp2Body o1 o2 l mid r t' f' b σp)
      fun t' f' σp hb ho => cmp2_built ihl ihm ihr hb ho t' f'
  | ite c x y ihc ihx ihy =>
    intro m b σ hb ho
    have hc := itS1_built ihc hb ho
    obtain ⟨hl1, htb, heb⟩ := hc.touch.fresh2 hb
    have t1 := (touch_scPre_val σ b hb).trans hc.touch hb (.inl rfl)
    cases m with
    | br t f =>
      show BuiltBr σ b _ t f
      rw [bld_ite_br]
      have k2 : BuiltBr _ _ _ t f := ihx (.br t f) σ.len (itS1 c b σ) (by omega) (by rw [htb])
      have hl2 := k2.touch.len
      have k3 : BuiltBr _ _ _ t f := ihy (.br t f) (σ.len + 1) (bld x (.br t f) σ.len (itS1 c b σ)).2.2 (by omega)
        (by rw [k2.touch.frame (σ.len + 1) (by omega) (by omega), heb])
      exact ⟨(t1.trans k2.touch hb (.inr (Nat.le_refl _))).trans k3.touch hb (.inr (by omega)),
        hc.grow2.trans (k2.grow.trans k3.grow), k3.hpt, k3.hpf⟩
    | val =>
      show Built σ b _ _
      rw [bld_ite_val, iteMerge_eq]
      have gu : Built (itS1 c b σ) σ.len (itU c x b σ).2.2 (itU c x b σ).2.1 :=
        ihx .val σ.len (itS1 c b σ) (by omega) (by rw [htb])
      have hlu := gu.touch.len
      have gv : Built (itU c x b σ).2.2 (σ.len + 1) (itV c x y b σ).2.2 (itV c x y b σ).2.1 :=
        ihy .val (σ.len + 1) _ (by omega) (by rw [gu.touch.frame (σ.len + 1) (by omega) (by omega), heb])
      have hlv := gv.touch.len
      have hult := gu.lt
      have hune : (itU c x b σ).2.1 ≠ σ.len + 1 := by rcases gu.cur with h | h <;> omega
      have huv : (itU c x b σ).2.1 ≠ (itV c x y b σ).2.1 := by rcases gv.cur with h | h <;> omega
      exact .merge hb ((t1.trans gu.touch hb (.inr (Nat.le_refl _))).trans gv.touch hb (.inr (by omega)))
        (hc.grow2.trans (gu.grow.trans gv.grow)) _ _ ⟨by rcases gu.cur with h | h <;> omega, by omega⟩
        ⟨by rcases gv.cur with h | h <;> omega, gv.lt⟩ huv (by rw [gv.touch.frame _ hult hune]; exact gu.opn) gv.opn

theorem bld_good (e : Expr) (b : Nat) (σ : BState) (hb : b < σ.len) (ho : (σ.blk b).succs = []) :
    Built σ b (bld e .val b σ).2.2 (bld e .val b σ).2.1 := built e .val b σ hb ho

theorem bld_touch (e : Expr) (t f b : Nat) (σ : BState) (hb : b < σ.len) (ho : (σ.blk b).succs = []) :
    Touch σ b (bld e (.br t f) b σ).2.2 := (built e (.br t f) b σ hb ho).touch

/-- the condition of a conditional (expression or statement) is built from `b`, branching to two blocks made up front:
    `σ.len`, where the true arm starts, and `σ.len + 1`, where the false arm starts, both still empty -/
structure ItS1 (c : Expr) (b : Nat) (σ : BState) : Prop where
  touch : Touch (newBB (newBB σ).2).2 b (itS1 c b σ)
  touchS : TouchS σ b (itS1 c b σ)
  grow : Grow σ (itS1 c b σ)
  len : σ.len + 2 ≤ (itS1 c b σ).len
  thn : (itS1 c b σ).blk σ.len = {}
  els : (itS1 c b σ).blk (σ.len + 1) = {}
  /-- `b` as it is when the condition is built -/
  lt : b < (newBB (newBB σ).2).2.len
  opn : ((newBB (newBB σ).2).2.blk b).succs = []
  stmts : ((newBB (newBB σ).2).2.blk b).stmts.length = (σ.blk b).stmts.length

theorem itS1_spec (c : Expr) {b : Nat} {σ : BState} (hb : b < σ.len) (ho : (σ.blk b).succs = []) : ItS1 c b σ := by
  have hc := itS1_built (built c) hb ho
  have hbk : (newBB (newBB σ).2).2.blk b = σ.blk b := by rw [blk_newBB, blk_newBB]
  exact { touch := hc.touch
          touchS := ((touch_scPre_val σ b hb).trans hc.touch hb (.inl rfl)).toS
          grow := hc.grow2
          len := (hc.touch.fresh2 hb).1
          thn := (hc.touch.fresh2 hb).2.1
          els := (hc.touch.fresh2 hb).2.2
          lt := by simp; omega
          opn := by rw [hbk]; exact ho
          stmts := by rw [hbk] }

/-- a residual `e'` of `src`, when temporaries below `n` are drawn -/
structure Resid (src : Expr) (n : Nat) (e' : Expr) : Prop where
  nolift : lifts e' = false
  nocall : anyCall src = false → anyCall e' = false
  vars : ∀ x ∈ vars e', x ∈ vars src ∨ ∃ k, x = .tmp k ∧ k < n

theorem Resid.mono {src e' : Expr} {n n' : Nat} (h : Resid src n e') (hn : n ≤ n') : Resid src n' e' :=
  ⟨h.nolift, h.nocall, fun x hx => (h.vars x hx).imp_right fun ⟨k, hk, hlt⟩ => ⟨k, hk, Nat.lt_of_lt_of_le hlt hn⟩⟩

theorem residual_tmp {e : Expr} {r : R} {k : Nat} (h1 : r.1 = .var (.tmp k)) (h2 : r.2.2.nextTmp = k + 1) :
    Resid e r.2.2.nextTmp r.1 := by
  rw [h1, h2]
  exact ⟨rfl, fun _ => rfl, fun x hx => .inr ⟨k, by simpa [vars] using hx, Nat.lt_succ_self _⟩⟩

theorem preBind_resid {src e : Expr} {σ : BState} (c : Bool) (b : Nat) (h : Resid src σ.nextTmp e) :
    Resid src (preBind c e b σ).2.nextTmp (preBind c e b σ).1 := by
  cases c with
  | false => exact h
  | true => exact residual_tmp (r := ((bindTmp e b σ).1, b, (bindTmp e b σ).2)) (k := σ.nextTmp) rfl rfl

theorem Resid.bi (o : BiOp) {l r a b : Expr} {n : Nat} (ha : Resid l n a) (hb : Resid r n b) :
    Resid (.bi o l r) n (.bi o a b) := by
  refine ⟨by simp only [lifts, ha.nolift, hb.nolift]; rfl, fun hc => ?_, fun x hx => ?_⟩
  · simp only [anyCall, Bool.or_eq_false_iff] at hc ⊢
    exact ⟨⟨hc.1.1, ha.nocall hc.1.2⟩, hb.nocall hc.2⟩
  · simp only [Builder.vars, List.mem_append] at hx ⊢
    exact hx.elim (fun hx => (ha.vars x hx).imp_left .inl) (fun hx => (hb.vars x hx).imp_left .inr)

theorem bld_resid (e : Expr) : ∀ {b : Nat} {σ : BState}, b < σ.len → (σ.blk b).succs = [] →
    Resid e (bld e .val b σ).2.2.nextTmp (bld e .val b σ).1 := by
  induction e with
  | var _ | num _ | bool _ | call0 _ | walrus _ _ _ =>
    intro b σ _ _; constructor <;> simp [bld, finish, lifts, anyCall, Builder.vars]
  | un o e ih =>
    intro b σ hb ho
    cases hf : foldNeg o e with
    | some n => rw [bld_un_fold hf]; constructor <;> simp [finish, lifts, anyCall, Builder.vars]
    | none =>
      rw [bld_un_none hf .val b σ fun _ => rfl]
      refine ⟨(ih hb ho).nolift, fun hc => ?_, (ih hb ho).vars⟩
      simp only [finish, anyCall, Bool.or_eq_false_iff] at hc ⊢
      exact ⟨hc.1, (ih hb ho).nocall hc.2⟩
  | bi o l r ihl ihr =>
    intro b σ hb ho
    have gp := (bld_good l b σ hb ho).bind hb (lifts r && needBind (bld l .val b σ).1 r) (bld l .val b σ).1
    have hp := preBind_resid (lifts r && needBind (bld l .val b σ).1 r) (bld l .val b σ).2.1 (ihl hb ho)
    exact Resid.bi o (hp.mono (bld_good r _ _ gp.lt gp.opn).touch.tmp) (ihr gp.lt gp.opn)
  | and l r _ _ | or l r _ _ | cmp2 o1 o2 l m r _ _ _ =>
    intro b σ _ _; exact residual_tmp rfl rfl
  | ite c x y _ _ _ =>
    intro b σ _ _; rw [bld_ite_val, iteMerge_eq]; exact residual_tmp rfl rfl

theorem bld_residual (e : Expr) : ∀ (b : Nat) (σ : BState), b < σ.len → (σ.blk b).succs = [] →
    lifts (bld e .val b σ).1 = false ∧ (anyCall e = false → anyCall (bld e .val b σ).1 = false) ∧
    ∀ x ∈ vars (bld e .val b σ).1, x ∈ vars e ∨ ∃ k, x = .tmp k ∧ k < (bld e .val b σ).2.2.nextTmp :=
  fun _ _ hb ho => ⟨(bld_resid e hb ho).nolift, (bld_resid e hb ho).nocall, (bld_resid e hb ho).vars⟩

theorem bld_nolift (e : Expr) (h : lifts e = false) : ∀ (b : Nat) (σ : BState),
    (bld e .val b σ).2 = (b, σ) ∧ ∀ (env : Env) (s : S), eval env (bld e .val b σ).1 s = eval env e s := by
  induction e with
  | var _ | num _ | bool _ | call0 _ => intro b σ; simp [bld, finish]
  | un o e ih =>
    intro b σ
    obtain ⟨h1, h2⟩ := ih h b σ
    cases hf : foldNeg o e with
    | some n =>
      obtain ⟨rfl, rfl⟩ := foldNeg_some hf
      simp [bld, foldNeg, finish, eval, applyUn, Val.toInt]
    | none =>
      rw [bld_un_none hf .val b σ fun _ => rfl]
      exact ⟨h1, fun env s => by simp only [finish, eval, h2]⟩
  | bi o l r ihl ihr =>
    intro b σ
    simp only [lifts, Bool.or_eq_false_iff] at h
    obtain ⟨h1, h2⟩ := ihl h.1 b σ
    have e1 : (bld l .val b σ).2.1 = b := congrArg Prod.fst h1
    have e2 : (bld l .val b σ).2.2 = σ := congrArg Prod.snd h1
    obtain ⟨g1, g2⟩ := ihr h.2 b σ
    simp only [bld, finish, h.2, Bool.false_and, preBind, Bool.false_eq_true, if_false, e1, e2]
    refine ⟨g1, ?_⟩
    intro env s; simp only [eval, h2, g2]
  | _ => simp [lifts] at h

end GuppyVerif.Builder
