import GuppyVerif.Lemmas.Basic
import GuppyVerif.Spec.C25
/-! `Equiv` is closed under contexts and preserves the three projections; what
`push_modifier` accumulates (`foldl_push`), so that `emit` is a function of the projections (`emit_eq`);
on that form, what is emitted for `m :: ms` is `m` put in its place in what is emitted for `ms` (`equiv_emit`). -/
namespace GuppyVerif.Modifier

theorem Equiv.append {a b : List Mod} (l r : List Mod) (h : Equiv a b) : Equiv (l ++ a ++ r) (l ++ b ++ r) := by
  induction h with
  | refl _ => exact .refl _
  | symm _ ih => exact .symm ih
  | trans _ _ ih1 ih2 => exact .trans ih1 ih2
  | daggerInv l' r' => simpa [List.append_assoc] using Equiv.daggerInv (l ++ l') (r' ++ r)
  | swap l' r' a b h => simpa [List.append_assoc] using Equiv.swap (l ++ l') (r' ++ r) a b h

theorem Equiv.append_right {a b : List Mod} (c : List Mod) (h : Equiv a b) : Equiv (a ++ c) (b ++ c) :=
  h.append [] c

theorem Equiv.append_left {a b : List Mod} (c : List Mod) (h : Equiv a b) : Equiv (c ++ a) (c ++ b) := by
  simpa using h.append c []

/-- an item in front of a block none of whose items is of its kind may stand behind it -/
theorem Equiv.move_right (x : Mod) :
    ∀ (c r : List Mod), (∀ m, m ∈ c → m.kind ≠ x.kind) → Equiv (x :: c ++ r) (c ++ x :: r)
  | [], _, _ => .refl _
  | m :: c, r, h =>
    .trans (Equiv.swap [] (c ++ r) x m (h m List.mem_cons_self).symm)
      (Equiv.append_left [m] (Equiv.move_right x c r fun m' hm' => h m' (List.mem_cons_of_mem _ hm')))

theorem powers_append (a b : List Mod) : powers (a ++ b) = powers a ++ powers b := by
  simp [powers, List.filterMap_append]
theorem controls_append (a b : List Mod) : controls (a ++ b) = controls a ++ controls b := by
  simp [controls, List.filterMap_append]

/-- of two modifiers of different kinds at most one is a power (a control): both orders list the same -/
theorem powers_swap (a b : Mod) (h : a.kind ≠ b.kind) : powers [a, b] = powers [b, a] := by
  cases a <;> cases b <;> first | rfl | exact absurd rfl h
theorem controls_swap (a b : Mod) (h : a.kind ≠ b.kind) : controls [a, b] = controls [b, a] := by
  cases a <;> cases b <;> first | rfl | exact absurd rfl h
theorem count_swap (a b : Mod) : List.count Mod.dagger [a, b] = List.count Mod.dagger [b, a] := by
  simp [List.count_cons]; omega

theorem append_pair (l r : List Mod) (a b : Mod) : l ++ a :: b :: r = l ++ [a, b] ++ r := by simp

theorem Equiv.invariants {a b : List Mod} (h : Equiv a b) :
    daggered a = daggered b ∧ powers a = powers b ∧ controls a = controls b := by
  induction h with
  | refl l => exact ⟨rfl, rfl, rfl⟩
  | symm _ ih => exact ⟨ih.1.symm, ih.2.1.symm, ih.2.2.symm⟩
  | trans _ _ ih1 ih2 => exact ⟨ih1.1.trans ih2.1, ih1.2.1.trans ih2.2.1, ih1.2.2.trans ih2.2.2⟩
  | daggerInv l r =>
    refine ⟨?_, ?_, ?_⟩
    · simp only [daggered, List.count_append, List.count_cons_self]
      congr 1; omega
    · simp [powers, List.filterMap_append]
    · simp [controls, List.filterMap_append]
  | swap l r a b h =>
    refine ⟨?_, ?_, ?_⟩
    · rw [append_pair l r a b, append_pair l r b a]
      simp only [daggered, List.count_append, count_swap a b]
    · rw [append_pair l r a b, append_pair l r b a]
      simp only [powers_append, powers_swap a b h]
    · rw [append_pair l r a b, append_pair l r b a]
      simp only [controls_append, controls_swap a b h]

theorem foldl_push (ms : List Mod) (p : Pushed) :
    ms.foldl push p =
      ⟨p.dagger + ms.count Mod.dagger, p.power ++ powers ms, p.control ++ controls ms⟩ := by
  induction ms generalizing p with
  | nil => simp [powers, controls]
  | cons m ms ih =>
    rw [List.foldl_cons, ih]
    cases m <;> simp [push, powers, controls, Nat.add_comm, Nat.add_left_comm]

theorem pushAll_eq (ms : List Mod) :
    pushAll ms = ⟨ms.count Mod.dagger, powers ms, controls ms⟩ := by
  simp [pushAll, foldl_push]

theorem emit_eq (ms : List Mod) :
    emit ms = (if daggered ms then [Mod.dagger] else []) ++ (powers ms).map Mod.power ++
      (controls ms).map fun c => Mod.control c.1 c.2 := by
  simp only [emit, pushAll_eq, emitPushed, daggered, beq_iff_eq]

theorem emit_congr {a b : List Mod} (hd : daggered a = daggered b) (hp : powers a = powers b)
    (hc : controls a = controls b) : emit a = emit b := by
  rw [emit_eq, emit_eq, hd, hp, hc]

theorem daggered_dagger (ms : List Mod) : daggered (.dagger :: ms) = !daggered ms := by
  simp only [daggered, List.count_cons_self]
  rcases Nat.mod_two_eq_zero_or_one (ms.count .dagger) with h | h <;> simp [Nat.add_mod, h]

theorem equiv_emit : ∀ ms : List Mod, Equiv ms (emit ms)
  | [] => .refl _
  | m :: ms => by
    refine .trans (Equiv.append_left [m] (equiv_emit ms)) ?_
    rw [emit_eq, emit_eq]
    cases m with
    | dagger =>
      -- a second dagger in front cancels the first
      rw [daggered_dagger]
      cases daggered ms
      · exact .refl _
      · exact Equiv.daggerInv [] _
    | power e =>
      -- at most one dagger stands before the powers
      have : daggered (.power e :: ms) = daggered ms := by simp [daggered]
      rw [this]
      cases daggered ms
      · exact .refl _
      · exact Equiv.swap [] _ _ _ (by simp [Mod.kind])
    | control i n =>
      -- the dagger, if any, and the powers stand before the controls: none is of its kind
      have : daggered (.control i n :: ms) = daggered ms := by simp [daggered]
      rw [this]
      have := Equiv.move_right (.control i n) ((if daggered ms then [Mod.dagger] else []) ++ (powers ms).map Mod.power)
        ((controls ms).map fun c => Mod.control c.1 c.2) (by
          intro m hm
          rcases List.mem_append.mp hm with h | h
          · split at h <;> simp at h; subst h; simp [Mod.kind]
          · obtain ⟨e, _, rfl⟩ := List.mem_map.mp h; simp [Mod.kind])
      simpa [controls, powers] using this

theorem fnInputs_eq (cs : List (Nat × Nat)) (vs : List Var) :
    fnInputs cs vs = cs.reverse.map (fun c => Slot.ctrl c.1 c.2) ++ (order vs).map Slot.cap :=
  List.foldl_prepend _ cs _

theorem fnOutputs_eq (cs : List (Nat × Nat)) (vs : List Var) :
    fnOutputs cs vs = cs.reverse.map (fun c => Slot.ctrl c.1 c.2) ++
      ((order vs).filter (fun v => !v.copyable)).map Slot.cap :=
  List.foldl_prepend _ cs _

end GuppyVerif.Modifier
