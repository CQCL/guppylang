import GuppyVerif.Lemmas.C06Sound
/-! C06: the internal outcome `crash` (a place that is in no scope) cannot occur on
    a well-kinded CFG: `KindsOK` makes the block signatures cover what is read (`willUse_row`),
    and a read of a place in no scope can only be the first event of its leaf in the block
    (`Stuck.crash_head`). -/
namespace GuppyVerif.Linearity

theorem checkBlock_no_crash {P : Prog} (hw : P.WF) (hk : P.KindsOK) {b : Blk} (hb : b ∈ P.blocks) :
    checkBlock P b ≠ .error .crash := by
  intro h
  have hr := checkBlock_reads P b
  rw [h] at hr
  obtain ⟨l, hf⟩ := hr.resolve_left fun h => h.1 rfl
  obtain ⟨hp, hv0, hhead⟩ := hf.crash_head
  obtain ⟨k, r, hes⟩ : ∃ k r, (P.stmts b).flatMap (Stmt.evs l) = ⟨.use, k⟩ :: r := head_isUse_iff.mp hhead
  have hrow : l ∈ P.row b := by
    refine willUse_row hw hk hb (.here ?_)
    unfold Prog.blockEvs
    rw [hes]
    rfl
  by_cases he : b = P.entry
  · subst he
    rw [initScope_proj_entry] at hv0
    simp [hrow] at hv0
  · rw [(initScope_parent_other he).1] at hp
    simp [hrow] at hp

theorem scopes_no_crash {P : Prog} (hw : P.WF) (hk : P.KindsOK) : scopes P ≠ .error .crash := by
  intro h
  rcases scopes_err hw h with ⟨b, hb, h2⟩ | ⟨hex, -, hn⟩
  · exact checkBlock_no_crash hw hk hb h2
  · -- the exit block hands the borrowed leaves back, so its row holds them
    exact hn fun x hx => willUse_row hw hk hex (willUse_exit hw hx)

/-- what is live at a block is read later, so it is in the block's row: bound by the entry, in the
    parent scope of any other block -/
theorem lookupsOK {P : Prog} (hw : P.WF) (hk : P.KindsOK) (C : Tables P [])
    {b : Blk} (hb : b ∈ P.blocks) : LookupsOK P C.live b (C.sc b) := by
  have hrow : ∀ x, x ∈ C.live b → x ∈ P.row b := fun x hx =>
    willUse_row hw hk hb (live_willUse hw C hb hx)
  have hpar : b ≠ P.entry → ∀ x, x ∈ P.row b → x ∈ (C.sc b).parent := fun he x hr =>
    ((C.block b hb).parent_other he).1 ▸ hr
  refine ⟨fun c hc x hx _ => ?_, fun he _ x hx => hpar he x (hrow x hx)⟩
  by_cases hv : x ∈ (C.sc b).vars
  · exact Or.inl hv
  · have hr := hrow x ((C.live_eq hw hb).mpr (Or.inr ⟨hv, c, hc, hx⟩))
    by_cases he : b = P.entry
    · subst he; exact absurd ((C.block _ hb).entry_vars hr) hv
    · exact Or.inr (hpar he x hr)

theorem checkCfg_no_crash {P : Prog} (hw : P.WF) (hk : P.KindsOK) (hgap : NoGap P) :
    checkCfg P ≠ .error .crash := by
  intro h
  rw [checkCfg_eq, liveDefault_nil hgap] at h
  rcases checkWith_judges hw (init := []) nofun with ⟨e', hs, he⟩ | ⟨C, hj⟩
  · cases he.symm.trans h; exact scopes_no_crash hw hk hs
  · exact Judges.crash_iff.mp (h ▸ hj) fun b hb => lookupsOK hw hk C hb

end GuppyVerif.Linearity
