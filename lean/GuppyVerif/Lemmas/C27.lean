import GuppyVerif.Lemmas.Basic
import GuppyVerif.Spec.C27
/-! The cell operations on a cell of known content; `RepH`, the representation of an entry list in
    a buffer with taken cells; `Slots.rep`; the Stack refinement. -/
namespace GuppyVerif.Coll
variable {β : Type}

theorem swap_of_get {buf : List (Option β)} {i : Nat} {o new : Option β} (h : buf[i]? = some o) :
    swap buf i new = .ok (o, buf.set i new) := by
  obtain ⟨hi, rfl⟩ := List.getElem?_eq_some_iff.mp h
  simp [swap, hi]

theorem takeUnwrap_of_get {buf : List (Option β)} {i : Nat} {x : β} (h : buf[i]? = some (some x)) :
    takeUnwrap buf i = .ok (x, buf.set i none) := by
  simp [takeUnwrap, take, swap_of_get h, unwrap]

theorem put_of_get {buf : List (Option β)} {i : Nat} {x : β} (h : buf[i]? = some none) :
    put buf i x = .ok (buf.set i (some x)) := by
  simp [put, swap_of_get h, unwrapNothing]

theorem read_of_get {buf : List (Option β)} {i : Nat} {o : Option β} (h : buf[i]? = some o) :
    read buf i = .ok o := by
  obtain ⟨hi, rfl⟩ := List.getElem?_eq_some_iff.mp h
  simp [read, hi]

theorem allNothing_replicate (n : Nat) : allNothing (List.replicate n (none : Option β)) = .ok () := by
  induction n with
  | zero => rfl
  | succ n ih =>
    simp [List.replicate_succ, allNothing, unwrapNothing, ih]

/-- representation of the entry list `a` in a buffer of `cap` cells: cell `j` holds `a[j]?`
    (`nothing` beyond `a.length`), except that the cells whose index is in `H` have been taken
    (`nothing`).  The value of `a` at a hole is irrelevant. -/
def RepH (cap : Nat) (buf : List (Option β)) (a : List β) (H : List Nat) : Prop :=
  buf.length = cap ∧ a.length ≤ cap ∧ ∀ j, j < cap → buf[j]? = some (if j ∈ H then none else a[j]?)

abbrev Rep (cap : Nat) (buf : List (Option β)) (a : List β) : Prop := RepH cap buf a []

section
variable {cap : Nat} {buf : List (Option β)} {a a' : List β} {H H' : List Nat} {i : Nat}

theorem RepH.length_eq (h : RepH cap buf a H) : buf.length = cap := h.1

theorem RepH.le_cap (h : RepH cap buf a H) : a.length ≤ cap := h.2.1

theorem RepH.cell (h : RepH cap buf a H) {j : Nat} (hj : j < cap) :
    buf[j]? = some (if j ∈ H then none else a[j]?) := h.2.2 j hj

theorem Rep.get (h : Rep cap buf a) {j : Nat} (hj : j < cap) : buf[j]? = some a[j]? := by
  simpa using h.cell hj

theorem RepH.of_eq (h : RepH cap buf a H) (hl : a'.length ≤ cap)
    (he : ∀ j, j < cap → (if j ∈ H' then none else a'[j]?) = if j ∈ H then none else a[j]?) :
    RepH cap buf a' H' :=
  ⟨h.length_eq, hl, fun j hj => by rw [h.cell hj, he j hj]⟩

theorem RepH.set_hole {cap : Nat} {buf : List (Option β)} {a : List β} {H : List Nat} {i : Nat} (z : β)
    (h : RepH cap buf a H) (hH : i ∈ H) : RepH cap buf (a.set i z) H :=
  h.of_eq (by simpa using h.le_cap) fun j _ => by
    rw [List.getElem?_set]
    by_cases e : i = j
    · subst e; simp [hH]
    · simp [e]

theorem RepH.set {o : Option β} (h : RepH cap buf a H) (hi : i < cap) (hl : a'.length ≤ cap)
    (hi' : (if i ∈ H' then none else a'[i]?) = o)
    (he : ∀ j, j ≠ i → (if j ∈ H' then none else a'[j]?) = if j ∈ H then none else a[j]?) :
    RepH cap (buf.set i o) a' H' := by
  refine ⟨by simpa using h.length_eq, hl, fun j hj => ?_⟩
  rw [List.getElem?_set]
  by_cases e : i = j
  · subst e; simp [h.length_eq, hi, hi']
  · rw [if_neg e, h.cell hj, he j (Ne.symm e)]

theorem RepH.take {x : β} (h : RepH cap buf a H) (hi : a[i]? = some x) (hH : i ∉ H) :
    takeUnwrap buf i = .ok (x, buf.set i none) ∧ RepH cap (buf.set i none) a (i :: H) := by
  have hic : i < cap := Nat.lt_of_lt_of_le (List.getElem?_eq_some_iff.mp hi).1 h.le_cap
  refine ⟨takeUnwrap_of_get (by rw [h.cell hic]; simp [hH, hi]), h.set hic h.le_cap (by simp) ?_⟩
  intro j hj; simp [hj]

/-- the holes are given up to permutation as `i` and the others (`.refl`, `.swap` in the uses) -/
theorem RepH.put (x : β) (h : RepH cap buf a H) (hi : i < a.length) (hH : H.Perm (i :: H'))
    (hi' : i ∉ H') : Coll.put buf i x = .ok (buf.set i (some x)) ∧
      RepH cap (buf.set i (some x)) (a.set i x) H' := by
  have hic : i < cap := Nat.lt_of_lt_of_le hi h.le_cap
  refine ⟨put_of_get (by rw [h.cell hic]; simp [hH.mem_iff]),
    h.set hic (by simpa using h.le_cap) (by simp [hi, hi']) ?_⟩
  intro j hj; simp [hj, Ne.symm hj, hH.mem_iff]

theorem RepH.put_back {x : β} (h : RepH cap buf a H) (hx : a[i]? = some x) (hH : H.Perm (i :: H'))
    (hi' : i ∉ H') : Coll.put buf i x = .ok (buf.set i (some x)) ∧ RepH cap (buf.set i (some x)) a H' := by
  obtain ⟨hi, rfl⟩ := List.getElem?_eq_some_iff.mp hx
  have := h.put a[i] hi hH hi'
  rwa [List.set_getElem_self] at this

theorem RepH.dropLast (h : RepH cap buf a H) (hH : H.Perm ((a.length - 1) :: H'))
    (hi' : a.length - 1 ∉ H') : RepH cap buf a.dropLast H' := by
  refine h.of_eq (by have := h.le_cap; simp; omega) fun j _ => ?_
  by_cases e : j = a.length - 1
  · subst e; simp [hi', hH.mem_iff]
  · by_cases hm : j ∈ H'
    · simp [hm, hH.mem_iff]
    · by_cases hl : j < a.length - 1
      · simp [hm, e, hl, hH.mem_iff]
      · simp [hm, e, hl, hH.mem_iff]; omega

theorem RepH.snoc (x : β) (h : RepH cap buf a H) (hl : a.length < cap) :
    RepH cap buf (a ++ [x]) (a.length :: H) := by
  refine h.of_eq (by simp; omega) fun j _ => ?_
  by_cases e : j = a.length
  · subst e; simp
  · by_cases hlt : j < a.length
    · simp [e, List.getElem?_append_left hlt]
    · have : (a ++ [x]).length ≤ j := by simp; omega
      simp [e, List.getElem?_eq_none this, List.getElem?_eq_none (Nat.le_of_not_lt hlt)]

theorem Rep.empty (cap : Nat) : Rep cap (List.replicate cap (none : Option β)) [] :=
  ⟨by simp, by simp, fun j hj => by simp [hj]⟩

theorem Rep.push (h : Rep cap buf a) (hl : a.length < cap) (x : β) :
    put buf a.length x = .ok (buf.set a.length (some x)) ∧
      Rep cap (buf.set a.length (some x)) (a ++ [x]) := by
  exact (h.snoc x hl).put_back (x := x) (by simp) (.refl _) List.not_mem_nil

theorem Rep.popLast {x : β} (h : Rep cap buf (a ++ [x])) :
    takeUnwrap buf a.length = .ok (x, buf.set a.length none) ∧ read buf a.length = .ok (some x) ∧
      Rep cap (buf.set a.length none) a := by
  have hx : (a ++ [x])[a.length]? = some x := by simp
  have hc : a.length < cap := by have := h.le_cap; simp at this; omega
  obtain ⟨ht, hr⟩ := RepH.take h hx (by simp)
  refine ⟨ht, read_of_get (by rw [h.get hc, hx]), ?_⟩
  simpa using hr.dropLast (a := a ++ [x]) (H' := []) (by simp) (by simp)

theorem Rep.eq_append (h : Rep cap buf a) :
    buf = a.map some ++ List.replicate (cap - a.length) none := by
  have h2 := h.le_cap
  apply List.ext_getElem?
  intro j
  by_cases hj : j < cap
  · rw [h.get hj, List.getElem?_append, List.getElem?_replicate]
    by_cases hlt : j < a.length
    · simp [hlt]
    · simp [hlt]; omega
  · have : cap ≤ j := Nat.le_of_not_lt hj
    rw [List.getElem?_eq_none (by rw [h.length_eq]; exact this),
      List.getElem?_eq_none (by simp; omega)]

theorem Rep.allNothing (h : Rep cap buf []) : allNothing buf = .ok () := by
  rw [show buf = List.replicate cap none by simpa using h.eq_append]
  exact allNothing_replicate cap

theorem Rep.entries_eq (h : Rep cap buf a) : entries buf = a := by
  simp [h.eq_append, entries, List.filterMap_append, List.filterMap_map]

theorem Rep.slots (h : Rep cap buf a) : Slots cap buf a.length := by
  refine ⟨h.length_eq, h.le_cap, fun j hj => ⟨a[j], ?_⟩, fun j hj hc => ?_⟩
  · rw [h.get (Nat.lt_of_lt_of_le hj h.le_cap)]; simp [hj]
  · rw [h.get hc]; simp [List.getElem?_eq_none hj]

/-- peel the stored cells off from the last one, and put them back with `Rep.push` -/
theorem Slots.exists_rep : ∀ (size : Nat) (buf : List (Option β)), Slots cap buf size →
    ∃ a, Rep cap buf a ∧ a.length = size := by
  intro size
  induction size with
  | zero =>
    intro buf ⟨h1, _, _, h4⟩
    exact ⟨[], ⟨h1, Nat.zero_le _, fun j hj => by simp [h4 j (Nat.zero_le _) hj]⟩, rfl⟩
  | succ n ih =>
    intro buf ⟨h1, h2, h3, h4⟩
    obtain ⟨x, hx⟩ := h3 n (Nat.lt_succ_self n)
    obtain ⟨hn, hx'⟩ := List.getElem?_eq_some_iff.mp hx
    have hs : Slots cap (buf.set n none) n := by
      refine ⟨by simpa using h1, by omega, fun j hj => ?_, fun j hj hc => ?_⟩
      · rw [List.getElem?_set_ne (by omega)]; exact h3 j (by omega)
      · rw [List.getElem?_set]
        by_cases e : n = j
        · subst e; simp [hn]
        · rw [if_neg e]; exact h4 j (by omega) hc
    obtain ⟨a, hr, hl⟩ := ih _ hs
    have := (hr.push (by omega) x).2
    rw [hl, List.set_set, ← hx', List.set_getElem_self] at this
    exact ⟨a ++ [x], this, by simp [hl]⟩

theorem Slots.rep {size : Nat} (h : Slots cap buf size) :
    Rep cap buf (entries buf) ∧ (entries buf).length = size := by
  obtain ⟨a, hr, hl⟩ := Slots.exists_rep size buf h
  rw [hr.entries_eq]; exact ⟨hr, hl⟩

end

variable {α : Type}

/-- a stack state represents the bottom-first list `b` -/
def StackRep (cap : Nat) (s : Stack α) (b : List α) : Prop := s.end_ = b.length ∧ Rep cap s.buf b

theorem StackRep.empty (cap : Nat) : StackRep cap (Stack.empty cap : Stack α) [] :=
  ⟨rfl, Rep.empty cap⟩

theorem Stack.push_of_full {cap : Nat} {s : Stack α} (hc : cap ≤ s.end_) (x : α) :
    s.push cap x = .error .capacity := by
  simp [Stack.push, show s.end_ ≥ cap from hc]

theorem Stack.pop_of_empty {s : Stack α} (h0 : s.end_ = 0) : s.pop = .error .empty := by
  simp [Stack.pop, h0]

theorem Stack.peek_of_empty {s : Stack α} (h0 : s.end_ = 0) : s.peek = .error .empty := by
  simp [Stack.peek, h0]

theorem StackRep.push_ok {cap : Nat} {s : Stack α} {b : List α} (h : StackRep cap s b)
    (hl : b.length < cap) (x : α) :
    ∃ s', s.push cap x = .ok s' ∧ StackRep cap s' (b ++ [x]) := by
  obtain ⟨he, hr⟩ := h
  obtain ⟨hp, hr'⟩ := hr.push hl x
  have : ¬ s.end_ ≥ cap := by rw [he]; omega
  refine ⟨⟨s.buf.set b.length (some x), s.end_ + 1⟩, ?_, ?_, hr'⟩
  · simp [Stack.push, he, hp]
    omega
  · simp [he]

theorem StackRep.next_empty {cap : Nat} {s : Stack α} (h : StackRep cap s []) : s.next = .ok none := by
  have he : s.end_ = 0 := h.1
  simp [Stack.next, Stack.len, Stack.discardEmpty, he, h.2.allNothing]

theorem StackRep.pop_ok {cap : Nat} {s : Stack α} {b : List α} {x : α}
    (h : StackRep cap s (b ++ [x])) :
    (∃ s', s.pop = .ok (x, s') ∧ s.next = .ok (some (x, s')) ∧ StackRep cap s' b) ∧
      s.peek = .ok (x, s) := by
  obtain ⟨he, hr⟩ := h
  simp at he
  obtain ⟨ht, hrd, hr'⟩ := hr.popLast
  have h0 : ¬ s.end_ ≤ 0 := by omega
  have h1 : s.end_ - 1 = b.length := by omega
  have hpop : s.pop = .ok (x, ⟨s.buf.set b.length none, b.length⟩) := by
    simp [Stack.pop, h0, h1, ht]
  refine ⟨⟨⟨s.buf.set b.length none, b.length⟩, hpop, ?_, rfl, hr'⟩, ?_⟩
  · have : (s.len == 0) = false := by simp [Stack.len]; omega
    simp [Stack.next, this, hpop]
  · simp [Stack.peek, h0, h1, hrd, unwrap]

theorem Slots.stackRep {cap : Nat} {s : Stack α} (h : Slots cap s.buf s.end_) :
    StackRep cap s (entries s.buf) :=
  ⟨h.rep.2.symm, h.rep.1⟩

theorem runStack_eq_spec (cap : Nat) (ops : List (Op α)) :
    ∀ (s : Stack α) (b : List α), StackRep cap s b → runStack cap s ops = specStack cap b.reverse ops := by
  induction ops with
  | nil => intro s b _; rfl
  | cons op ops ih =>
    intro s b h
    cases op with
    | push v p =>
      by_cases hl : cap ≤ b.length
      · simp [runStack, specStack, Stack.push_of_full (h.1 ▸ hl) v, hl]
      · obtain ⟨s', hp, hr'⟩ := h.push_ok (Nat.lt_of_not_le hl) v
        have := ih s' _ hr'
        simp [runStack, specStack, hp, hl, this]
    | pop =>
      rcases List.nil_or_snoc b with rfl | ⟨b', x, rfl⟩
      · simp [runStack, specStack, Stack.pop_of_empty h.1]
      · obtain ⟨⟨s', hp, _, hr'⟩, _⟩ := h.pop_ok
        simp [runStack, specStack, hp, ih s' _ hr']
    | peek =>
      rcases List.nil_or_snoc b with rfl | ⟨b', x, rfl⟩
      · simp [runStack, specStack, Stack.peek_of_empty h.1]
      · have := ih s _ h
        simp at this
        simp [runStack, specStack, h.pop_ok.2, this]
    | len =>
      have := ih s _ h
      simp [runStack, specStack, Stack.len, h.1, this]
    | next =>
      rcases List.nil_or_snoc b with rfl | ⟨b', x, rfl⟩
      · simp [runStack, specStack, h.next_empty]
      · obtain ⟨⟨s', _, hn, hr'⟩, _⟩ := h.pop_ok
        simp [runStack, specStack, hn, ih s' _ hr']

end GuppyVerif.Coll

