import GuppyVerif.Lemmas.C06Leaf
/-! C06: what the shape of the input gives, before any run of the checker — consequences of
    `Prog.WF` and `Prog.KindsOK` for events, traces and walks (no block starts with a `give` of a
    row leaf: `blockEvs_notGive`, needed once, for soundness' `noLeak` at the entry block; the
    rows cover what is read: `willUse_row`), the shape `NoGap`
    of the completeness theorem, and the glue for evaluated hypotheses: `wf_of_wfb` (its sibling
    `kindsOK_of_b` is in Props/C06), `accepts_iff`, `ok_of_eval`, `err_of_eval`. -/
namespace GuppyVerif.Linearity

theorem liveDefault_sub (P : Prog) : ∀ x ∈ liveDefault P, x ∈ P.borrowedLeaves := by
  intro x hx
  unfold liveDefault at hx
  split at hx
  · cases hx
  · exact hx

/-- the exit can be reached from this block -/
inductive ReachExit (P : Prog) : Blk → Prop
  | exit : ReachExit P P.exit
  | step {b c : Blk} : c ∈ P.succ b → ReachExit P c → ReachExit P b

/-- the shape outside the two known completeness gaps of the code (G1, G2: borrowed arguments
    in functions with non-terminating regions): no borrowed leaf at all, or the exit is
    reachable from every block (and flagged so) -/
def NoGap (P : Prog) : Prop :=
  P.borrowedLeaves = [] ∨ (P.exitReachable = true ∧ ∀ b ∈ P.blocks, ReachExit P b)

theorem liveDefault_nil {P : Prog} (hgap : NoGap P) : liveDefault P = [] := by
  unfold liveDefault
  rcases hgap with h | ⟨h, _⟩
  · simp [h]
  · simp [h]

theorem mem_leafEvs {op : Op} {x : Ev} {l : Leaf} {ls : List (Leaf × Bool)} (h : x ∈ leafEvs op l ls) :
    x.op = op := by
  unfold leafEvs at h
  simp only [List.mem_flatMap] at h
  obtain ⟨y, _, hy⟩ := h
  split at hy <;> simp at hy
  rw [hy]

theorem leafEvs_eq_nil {op : Op} {l : Leaf} {ls : List (Leaf × Bool)} :
    leafEvs op l ls = [] ↔ ∀ xk ∈ ls, xk.1 ≠ l := by
  unfold leafEvs
  simp only [List.flatMap_eq_nil_iff]
  constructor
  · intro h xk hm e
    have := h xk hm
    simp [e] at this
  · intro h xk hx
    simp [h xk hx]

def NotGive (es : List Ev) : Prop := ∀ e, es.head? = some e → e.op ≠ Op.give

theorem notGive_append {es fs : List Ev} (h1 : NotGive es) (h2 : es = [] → NotGive fs) : NotGive (es ++ fs) := by
  cases es with
  | nil => simpa using h2 rfl
  | cons x es => intro e he; exact h1 e (by simpa using he)

theorem notGive_of_all {es : List Ev} {op : Op} (hop : op ≠ Op.give) (h : ∀ x ∈ es, x.op = op) : NotGive es := by
  intro e he
  cases es with
  | nil => simp at he
  | cons x es =>
    simp at he
    subst he
    rw [h x List.mem_cons_self]; exact hop

theorem acts_notGive (l : Leaf) (rowIds : List Leaf) (hr : l ∈ rowIds) : ∀ (acts : List Act) (seen : List Leaf),
    actsWf rowIds seen acts = true → l ∉ seen → NotGive (acts.flatMap (Act.evs l)) := by
  intro acts
  induction acts with
  | nil => intro _ _ _ e he; simp at he
  | cons a acts ih =>
    intro seen hwf hl
    rw [List.flatMap_cons]
    cases a with
    | use p borrow =>
      simp only [actsWf] at hwf
      refine notGive_append (notGive_of_all (op := Op.use) (by decide) fun x hx => mem_leafEvs hx) fun hnil => ?_
      refine ih _ hwf ?_
      simp only [Act.evs] at hnil
      rw [leafEvs_eq_nil] at hnil
      simp only [List.mem_append, List.mem_map, not_or, not_exists, not_and]
      exact ⟨hl, fun xk hxk e => hnil xk hxk e⟩
    | give p =>
      simp only [actsWf, Bool.and_eq_true, List.all_eq_true] at hwf
      have hnil : Act.evs l (Act.give p) = [] := by
        simp only [Act.evs]
        rw [leafEvs_eq_nil]
        intro xk hxk e
        have := hwf.1 xk hxk
        rw [e] at this
        simp only [Bool.or_eq_true, List.contains_iff_mem, Bool.not_eq_true'] at this
        rcases this with h | h
        · exact hl h
        · have : rowIds.contains l = true := by simpa using hr
          rw [h] at this; cases this
      rw [hnil]
      simpa using ih seen hwf.2 hl
    | dropAfter =>
      simp only [actsWf] at hwf
      simpa [Act.evs] using ih seen hwf hl
    | moveOut =>
      simp only [actsWf] at hwf
      simpa [Act.evs] using ih seen hwf hl

theorem stmt_notGive {l : Leaf} {rowIds : List Leaf} (hr : l ∈ rowIds) {st : Stmt}
    (h : actsWf rowIds [] st.acts = true) : NotGive (st.evs l) := by
  unfold Stmt.evs
  refine notGive_append (acts_notGive l rowIds hr st.acts [] h (by simp)) fun _ => ?_
  refine notGive_of_all (op := Op.asg) (by decide) ?_
  intro x hx
  simp only [List.mem_flatMap] at hx
  obtain ⟨t, _, ht⟩ := hx
  exact mem_leafEvs ht

theorem flatMap_notGive {α : Type} (f : α → List Ev) : ∀ as : List α, (∀ a ∈ as, NotGive (f a)) →
    NotGive (as.flatMap f) := by
  intro as
  induction as with
  | nil => intro _ e he; simp at he
  | cons a as ih =>
    intro h
    rw [List.flatMap_cons]
    exact notGive_append (h a List.mem_cons_self) fun _ => ih fun b hb => h b (List.mem_cons_of_mem _ hb)

theorem blockEvs_notGive {P : Prog} (hw : P.WF) (l : Leaf) (hr : l ∈ P.rowIds) {b : Blk} (hb : b ∈ P.blocks) :
    NotGive (P.blockEvs l b) := by
  unfold Prog.blockEvs
  refine notGive_append (flatMap_notGive _ _ fun st hst => stmt_notGive hr (hw.acts b hb st hst)) fun _ => ?_
  split
  · intro e he; simp at he; rw [← he]; intro h; cases h
  · intro e he; simp at he

theorem blockEvs_head_of_held {P : Prog} (hw : P.WF) {l : Leaf} (hr : l ∈ P.rowIds) {b : Blk} (hb : b ∈ P.blocks)
    {o1 : Bool} (h : runEvs true (P.blockEvs l b) = some o1) :
    P.blockEvs l b = [] ∨ (P.blockEvs l b).head?.map Ev.isUse = some true := by
  cases hev : P.blockEvs l b with
  | nil => exact .inl rfl
  | cons e es =>
    rcases e with ⟨op, el⟩
    cases op with
    | use => exact .inr rfl
    | give => exact absurd rfl (blockEvs_notGive hw l hr hb ⟨Op.give, el⟩ (by rw [hev]; rfl))
    | asg => simp [hev, runEvs, Ev.step] at h

theorem mem_rowIds_of_row {P : Prog} {b : Blk} (hb : b ∈ P.blocks) {l : Leaf} (h : l ∈ P.row b) : l ∈ P.rowIds := by
  unfold Prog.rowIds
  exact List.mem_append_right _ (List.mem_flatMap.mpr ⟨b, hb, h⟩)

theorem rowKind_true {P : Prog} {b : Blk} {l : Leaf} :
    P.rowKind b l = some true ↔ l ∈ P.row b ∧ l ∈ P.rowLin b := by
  unfold Prog.rowKind
  by_cases hr : l ∈ P.row b
  · by_cases hl : l ∈ P.rowLin b <;> simp [hr, hl]
  · simp [hr]

theorem trace_snoc (P : Prog) (l : Leaf) (bs : List Blk) (b : Blk) :
    P.trace l (bs ++ [b]) = P.trace l bs ++ P.blockEvs l b := by
  unfold Prog.trace; simp

theorem runEvs_trace_snoc {P : Prog} {l : Leaf} {bs : List Blk} {b : Blk} {o0 o : Bool}
    (h : runEvs o0 (P.trace l bs) = some o) : runEvs o0 (P.trace l (bs ++ [b])) = runEvs o (P.blockEvs l b) := by
  rw [trace_snoc, runEvs_append, h]; rfl

theorem walk_blocks {P : Prog} (hw : P.WF) {bs : List Blk} {b : Blk} (h : Walk P bs b) : b ∈ P.blocks := by
  induction h with
  | entry => exact hw.entryIn
  | step _ hcb ih => exact hw.closed _ ih _ hcb

theorem walk_entry {P : Prog} (hw : P.WF) {bs : List Blk} {b : Blk} (h : Walk P bs b) :
    b = P.entry → bs = [] := by
  cases h with
  | entry => exact fun _ => rfl
  | @step bs b c hwk hcb => exact fun e => absurd (e ▸ hcb) (hw.entryNoPred b (walk_blocks hw hwk))

theorem blockEvs_exit {P : Prog} (hw : P.WF) (l : Leaf) : P.blockEvs l P.exit =
    if l ∈ P.borrowedLeaves then [⟨Op.use, (P.rowLin P.exit).contains l⟩] else [] := by
  unfold Prog.blockEvs; rw [hw.exitStmts]; simp

theorem willUse_exit {P : Prog} (hw : P.WF) {l : Leaf} (hb : l ∈ P.borrowedLeaves) : WillUse P l P.exit :=
  .here (by rw [blockEvs_exit hw, if_pos hb]; rfl)

theorem rowKind_some {P : Prog} {b : Blk} {l : Leaf} {k : Bool} (h : P.rowKind b l = some k) : l ∈ P.row b := by
  unfold Prog.rowKind at h
  by_cases hr : l ∈ P.row b
  · exact hr
  · simp [hr] at h

theorem willUse_row {P : Prog} (hw : P.WF) (hk : P.KindsOK) {l : Leaf} {b : Blk} (hb : b ∈ P.blocks)
    (h : WillUse P l b) : l ∈ P.row b := by
  induction h with
  | @here b hh =>
    obtain ⟨el, r, hev⟩ := head_isUse_iff.mp hh
    obtain ⟨k1, hk1, _⟩ := hk.blocks l b hb
    rw [hev] at hk1
    obtain ⟨_, hke, _⟩ := krun_cons_some.mp hk1
    exact rowKind_some (Ev.kstep_use hke).1
  | @later b c hev hcb _ ih =>
    obtain ⟨k1, hk1, hs⟩ := hk.blocks l b hb
    rw [hev] at hk1
    cases hk1
    have hc := ih (hw.closed b hb c hcb)
    have := hs c hcb hc
    rw [Prog.rowKind, if_pos (by simpa using hc)] at this
    exact rowKind_some this.symm

theorem Reachable.entry (P : Prog) : Reachable P P.entry := ⟨_, .entry⟩

theorem Reachable.step {P : Prog} {b c : Blk} (h : Reachable P b) (hc : c ∈ P.succ b) : Reachable P c :=
  h.elim fun _ hw => ⟨_, .step hw hc⟩

theorem err_of_eval {r : R Unit} {e : Err} (h : (match r with | .error e => some e | .ok _ => none) = some e) :
    r = .error e := by
  cases r with
  | error e' => exact congrArg _ (Option.some.inj h)
  | ok u => cases h

theorem ok_of_eval {r : R Unit} (h : (match r with | .ok _ => true | .error _ => false) = true) : r = .ok () := by
  cases r with
  | ok u => rfl
  | error e => cases h

theorem wf_of_wfb {P : Prog} (h : P.wfb = true) : P.WF := by
  unfold Prog.wfb at h
  simp only [Bool.and_eq_true, List.all_eq_true, List.contains_iff_mem, Bool.not_eq_true',
    bne_iff_ne, ne_eq, List.isEmpty_iff, Bool.or_eq_true, beq_iff_eq] at h
  obtain ⟨⟨⟨⟨⟨⟨⟨h0, h1⟩, h2⟩, h3⟩, h4⟩, h5⟩, h6⟩, h7⟩ := h
  refine ⟨h0, h1, h2, ?_, h4, h5, h6, ?_⟩
  · intro b hb hm
    have := h3 b hb
    simp [hm] at this
  · intro b hb hne hs
    rcases h7 b hb with h | h
    · exact hne h
    · simp [hs] at h

theorem accepts_iff {P : Prog} : accepts P = true ↔ checkCfg P = .ok () := by
  unfold accepts
  cases checkCfg P with
  | error e => simp
  | ok u => cases u; simp

end GuppyVerif.Linearity
