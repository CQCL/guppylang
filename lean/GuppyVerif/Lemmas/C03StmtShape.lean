import GuppyVerif.Lemmas.C03ExprShape
import GuppyVerif.Lemmas.C03For
/-! # C03: structural invariants of `build`: what a statement built from an open block leaves alone, and that the
    blocks it creates are well shaped and have predecessors (`builtS`) -/
namespace GuppyVerif.Builder
open GuppyVerif.Surface

structure GoodS (σ : BState) (b : Nat) (r : BState × Option Nat) : Prop where
  touch : TouchS σ b r.1
  cur : ∀ b', r.2 = some b' → (b' = b ∨ σ.len ≤ b') ∧ b' < r.1.len ∧ (r.1.blk b').succs = []

/-- what building a statement from the open block `b` establishes (`r.2`: where building goes on, none after a jump) -/
structure BuiltS (σ : BState) (b : Nat) (J : Jumps) (r : BState × Option Nat) : Prop extends GoodS σ b r where
  grow : Grow σ r.1
  jhp : r.2 = none → JHP r.1 J

theorem Built.toS {σ σ' : BState} {b b' : Nat} {J : Jumps} (h : Built σ b σ' b') : BuiltS σ b J (σ', some b') :=
  ⟨⟨h.touch.toS, fun _ hb => by cases hb; exact ⟨h.cur, h.lt, h.opn⟩⟩, h.grow, fun h => nomatch h⟩

theorem build_ensure (s : Stmt) (hs : s ≠ .nil) (prev : Nat) (cur : Option Nat) (J : Jumps) (σ : BState) :
    build s prev cur J σ = build s prev (some (ensure prev cur σ).1) J (ensure prev cur σ).2 := by
  cases cur with
  | some b => rfl
  | none => cases s <;> first | exact absurd rfl hs | rfl

theorem ensure_some (prev b : Nat) (σ : BState) : ensure prev (some b) σ = (b, σ) := rfl
theorem ensure_none (prev : Nat) (σ : BState) : ensure prev none σ = (σ.len, dummyLink prev σ.len (newBB σ).2) := rfl

theorem BuiltS.jump {σ σ' : BState} {b : Nat} {J : Jumps} (h : TouchS σ b σ') (g : Grow σ σ') (j : JHP σ' J) :
    BuiltS σ b J (σ', none) := ⟨⟨h, fun _ hb => nomatch hb⟩, g, fun _ => j⟩

/-- the three shapes in which `visit_If` ends -/
def iteFin (rt re : BState × Option Nat) : BState × Option Nat :=
  match rt.2, re.2 with
  | none, r => (re.1, r)
  | some a, none => (re.1, some a)
  | some a, some b2 => ((newBB2 a b2 re.1).2, some (newBB2 a b2 re.1).1)

theorem build_ite_eq (c : Expr) (t e : Stmt) (prev b : Nat) (J : Jumps) (σ : BState) :
    build (.ite c t e) prev (some b) J σ =
      iteFin (build t σ.len (some σ.len) J (itS1 c b σ))
        (build e (σ.len + 1) (some (σ.len + 1)) J (build t σ.len (some σ.len) J (itS1 c b σ)).1) := by
  simp only [build, ensure_some, fst_newBB, len_newBB, branchE, iteFin]; rfl

/-- the two shapes in which `visit_While` (and hence `visit_For`) ends -/
def loopFin (hd : Nat) (rb : BState × Option Nat) : BState × Option Nat :=
  match rb.2 with
  | some e => (link e hd rb.1, some (hd + 2))
  | none => (rb.1, some (hd + 2))

/-- state after the loop head, body and tail blocks of a `while` were created -/
def whS0 (b : Nat) (σ : BState) : BState := (newBB (newBB (link b σ.len (newBB σ).2)).2).2

/-- … and the condition built -/
def whS1 (c : Expr) (b : Nat) (σ : BState) : BState :=
  (bld c (.br (σ.len + 1) (σ.len + 2)) σ.len (whS0 b σ)).2.2

def whJ (J : Jumps) (σ : BState) : Jumps := ⟨J.ret, some σ.len, some (σ.len + 2)⟩

def whRB (c : Expr) (body : Stmt) (b : Nat) (J : Jumps) (σ : BState) : BState × Option Nat :=
  build body (σ.len + 1) (some (σ.len + 1)) (whJ J σ) (whS1 c b σ)

theorem build_while_eq (c : Expr) (body : Stmt) (prev b : Nat) (J : Jumps) (σ : BState) :
    build (.while c body) prev (some b) J σ = loopFin σ.len (whRB c body b J σ) := by
  simp only [build, ensure_some, newBB1, fst_newBB, len_newBB, len_link, branchE, loopFin, whRB, whJ]; rfl

/-- the iterable of a `for` loop built from block `b` after the two temporaries were drawn -/
def forA (e : Expr) (b : Nat) (σ : BState) : R := bld e .val b (freshTmp (freshTmp σ).2).2

/-- … and `it = make_iter` appended -/
def forS1 (e : Expr) (b : Nat) (σ : BState) : BState :=
  addStmt (forA e b σ).2.1 (.assign (.tmp σ.nextTmp) (.un (.prim .makeiter) (forA e b σ).1)) (forA e b σ).2.2

def forS7 (x : Var) (e : Expr) (b : Nat) (σ : BState) : BState :=
  forTpl x σ.nextTmp (σ.nextTmp + 1) (forA e b σ).2.1 (forS1 e b σ)

def forJ (J : Jumps) (e : Expr) (b : Nat) (σ : BState) : Jumps :=
  ⟨J.ret, some (forS1 e b σ).len, some ((forS1 e b σ).len + 2)⟩

def forRB (x : Var) (e : Expr) (body : Stmt) (b : Nat) (J : Jumps) (σ : BState) : BState × Option Nat :=
  build body ((forS1 e b σ).len + 4) (some ((forS1 e b σ).len + 4)) (forJ J e b σ) (forS7 x e b σ)

theorem build_for_eq (x : Var) (e : Expr) (body : Stmt) (prev b : Nat) (J : Jumps) (σ : BState) :
    build (.for x e body) prev (some b) J σ = loopFin (forS1 e b σ).len (forRB x e body b J σ) := by
  simp only [build, ensure, newBB1, fst_newBB, len_newBB, len_link, len_addStmt, len_dummyLink,
    branchE, bld, foldNeg, finish, buildE, fst_freshTmp, tmp_freshTmp, loopFin, forRB, forJ, forS7, forTpl, forS1, forA,
    eIterNext, eIsSome, eUnwrapNothing, eUnwrap, if_true]
  rfl

structure WhS0 (b : Nat) (σ σ0 : BState) : Prop where
  len : σ0.len = σ.len + 3
  tmp : σ0.nextTmp = σ.nextTmp
  jump : σ0.blk b = { σ.blk b with succs := [σ.len] }
  head : σ0.blk σ.len = {}
  body : σ0.blk (σ.len + 1) = {}
  tail : σ0.blk (σ.len + 2) = {}
  frame : ∀ i, i < σ.len → i ≠ b → σ0.blk i = σ.blk i

theorem whS0_spec {b : Nat} {σ : BState} (hb : b < σ.len) (ho : (σ.blk b).succs = []) : WhS0 b σ (whS0 b σ) := by
  have key : ∀ i, i ≠ b → (whS0 b σ).blk i = σ.blk i := fun i hne => by
    simp only [whS0]; rw [blk_newBB, blk_newBB, blk_link_other _ _ _ _ hne, blk_newBB]
  refine ⟨by simp [whS0], rfl, ?_, ?_, ?_, ?_, fun i _ hne => key i hne⟩
  · simp only [whS0]
    rw [blk_newBB, blk_newBB, blk_link_same _ _ _ (by simp; omega), blk_newBB, ho]; rfl
  · rw [key _ (by omega), empty_of_ge σ (Nat.le_refl _)]
  · rw [key _ (by omega), empty_of_ge σ (by omega)]
  · rw [key _ (by omega), empty_of_ge σ (by omega)]

/-- what both loop templates leave in `σ'`, laid out from the open block `b` of `σ`: a fresh loop head `hd`, its empty tail
    `hd + 2`, and a fresh open block `bb` in which the body starts -/
structure LoopSkel (σ : BState) (b : Nat) (σ' : BState) (hd bb : Nat) : Prop where
  touch : TouchS σ b σ'
  grow : Grow σ σ'
  hdf : σ.len ≤ hd
  tl : hd + 2 < σ'.len
  tail : σ'.blk (hd + 2) = {}
  bbf : σ.len ≤ bb
  bbl : bb < σ'.len
  bbne : bb ≠ hd + 2
  opn : (σ'.blk bb).succs = []

/-- `while`: `b` jumps to the head, which gets its predecessor from it; body and tail get theirs from the branch on the
    condition -/
theorem whS1_skel (c : Expr) {b : Nat} {σ : BState} (hb : b < σ.len) (ho : (σ.blk b).succs = []) :
    LoopSkel σ b (whS1 c b σ) σ.len (σ.len + 1) ∧ (whS1 c b σ).blk b = { σ.blk b with succs := [σ.len] } ∧
    (whS1 c b σ).blk (σ.len + 1) = {} := by
  have W := whS0_spec hb ho
  have l0 := W.len
  have kc : BuiltBr (whS0 b σ) σ.len (whS1 c b σ) (σ.len + 1) (σ.len + 2) :=
    built c (.br (σ.len + 1) (σ.len + 2)) σ.len (whS0 b σ) (by omega) (by rw [W.head])
  have t1 := kc.touch
  have hl := t1.len
  have e1 : (whS1 c b σ).blk b = { σ.blk b with succs := [σ.len] } := by rw [t1.frame b (by omega) (by omega), W.jump]
  have e2 : (whS1 c b σ).blk (σ.len + 1) = {} := by rw [t1.frame (σ.len + 1) (by omega) (by omega), W.body]
  have nb : Grow (link b σ.len (newBB σ).2) (whS1 c b σ) :=
    Grow.after_newBB (n := σ.len + 1) (by simp) (Grow.after_newBB (n := σ.len + 2) (by simp) kc.grow kc.hpf) kc.hpt
  refine ⟨{ touch := ⟨by omega, by rw [← W.tmp]; exact t1.tmp, fun i hi hne => ?_, ?_⟩
            grow := ?_
            hdf := Nat.le_refl _
            tl := by omega
            tail := by rw [t1.frame (σ.len + 2) (by omega) (by omega), W.tail]
            bbf := by omega
            bbl := by omega
            bbne := by omega
            opn := by rw [e2] }, e1, e2⟩
  · rw [t1.frame i (by omega) (by omega), W.frame i hi hne]
  · rw [e1]; exact List.prefix_refl _
  · exact Grow.after_newBB rfl ((grow_link _ (by rw [blk_newBB]; exact ho)).trans nb)
      ((hp_link b σ.len (newBB σ).2 (by simp only [len_newBB]; omega)).mono nb.mono)

theorem forS1_built (e : Expr) {b : Nat} {σ : BState} (hb : b < σ.len) (ho : (σ.blk b).succs = []) :
    Built (freshTmp (freshTmp σ).2).2 b (forS1 e b σ) (forA e b σ).2.1 :=
  (built e .val b (freshTmp (freshTmp σ).2).2 hb ho).addStmt (σ := (freshTmp (freshTmp σ).2).2) hb _

theorem forS7_tpl (x : Var) (e : Expr) {b : Nat} {σ : BState} (hb : b < σ.len) (ho : (σ.blk b).succs = []) :
    ForTpl x σ.nextTmp (σ.nextTmp + 1) (forA e b σ).2.1 (forS1 e b σ) (forS7 x e b σ) :=
  forTpl_spec x σ.nextTmp (σ.nextTmp + 1) (forS1_built e hb ho).lt (forS1_built e hb ho).opn

theorem forS7_tmp (x : Var) (e : Expr) {b : Nat} {σ : BState} (hb : b < σ.len) (ho : (σ.blk b).succs = []) :
    σ.nextTmp + 2 ≤ (forS7 x e b σ).nextTmp := by
  rw [(forS7_tpl x e hb ho).tmp]; exact (forS1_built e hb ho).touch.tmp

theorem forS7_skel (x : Var) (e : Expr) {b : Nat} {σ : BState} (hb : b < σ.len) (ho : (σ.blk b).succs = []) :
    LoopSkel σ b (forS7 x e b σ) (forS1 e b σ).len ((forS1 e b σ).len + 4) := by
  have g1 := forS1_built e hb ho
  have T := forS7_tpl x e hb ho
  have hls : σ.len ≤ (forS1 e b σ).len := g1.touch.len
  have hcur : (forA e b σ).2.1 = b ∨ σ.len ≤ (forA e b σ).2.1 := g1.cur
  have hp : (σ.blk b).stmts <+: ((forS1 e b σ).blk b).stmts := g1.touch.pre
  refine { touch := ⟨by rw [T.len]; omega, Nat.le_trans (Nat.le_add_right _ 2) (forS7_tmp x e hb ho), fun i hi hne => ?_, ?_⟩
           grow := ((grow_freshTmp σ).trans (grow_freshTmp _)).trans
             (g1.grow.trans (grow_forTpl x σ.nextTmp (σ.nextTmp + 1) g1.lt g1.opn))
           hdf := hls
           tl := by rw [T.len]; omega
           tail := T.tail
           bbf := by omega
           bbl := by rw [T.len]; omega
           bbne := by omega
           opn := by rw [T.bind] }
  · rw [T.frame i (by omega) (by rcases hcur with h | h <;> omega)]
    exact congrArg Block.core (g1.touch.frame i hi hne)
  · by_cases hab : (forA e b σ).2.1 = b
    · have := T.jump; rw [hab] at this; rw [this]; exact hp
    · rw [T.frame b (by omega) (fun h => hab h.symm)]; exact hp

theorem iteFin_built {σ σ1 : BState} {b tb eb : Nat} {J : Jumps} {rt re : BState × Option Nat} (hb : b < σ.len)
    (t01 : TouchS σ b σ1) (n1 : Grow σ σ1) (htb : σ.len ≤ tb) (heb : σ.len ≤ eb) (heb1 : eb < σ1.len) (hne : tb ≠ eb)
    (gt : BuiltS σ1 tb J rt) (ge : BuiltS rt.1 eb J re) : BuiltS σ b J (iteFin rt re) := by
  have hl1 := t01.len
  have hlt := gt.touch.len
  have hle := ge.touch.len
  have t02 : TouchS σ b re.1 := (t01.fresh gt.touch htb hb).fresh ge.touch heb hb
  have nT := n1.trans (gt.grow.trans ge.grow)
  cases hrt : rt.2 with
  | none =>
    simp only [iteFin, hrt]
    refine ⟨⟨t02, fun b' hb' => ?_⟩, nT, ge.jhp⟩
    obtain ⟨d1, d2, d3⟩ := ge.cur b' hb'
    exact ⟨Or.inr (by rcases d1 with h | h <;> omega), d2, d3⟩
  | some a =>
    obtain ⟨a1, a2, a3⟩ := gt.cur a hrt
    have ha : σ.len ≤ a := by rcases a1 with h | h <;> omega
    have a3' : (re.1.blk a).succs = [] := by
      rw [core_succs (ge.touch.frame a a2 (by rcases a1 with h | h <;> omega))]; exact a3
    cases hre : re.2 with
    | none =>
      simp only [iteFin, hrt, hre]
      exact ⟨⟨t02, fun b' hb' => by cases hb'; exact ⟨Or.inr ha, by dsimp only; omega, a3'⟩⟩, nT, fun h => nomatch h⟩
    | some b2 =>
      obtain ⟨d1, d2, d3⟩ := ge.cur b2 hre
      have hb2 : σ.len ≤ b2 := by rcases d1 with h | h <;> omega
      have hab : a ≠ b2 := by rcases d1 with h | h <;> omega
      simp only [iteFin, hrt, hre, fst_newBB2]
      have hm : ((newBB2 a b2 re.1).2.blk re.1.len).succs = [] := by
        rw [(blk_newBB2 (show a < re.1.len by omega) d2 hab).2.2 _ (by omega) (by omega), empty_of_ge re.1 (Nat.le_refl _)]
      exact ⟨⟨((t02.trans (touch_newBB _ b).toS (.inl rfl)).fresh (touch_link a _ _).toS ha hb).fresh
          (touch_link b2 _ _).toS hb2 hb, fun b' hb' => by cases hb'; exact ⟨Or.inr (by omega), by simp, hm⟩⟩,
          nT.trans (grow_newBB2 (by omega) hab a3' d3), fun h => nomatch h⟩

theorem ItS1.els_after {c : Expr} {b : Nat} {σ : BState} (I : ItS1 c b σ) {rt : BState × Option Nat}
    (gt : GoodS (itS1 c b σ) σ.len rt) : σ.len + 1 < rt.1.len ∧ (rt.1.blk (σ.len + 1)).succs = [] := by
  have := gt.touch.len
  have := I.len
  exact ⟨by omega, by rw [core_succs (gt.touch.frame (σ.len + 1) (by omega) (Nat.succ_ne_self _)), I.els]⟩

theorem loopFin_good {σ σ7 : BState} {b hd bb : Nat} {J J' : Jumps} {rb : BState × Option Nat} (hb : b < σ.len)
    (K : LoopSkel σ b σ7 hd bb) (gb : BuiltS σ7 bb J' rb) : BuiltS σ b J (loopFin hd rb) := by
  have hlb := gb.touch.len
  have htl := K.hdf
  have ftl2 : (rb.1.blk (hd + 2)).succs = [] := by
    rw [core_succs (gb.touch.frame (hd + 2) K.tl K.bbne.symm), K.tail]
  have t02 := K.touch.fresh gb.touch K.bbf hb
  cases hrb : rb.2 with
  | none =>
    simp only [loopFin, hrb]
    exact ⟨⟨t02, fun b' hb' => by cases hb'; exact ⟨Or.inr (by omega), by have := K.tl; dsimp only; omega, ftl2⟩⟩,
      K.grow.trans gb.grow, fun h => nomatch h⟩
  | some e =>
    obtain ⟨e1, e2, e3⟩ := gb.cur e hrb
    have h7 := K.touch.len
    have hbb := K.bbf
    have htl7 := K.tl
    have hne := K.bbne
    simp only [loopFin, hrb]
    refine ⟨⟨t02.fresh (touch_link e _ _).toS (by rcases e1 with h | h <;> omega) hb, fun b' hb' => ?_⟩,
      (K.grow.trans gb.grow).trans (grow_link _ e3), fun h => nomatch h⟩
    cases hb'
    refine ⟨Or.inr (by omega), by simp; omega, ?_⟩
    rw [blk_link_other _ _ _ _ (by rcases e1 with h | h <;> omega)]; exact ftl2

theorem builtS (s : Stmt) : ∀ (prev b : Nat) (J : Jumps) (σ : BState), b < σ.len →
    (σ.blk b).succs = [] → BuiltS σ b J (build s prev (some b) J σ) := by
  induction s with
  | nil | pass => intro prev b J σ hb ho; exact (Built.refl hb ho).toS
  | cons s rest ihs ihr =>
    intro prev b J σ hb ho
    simp only [build, ensure_some]
    have k1 := ihs b b J σ hb ho
    generalize build s b (some b) J σ = r1 at *
    have hl1 := k1.touch.len
    cases hr : r1.2 with
    | some b1 =>
      obtain ⟨c1, c2, c3⟩ := k1.cur b1 hr
      have k2 := ihr b b1 J _ c2 c3
      refine ⟨⟨k1.touch.trans k2.touch (c1.imp_right (⟨·, hb⟩)), fun b' hb' => ?_⟩, k1.grow.trans k2.grow, k2.jhp⟩
      obtain ⟨d1, d2, d3⟩ := k2.cur b' hb'
      exact ⟨by rcases d1 with h | h <;> rcases c1 with h' | h' <;> omega, d2, d3⟩
    | none =>
      by_cases hnil : rest = .nil
      · subst hnil; simp only [build]
        exact ⟨⟨k1.touch, fun _ h => by cases h⟩, k1.grow, fun _ => k1.jhp hr⟩
      · -- the rest is unreachable code: it is built from a fresh block hanging on a dummy edge
        rw [build_ensure rest hnil, ensure_none]
        have k2 := ihr b r1.1.len J (dummyLink b r1.1.len (newBB r1.1).2) (by simp)
          (by rw [blk_dummyLink_other _ _ _ _ (by omega), blk_newBB_new])
        have t1 := ((touch_newBB _ _).toS.trans (touchS_dummyLink _ _ _ _) (.inl rfl)).trans k2.touch (.inl rfl)
        have n01 : Grow r1.1 (dummyLink b r1.1.len (newBB r1.1).2) :=
          Grow.after_newBB rfl (grow_dummyLink _ _ _) (hp_dummyLink b _ _ (by simp only [len_newBB]; omega))
        refine ⟨⟨k1.touch.fresh t1 hl1 hb, fun b' hb' => ?_⟩, k1.grow.trans (n01.trans k2.grow), k2.jhp⟩
        obtain ⟨d1, d2, d3⟩ := k2.cur b' hb'
        simp only [len_dummyLink, len_newBB] at d1
        exact ⟨Or.inr (by rcases d1 with h | h <;> omega), d2, d3⟩
  | assign x e => exact fun prev b J σ hb ho => ((built e .val b σ hb ho).addStmt hb _).toS
  | aug x op e =>
    intro prev b J σ hb ho
    simp only [build, ensure_some, buildE]
    split
    · have g0 := (Built.refl hb ho).bind hb true (.var x)
      exact ((g0.trans hb (built e .val b _ g0.lt g0.opn)).addStmt hb _).toS
    · exact ((built e .val b σ hb ho).addStmt hb _).toS
  | expr e =>
    intro prev b J σ hb ho
    simp only [build, ensure_some, buildE]
    cases isTmpVar (bld e .val b σ).1
    · exact ((built e .val b σ hb ho).addStmt hb _).toS
    · exact (built e .val b σ hb ho).toS
  | brk =>
    intro prev b J σ hb ho
    simp only [build, ensure_some]
    split
    · rename_i t ht
      exact .jump (touch_link _ _ _).toS (grow_link _ ho) (.of_brk ht (hp_link b t σ hb))
    · exact .jump (touchS_internal _ _) (grow_internal _)
        (.of_internal rfl)
  | cont =>
    intro prev b J σ hb ho
    simp only [build, ensure_some]
    split
    · rename_i t ht
      exact .jump (touch_link _ _ _).toS (grow_link _ ho) (.of_cont ht (hp_link b t σ hb))
    · exact .jump (touchS_internal _ _) (grow_internal _)
        (.of_internal rfl)
  | ret e =>
    intro prev b J σ hb ho
    have g := (built e .val b σ hb ho).addStmt hb (.ret (bld e .val b σ).1)
    exact .jump (g.touch.trans (touch_link _ _ _) hb g.cur).toS (g.grow.trans (grow_link _ g.opn))
      (.of_ret (hp_link _ _ _ g.lt))
  | ret0 =>
    intro prev b J σ hb ho
    have g := (Built.refl hb ho).addStmt hb .ret0
    exact .jump (g.touch.trans (touch_link _ _ _) hb g.cur).toS (g.grow.trans (grow_link _ g.opn))
      (.of_ret (hp_link _ _ _ g.lt))
  | ite c t e iht ihe =>
    intro prev b J σ hb ho
    have I := itS1_spec c hb ho
    have kt := iht σ.len σ.len J (itS1 c b σ) (Nat.lt_of_succ_lt I.len) (by rw [I.thn])
    rw [build_ite_eq]
    exact iteFin_built hb I.touchS I.grow (Nat.le_refl _) (Nat.le_succ _) I.len (Nat.succ_ne_self _).symm kt
      (ihe (σ.len + 1) (σ.len + 1) J _ (I.els_after kt.toGoodS).1 (I.els_after kt.toGoodS).2)
  | «while» c body ih =>
    intro prev b J σ hb ho
    have K := (whS1_skel c hb ho).1
    rw [build_while_eq]
    exact loopFin_good hb K (ih (σ.len + 1) (σ.len + 1) (whJ J σ) (whS1 c b σ) K.bbl K.opn)
  | «for» x e body ih =>
    intro prev b J σ hb ho
    have K := forS7_skel x e hb ho
    rw [build_for_eq]
    exact loopFin_good hb K (ih _ _ (forJ J e b σ) (forS7 x e b σ) K.bbl K.opn)
  | forFrom x n m body ih =>
    intro prev b J σ hb ho
    simp only [build, ensure_some]
    exact ⟨⟨(touch_bad σ b true).toS, fun b' hb' => by cases hb'; exact ⟨Or.inl rfl, hb, ho⟩⟩,
      grow_bad σ, fun h => nomatch h⟩

theorem build_good (s : Stmt) (prev b : Nat) (J : Jumps) (σ : BState) (hb : b < σ.len) (ho : (σ.blk b).succs = []) :
    GoodS σ b (build s prev (some b) J σ) := (builtS s prev b J σ hb ho).toGoodS

end GuppyVerif.Builder
