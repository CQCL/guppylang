import GuppyVerif.Lemmas.Basic
import GuppyVerif.Spec.C29
/-! `diagnostic.wrap`: the chunk pipeline up to `wrapLines_width`; then words (`Bok`: every cut between
    chunks is next to a separator; `words_append_expand`: tab expansion and munging keep the words) up to
    `words_wrapLines`; visible characters are the words concatenated, hence `vis_wrapLines`. -/
namespace GuppyVerif.Render

/-! ### chunks

In the inductions over `splitChunks`, `case4` (no non-empty first chunk of the rest) means that the rest is empty;
`splitChunks_flatten` is where this is argued. -/

theorem splitChunks_ne_nil (s : Str) : ∀ c ∈ splitChunks s, c ≠ [] := by
  fun_induction splitChunks s with
  | case1 => nofun
  | case2 c cs d ds rest h _ ih =>
    rw [h] at ih
    exact List.forall_mem_cons.mpr ⟨nofun, fun x hx => ih x (List.mem_cons_of_mem _ hx)⟩
  | case3 c cs d ds rest h _ ih => rw [h] at ih; exact List.forall_mem_cons.mpr ⟨nofun, ih⟩
  | case4 => exact List.forall_mem_cons.mpr ⟨nofun, nofun⟩

theorem splitChunks_flatten (s : Str) : (splitChunks s).flatten = s := by
  fun_induction splitChunks s with
  | case1 => rfl
  | case2 c cs d ds rest h _ ih => rw [h] at ih; rw [← ih]; rfl
  | case3 c cs d ds rest h _ ih => rw [h] at ih; rw [← ih]; rfl
  | case4 c cs hno ih =>
    -- no first chunk `d :: ds`, and chunks are non-empty: there is no chunk, so `cs = []`
    cases hs : splitChunks cs with
    | nil => rw [hs] at ih; rw [← ih]; rfl
    | cons x xs =>
      cases x with
      | nil => exact absurd rfl (splitChunks_ne_nil cs [] (hs ▸ List.mem_cons_self))
      | cons y ys => exact (hno y ys xs hs).elim

theorem splitChunks_pure (s : Str) :
    ∀ c ∈ splitChunks s, c.all isWs = true ∨ c.all (fun x => !isWs x) = true := by
  have single (c : Char) : [c].all isWs = true ∨ [c].all (fun x => !isWs x) = true := by
    cases hc : isWs c <;> simp [hc]
  fun_induction splitChunks s with
  | case1 => nofun
  | case2 c cs d ds rest h heq ih =>
    rw [h] at ih
    refine List.forall_mem_cons.mpr ⟨?_, fun x hx => ih x (List.mem_cons_of_mem _ hx)⟩
    have hd := ih (d :: ds) List.mem_cons_self
    simp only [List.all_cons, Bool.and_eq_true] at hd ⊢
    rw [show isWs c = isWs d by simpa using heq]
    exact hd.imp (fun hd => ⟨hd.1, hd⟩) (fun hd => ⟨hd.1, hd⟩)
  | case3 c cs d ds rest h _ ih => rw [h] at ih; exact List.forall_mem_cons.mpr ⟨single c, ih⟩
  | case4 c => exact List.forall_mem_cons.mpr ⟨single c, nofun⟩

-- `fill_append`, `stepCore_append`, `stepCore_fst_ne_nil` stand in Model/Render.lean: `wrapChunks` needs them to terminate
theorem fill_len (w : Nat) (cs : List Str) (n : Nat) (hn : n ≤ w) :
    n + (fill w cs n).1.flatten.length ≤ w := by
  induction cs generalizing n with
  | nil => simp [fill]; exact hn
  | cons c cs ih =>
    unfold fill
    split
    · rename_i h
      have := ih (n + c.length) h
      simp only [List.flatten_cons, List.length_append]
      omega
    · simpa using hn

theorem dropLastBlank_spec (cur : List Str) :
    ∃ post, cur = dropLastBlank cur ++ post ∧ ∀ x ∈ post, isBlank x = true := by
  unfold dropLastBlank
  split
  · rename_i l hl
    split
    · rename_i hb
      exact ⟨[l], List.eq_dropLast_append_of_getLast? hl, by simpa using hb⟩
    · exact ⟨[], (List.append_nil _).symm, nofun⟩
  · exact ⟨[], (List.append_nil _).symm, nofun⟩

theorem dropLastBlank_subset (cur : List Str) : ∀ x ∈ dropLastBlank cur, x ∈ cur := by
  obtain ⟨post, h, _⟩ := dropLastBlank_spec cur
  intro x hx
  rw [h]; simp [hx]

theorem stepCore_width (w : Nat) (ch : List Str) :
    (stepCore w ch).1.flatten.length ≤ w ∨ ∃ x, (stepCore w ch).1 = [x] ∧ w < x.length ∧ x ∈ ch := by
  unfold stepCore
  simp only
  have hl := fill_len w ch 0 (Nat.zero_le _)
  have ha := fill_append w ch 0
  split
  · rename_i x xs hx
    split
    · rename_i hc
      right
      refine ⟨x, rfl, hc.1, ?_⟩
      rw [← ha, hx]; simp
    · left; omega
  · left; omega

/-- One step of the outer loop cuts the chunk list into: what is dropped in front, the line, what is dropped behind
    it, the rest; what is dropped is blank. The facts about words hang on this. -/
theorem stepLine_spec (w : Nat) (c : Str) (cs : List Str) (b : Bool) :
    ∃ pre post, c :: cs = pre ++ (stepLine w c cs b).1 ++ post ++ (stepLine w c cs b).2 ∧
      (∀ x ∈ pre, isBlank x = true) ∧ ∀ x ∈ post, isBlank x = true := by
  unfold stepLine
  simp only
  obtain ⟨pre, hpre, hch⟩ : ∃ pre, (∀ x ∈ pre, isBlank x = true) ∧
      c :: cs = pre ++ if (isBlank c && b) = true then cs else c :: cs := by
    split
    · exact ⟨[c], by simp_all, rfl⟩
    · exact ⟨[], nofun, rfl⟩
  generalize (if (isBlank c && b) = true then cs else c :: cs) = ch at hch ⊢
  obtain ⟨post, hp, hpost⟩ := dropLastBlank_spec (stepCore w ch).1
  exact ⟨pre, post, by rw [List.append_assoc pre, ← hp, List.append_assoc, stepCore_append, hch], hpre, hpost⟩

theorem stepLine_width (w : Nat) (c : Str) (cs : List Str) (b : Bool) :
    (stepLine w c cs b).1.flatten.length ≤ w ∨
      ∃ x, (stepLine w c cs b).1 = [x] ∧ w < x.length ∧ x ∈ c :: cs ∧ isBlank x = false := by
  unfold stepLine
  simp only
  generalize hch : (if (isBlank c && b) = true then cs else c :: cs) = ch
  have hsub : ∀ x ∈ ch, x ∈ c :: cs := by
    intro x hx; subst hch; split at hx <;> simp_all
  obtain ⟨post, hp, hpost⟩ := dropLastBlank_spec (stepCore w ch).1
  rcases stepCore_width w ch with h | ⟨x, hx, hw, hm⟩
  · left
    have : (stepCore w ch).1.flatten.length = (dropLastBlank (stepCore w ch).1).flatten.length + post.flatten.length := by
      conv => lhs; rw [hp]
      simp
    omega
  · by_cases hb : isBlank x = true
    · left
      have : dropLastBlank (stepCore w ch).1 = [] := by
        rw [hx]; simp [dropLastBlank, hb]
      rw [this]; simp
    · right
      refine ⟨x, ?_, hw, hsub x hm, by simpa using hb⟩
      rw [hx]; simp [dropLastBlank, hb]

theorem stepLine_snd_subset (w : Nat) (c : Str) (cs : List Str) (b : Bool) :
    ∀ x ∈ (stepLine w c cs b).2, x ∈ c :: cs := by
  obtain ⟨pre, post, h, _, _⟩ := stepLine_spec w c cs b
  intro x hx
  rw [h]
  exact List.mem_append_right _ hx

theorem wrapChunks_width (w : Nat) (cs : List Str) (b : Bool) :
    ∀ l ∈ wrapChunks w cs b, l.length ≤ w ∨ (w < l.length ∧ l ∈ cs ∧ isBlank l = false) := by
  fun_induction wrapChunks w cs b with
  | case1 => nofun
  | case2 b c cs r he ih =>
    exact fun l hl => (ih l hl).imp_right fun ⟨h1, h2, h3⟩ => ⟨h1, stepLine_snd_subset w c cs b l h2, h3⟩
  | case3 b c cs r he ih =>
    refine List.forall_mem_cons.mpr ⟨?_, fun l hl =>
      (ih l hl).imp_right fun ⟨h1, h2, h3⟩ => ⟨h1, stepLine_snd_subset w c cs b l h2, h3⟩⟩
    rcases stepLine_width w c cs b with h | ⟨x, hx, hw, hm, hb⟩
    · exact .inl h
    · rw [show r.1 = [x] from hx, List.flatten_singleton]
      exact .inr ⟨hw, hm, hb⟩

theorem mem_orEmptyLine {l : Str} {ls : List Str} (h : l ∈ orEmptyLine ls) : l = [] ∨ l ∈ ls := by
  unfold orEmptyLine at h
  split at h
  · left; simpa using h
  · right; exact h

theorem wrapLines_width (text : Str) (w : Nat) :
    ∀ l ∈ wrapLines text w, l.length ≤ w ∨ (∀ c ∈ l, isWs c = false) := by
  intro l hl
  unfold wrapLines at hl
  rw [List.mem_flatMap] at hl
  obtain ⟨p, _, hl⟩ := hl
  rcases mem_orEmptyLine hl with rfl | hl
  · left; simp
  · unfold textwrap at hl
    rcases wrapChunks_width w _ false l hl with h | ⟨_, hm, hb⟩
    · exact Or.inl h
    · right
      rcases splitChunks_pure _ l hm with hp | hp
      · unfold isBlank at hb; rw [hp] at hb; cases hb
      · intro c hc
        have := List.all_eq_true.mp hp c hc
        simpa using this

/-! ### words -/

theorem isWs_sep {c : Char} (h : isWs c = true) : sep c = true := by simp [sep, h]

theorem segments_ne_nil (s : Str) : segments s ≠ [] := by
  cases s with
  | nil => simp [segments]
  | cons c cs =>
    unfold segments
    split
    · simp
    · split <;> simp

theorem segments_cons_sep (c : Char) (cs : Str) (h : sep c = true) :
    segments (c :: cs) = [] :: segments cs := by
  rw [segments]; simp [h]

theorem segments_cons_nsep (c : Char) (cs : Str) (h : sep c = false) (hd : Str) (tl : List Str)
    (hs : segments cs = hd :: tl) : segments (c :: cs) = (c :: hd) :: tl := by
  rw [segments]; simp [h, hs]

theorem segments_append_sep (a b : Str) (c : Char) (hc : sep c = true) :
    segments (a ++ c :: b) = segments a ++ segments b := by
  induction a with
  | nil => rw [List.nil_append, segments_cons_sep c b hc]; simp [segments]
  | cons x a ih =>
    rw [List.cons_append]
    cases hx : sep x with
    | true => rw [segments_cons_sep x _ hx, segments_cons_sep x _ hx, ih]; simp
    | false =>
      cases hsa : segments a with
      | nil => exact absurd hsa (segments_ne_nil a)
      | cons h t =>
        rw [segments_cons_nsep x a hx h t hsa,
          segments_cons_nsep x (a ++ c :: b) hx h (t ++ segments b) (by rw [ih, hsa]; simp)]
        simp

theorem words_append_sep (a b : Str) (c : Char) (hc : sep c = true) :
    words (a ++ c :: b) = words a ++ words b := by
  unfold words; rw [segments_append_sep a b c hc, List.filter_append]

theorem words_nil : words [] = [] := by simp [words, segments]

theorem words_sep_cons (c : Char) (b : Str) (hc : sep c = true) : words (c :: b) = words b := by
  have := words_append_sep [] b c hc
  simpa [words_nil] using this

theorem words_concat_sep (a : Str) (c : Char) (hc : sep c = true) : words (a ++ [c]) = words a := by
  have := words_append_sep a [] c hc
  simpa [words_nil] using this

/-- a text can be cut into two pieces without changing its words wherever a separator is adjacent
    to the cut -/
theorem words_append_of_boundary (a b : Str)
    (h : (∃ c, a.getLast? = some c ∧ sep c = true) ∨ (∃ c, b.head? = some c ∧ sep c = true)) :
    words (a ++ b) = words a ++ words b := by
  rcases h with ⟨c, hl, hc⟩ | ⟨c, hh, hc⟩
  · rw [List.eq_dropLast_append_of_getLast? hl, List.append_assoc, List.singleton_append,
      words_append_sep _ _ _ hc, words_concat_sep _ _ hc]
  · obtain ⟨b, rfl⟩ := List.head?_eq_some_iff.mp hh
    rw [words_append_sep _ _ _ hc, words_sep_cons _ _ hc]

theorem words_blank (c : Str) (h : isBlank c = true) : words c = [] := by
  induction c with
  | nil => exact words_nil
  | cons x c ih =>
    unfold isBlank at h ih
    simp only [List.all_cons, Bool.and_eq_true] at h
    rw [words_sep_cons _ _ (isWs_sep h.1)]
    exact ih h.2

/-- chunk lists in which every cut between neighbours is adjacent to a separator -/
def Bok : List Str → Prop
  | [] => True
  | [x] => x ≠ []
  | x :: y :: r => x ≠ [] ∧ ((∃ c, x.getLast? = some c ∧ sep c = true) ∨ (∃ c, y.head? = some c ∧ sep c = true)) ∧ Bok (y :: r)

theorem Bok.tail {x : Str} {r : List Str} (h : Bok (x :: r)) : Bok r := by
  cases r with
  | nil => trivial
  | cons y r => exact h.2.2

theorem Bok.head_ne {x : Str} {r : List Str} (h : Bok (x :: r)) : x ≠ [] := by
  cases r with
  | nil => exact h
  | cons y r => exact h.1

theorem Bok.flatMap_words : ∀ (cs : List Str), Bok cs → words cs.flatten = cs.flatMap words
  | [], _ => by simp [words_nil]
  | [x], _ => by simp
  | x :: y :: r, h => by
    rw [List.flatten_cons, List.flatMap_cons, ← Bok.flatMap_words (y :: r) h.2.2]
    refine words_append_of_boundary _ _ (h.2.1.imp_right fun ⟨c, hh, hc⟩ => ⟨c, ?_, hc⟩)
    cases y with
    | nil => exact absurd rfl (Bok.head_ne h.2.2)
    | cons d y => exact hh

theorem Bok.suffix : ∀ (a b : List Str), Bok (a ++ b) → Bok b
  | [], _, h => h
  | x :: a, b, h => Bok.suffix a b (Bok.tail h)

theorem Bok.prefix : ∀ (a b : List Str), Bok (a ++ b) → Bok a
  | [], _, _ => trivial
  | [x], b, h => Bok.head_ne h
  | x :: y :: a, b, h => ⟨h.1, h.2.1, Bok.prefix (y :: a) b h.2.2⟩

theorem splitChunks_bok (s : Str) : Bok (splitChunks s) := by
  fun_induction splitChunks s with
  | case1 => trivial
  | case2 c cs d ds rest h _ ih =>
    rw [h] at ih
    cases rest with
    | nil => exact List.cons_ne_nil _ _
    | cons y r =>
      exact ⟨List.cons_ne_nil _ _, ih.2.1.imp_left fun ⟨e, hl, he⟩ => ⟨e, by simpa using hl, he⟩, ih.2.2⟩
  | case3 c cs d ds rest h hne ih =>
    -- a new chunk `[c]` in front of `d :: ds`: exactly one of `c`, `d` is whitespace
    rw [h] at ih
    refine ⟨List.cons_ne_nil _ _, ?_, ih⟩
    cases hc : isWs c with
    | true => exact .inl ⟨c, rfl, isWs_sep hc⟩
    | false =>
      refine .inr ⟨d, rfl, isWs_sep ?_⟩
      cases hd : isWs d with
      | true => rfl
      | false => simp [hc, hd] at hne
  | case4 => exact List.cons_ne_nil _ _

theorem stepLine_words (w : Nat) (c : Str) (cs : List Str) (b : Bool) (hb : Bok (c :: cs)) :
    Bok (stepLine w c cs b).1 ∧ Bok (stepLine w c cs b).2 ∧
      (c :: cs).flatMap words =
        (stepLine w c cs b).1.flatMap words ++ (stepLine w c cs b).2.flatMap words := by
  obtain ⟨pre, post, hsp, hpre, hpost⟩ := stepLine_spec w c cs b
  have hbok := hsp ▸ hb
  have blank0 {l : List Str} (h : ∀ x ∈ l, isBlank x = true) : l.flatMap words = [] :=
    List.flatMap_eq_nil_iff.mpr fun x hx => words_blank x (h x hx)
  refine ⟨Bok.suffix _ _ (Bok.prefix _ _ (Bok.prefix _ _ hbok)), Bok.suffix _ _ hbok, ?_⟩
  conv => lhs; rw [hsp]
  simp only [List.flatMap_append, blank0 hpre, blank0 hpost, List.nil_append, List.append_nil]

theorem wrapChunks_words (w : Nat) (cs : List Str) (b : Bool) (hb : Bok cs) :
    (wrapChunks w cs b).flatMap words = cs.flatMap words := by
  fun_induction wrapChunks w cs b with
  | case1 => rfl
  | case2 b c cs r he ih =>
    obtain ⟨_, hrest, total⟩ := stepLine_words w c cs b hb
    rw [ih hrest, total, List.isEmpty_iff.mp he]
    rfl
  | case3 b c cs r he ih =>
    obtain ⟨hline, hrest, total⟩ := stepLine_words w c cs b hb
    rw [List.flatMap_cons, ih hrest, total, Bok.flatMap_words _ hline]

theorem words_replicate_sep (n : Nat) (b : Str) : words (List.replicate n ' ' ++ b) = words b := by
  induction n with
  | zero => rfl
  | succ n ih => rw [List.replicate_succ, List.cons_append, words_sep_cons _ _ (by decide), ih]

theorem munge_cons (c : Char) (s : Str) : munge (c :: s) = (if isWs c then ' ' else c) :: munge s := rfl

theorem munge_append (a b : Str) : munge (a ++ b) = munge a ++ munge b := by simp [munge]

theorem munge_replicate_space (n : Nat) : munge (List.replicate n ' ') = List.replicate n ' ' := by
  simp [munge, show isWs ' ' = true by decide]

/-- Stated behind an arbitrary text `u`, so that the induction can move a non-separator from `p` to `u`; a separator
    cuts the text in two (`words_append_sep`), and the blanks of a tab have no words. -/
theorem words_append_expand (u p : Str) (n : Nat) : words (u ++ munge (expandtabs p n)) = words (u ++ p) := by
  induction p generalizing u n with
  | nil => rfl
  | cons c cs ih =>
    have cut (d : Char) (hd : sep d = true) (hc : sep c = true) (m : Nat) :
        words (u ++ d :: munge (expandtabs cs m)) = words (u ++ c :: cs) := by
      rw [words_append_sep _ _ _ hd, words_append_sep _ _ _ hc]; exact congrArg _ (ih [] m)
    unfold expandtabs
    split
    · rename_i h
      obtain rfl : c = '\t' := by simpa using h
      obtain ⟨k, hk⟩ : ∃ k, 8 - n % 8 = k + 1 := ⟨7 - n % 8, by omega⟩
      rw [hk, munge_append, munge_replicate_space, List.replicate_succ, List.cons_append,
        words_append_sep _ _ _ (by decide), words_replicate_sep, words_append_sep _ _ _ (by decide)]
      exact congrArg _ (ih [] _)
    · by_cases hws : isWs c = true
      · split <;> (rw [munge_cons, if_pos hws]; exact cut ' ' (by decide) (isWs_sep hws) _)
      · have hnl : ¬ ((c == '\n' || c == '\r') = true) := by
          intro h; rcases (by simpa using h : c = '\n' ∨ c = '\r') with rfl | rfl <;> exact hws (by decide)
        rw [if_neg hnl, munge_cons, if_neg hws]
        cases hs : sep c with
        | true => exact cut c hs hs _
        | false => simpa only [List.append_assoc, List.singleton_append] using ih (u ++ [c]) (n + 1)

theorem words_expand (p : Str) (n : Nat) : words (munge (expandtabs p n)) = words p :=
  words_append_expand [] p n

theorem words_textwrap (w : Nat) (p : Str) : (textwrap w p).flatMap words = words p := by
  unfold textwrap
  rw [wrapChunks_words _ _ _ (splitChunks_bok _), ← Bok.flatMap_words _ (splitChunks_bok _),
    splitChunks_flatten, words_expand]

theorem words_orEmptyLine (ls : List Str) : (orEmptyLine ls).flatMap words = ls.flatMap words := by
  unfold orEmptyLine; split <;> simp [words_nil]

theorem words_splitlinesAux (s cur : Str) :
    (splitlinesAux s cur).flatMap words = words (cur.reverse ++ s) := by
  fun_induction splitlinesAux s cur with
  | case1 cur h =>
    have : cur = [] := by simpa using h
    subst this; simp [words_nil]
  | case2 cur h => simp
  | case3 c cur h =>
    have : sep c = true := by simp [sep, h]
    simp [words_concat_sep _ _ this]
  | case4 c cur h => simp
  | case5 c d rest cur h ih =>
    have h' : c = '\r' ∧ d = '\n' := by simpa using h
    obtain ⟨rfl, rfl⟩ := h'
    rw [List.flatMap_cons, ih,
      words_append_sep _ _ _ (show sep '\r' = true by decide),
      words_sep_cons _ _ (show sep '\n' = true by decide)]
    simp
  | case6 c d rest cur h hb ih =>
    have : sep c = true := by simp [sep, hb]
    rw [List.flatMap_cons, ih, words_append_sep _ _ _ this]
    simp
  | case7 c d rest cur h hb ih =>
    rw [ih]; simp

theorem words_wrapLines (text : Str) (w : Nat) : (wrapLines text w).flatMap words = words text := by
  rw [wrapLines, List.flatMap_assoc]
  simp only [words_orEmptyLine, words_textwrap]
  simpa [splitlines] using words_splitlinesAux text []

/-! ### visible characters -/

theorem vis_append (a b : Str) : vis (a ++ b) = vis a ++ vis b := by simp [vis]

theorem vis_cons (c : Char) (s : Str) : vis (c :: s) = if sep c then vis s else c :: vis s := by
  unfold vis
  rw [List.filter_cons]
  cases sep c <;> rfl

theorem segments_flatten (s : Str) : (segments s).flatten = vis s := by
  induction s with
  | nil => rfl
  | cons c cs ih =>
    rw [vis_cons]
    cases hc : sep c with
    | true => rw [segments_cons_sep c cs hc, ← ih]; rfl
    | false =>
      cases hs : segments cs with
      | nil => exact absurd hs (segments_ne_nil cs)
      | cons h t => rw [segments_cons_nsep c cs hc h t hs, ← ih, hs]; rfl

theorem flatten_words (s : Str) : (words s).flatten = vis s := by
  rw [words, List.flatten_filter_not_isEmpty, segments_flatten]

theorem vis_wrapLines (text : Str) (w : Nat) : vis (wrapLines text w).flatten = vis text := by
  have h (ls : List Str) : vis ls.flatten = (ls.flatMap words).flatten := by
    induction ls with
    | nil => rfl
    | cons l ls ih => rw [List.flatten_cons, vis_append, ih, List.flatMap_cons, List.flatten_append, flatten_words]
  rw [h, words_wrapLines, flatten_words]

end GuppyVerif.Render
