import GuppyVerif.Lemmas.C03BuildCfg
/-! # C03: shape and predecessors of the blocks of the CFG `buildCfg` returns: `Grow initState (finalState p)`, carried across
    the reachability flags and the pruning pass (`buildCfg_shape`, `buildCfg_has_pred`). -/
namespace GuppyVerif.Builder
open GuppyVerif.Surface

theorem okB_of_core {A B : Block} (h : A.core = B.core) (hB : okB B) : okB A := by
  unfold okB at hB ⊢
  rw [core_succs h, core_pred h]; exact hB

theorem okB_prune (bl : List Block) (h : ∀ i, okB (blkL bl i)) (i : Nat) : okB (blkL (prune bl) i) := by
  by_cases hi : i < bl.length
  · rw [blkL_prune bl i hi]
    have := h i
    unfold okB at this ⊢
    simp only
    split
    · exact this
    · have hle : ((blkL bl i).succs.filter fun s => !(blkL bl s).reach).length ≤ (blkL bl i).succs.length :=
        List.length_filter_le _ _
      refine ⟨by omega, fun h2 => this.2 (by omega)⟩
  · have : blkL (prune bl) i = {} := by
      simp [blkL, List.getElem?_eq_none (show (prune bl).length ≤ i by rw [length_prune]; omega)]
    rw [this]; exact okB_empty

theorem allOk_init : AllOk initState := fun i => by
  have : initState.blk i = {} := by match i with | 0 | 1 | _ + 2 => rfl
  rw [this]; exact okB_empty

theorem grow_final (p : Stmt) : Grow initState (finalState p) := by
  have kr := (bodyBuild_built p).grow
  cases h : (bodyBuild p).2 with
  | none => rw [finalState_none h]; exact kr
  | some fin => rw [finalState_some h]; exact kr.trans (grow_link 1 (final_open h).2.2)

theorem buildCfg_shape {p : Stmt} {rn : Bool} {g : Cfg} (hb : buildCfg rn p = .ok g) :
    ∀ i, okB (blkL g.blocks i) := by
  obtain ⟨_, σ', hg, hFl, _⟩ := buildCfg_ok hb
  rw [hg]
  exact okB_prune _ fun i => okB_of_core (hFl.core i) ((grow_final p).ok allOk_init i)

theorem prune_has_pred {σ σ' : BState} (h : Flagged σ (Path σ.blocks 0) σ') {i : Nat} (hi : i < σ.len) (h0 : i ≠ 0)
    (hp : HP σ i) :
    ∃ j, j < (prune σ'.blocks).length ∧
      (i ∈ (blkL (prune σ'.blocks) j).succs ∨ i ∈ (blkL (prune σ'.blocks) j).dsuccs) := by
  have hlen : σ'.blocks.length = σ.len := h.len
  have hlt : ∀ j, (i ∈ (σ.blk j).succs ∨ i ∈ (σ.blk j).dsuccs) → j < σ'.blocks.length := by
    intro j h'
    by_cases hj : j < σ.len
    · omega
    · rw [empty_of_ge σ (Nat.le_of_not_lt hj)] at h'; rcases h' with h' | h' <;> cases h'
  have hs : ∀ j, (σ'.blk j).succs = (σ.blk j).succs := fun j => core_succs (h.core j)
  by_cases hri : (σ'.blk i).reach = true
  · -- a flagged block keeps the last edge of a path to it
    cases (h.reach i hi).mp hri with
    | refl => exact absurd rfl h0
    | @step j _ hFj hij =>
      have hj := hlt j (Or.inl hij)
      refine ⟨j, by rw [length_prune]; exact hj, Or.inl ?_⟩
      rw [blkL_prune _ j hj]
      have : (σ'.blk j).reach = true := (h.reach j (by omega)).mpr hFj
      simp only [this, if_true]
      rw [hs j]; exact hij
  · -- an unflagged block keeps all its edges, and they come from unflagged blocks
    obtain ⟨j, hj⟩ := hp
    have hjl := hlt j hj
    have hni : (!(σ'.blk i).reach) = true := by simpa using hri
    refine ⟨j, by rw [length_prune]; exact hjl, ?_⟩
    rw [blkL_prune _ j hjl]
    rcases hj with hj | hj
    · left
      simp only
      split
      · rename_i hrj
        exact absurd ((h.reach i hi).mpr (((h.reach j (by omega)).mp hrj).step hj)) hri
      · rw [hs j]; exact List.mem_filter.mpr ⟨hj, hni⟩
    · right
      simp only
      rw [h.dsuccs j]; exact List.mem_filter.mpr ⟨hj, hni⟩

/-- in the final state every block but the entry has a predecessor: the exit is the target of a `return` or of
    the final block, every other block was created by `build` -/
theorem hp_final {p : Stmt} (hint : (bodyBuild p).1.internal = false) {i : Nat} (h0 : 0 < i)
    (hi : i < (finalState p).len) : HP (finalState p) i := by
  by_cases h1 : i = 1
  · subst h1
    cases h : (bodyBuild p).2 with
    | none =>
      rw [finalState_none h]
      rcases (bodyBuild_built p).jhp h with h | ⟨t, h, _⟩ | ⟨t, h, _⟩ | h
      · exact h
      · cases h
      · cases h
      · rw [hint] at h; cases h
    | some fin => rw [finalState_some h]; exact hp_link fin 1 _ (final_open h).2.1
  · exact (grow_final p).new i (by show 2 ≤ i; omega) hi

theorem buildCfg_has_pred {p : Stmt} {rn : Bool} {g : Cfg} (hb : buildCfg rn p = .ok g)
    (i : Nat) (h0 : 0 < i) (hi : i < g.blocks.length) :
    ∃ j, j < g.blocks.length ∧ (i ∈ (blkL g.blocks j).succs ∨ i ∈ (blkL g.blocks j).dsuccs) := by
  obtain ⟨hint, σ', hg, hFl, _⟩ := buildCfg_ok hb
  rw [hg] at hi ⊢
  have hi' : i < (finalState p).len := by rw [length_prune] at hi; exact hFl.len ▸ hi
  exact prune_has_pred hFl hi' (by omega) (hp_final hint h0 hi')

end GuppyVerif.Builder
