import GuppyVerif.Model.Wiring
/-! # C03: block wiring: `sort_vars` sorts, sorting is canonical on rows with distinct names, and what a
    block delivers along a branch is what the successor expects -/
namespace GuppyVerif.Wiring

theorem keyLt_irrefl (p : Place) : keyLt p p = false := by
  cases h : p.droppable <;> simp [keyLt, h, String.lt_irrefl]

theorem keyLt_trans {p q r : Place} (h1 : keyLt p q = true) (h2 : keyLt q r = true) : keyLt p r = true := by
  unfold keyLt at *
  cases hp : p.droppable <;> cases hq : q.droppable <;> cases hr : r.droppable <;>
    simp_all
  all_goals exact String.lt_trans h1 h2

theorem keyLt_asymm {p q : Place} (h1 : keyLt p q = true) : keyLt q p = false := by
  cases h2 : keyLt q p with
  | false => rfl
  | true => have := keyLt_trans h1 h2; rw [keyLt_irrefl] at this; cases this

theorem keyLt_total {p q : Place} (hne : p.name ≠ q.name) : keyLt p q = true ∨ keyLt q p = true := by
  unfold keyLt
  have hs : p.name < q.name ∨ q.name < p.name := by
    rcases String.le_total p.name q.name with h | h
    · by_cases hlt : p.name < q.name
      · exact Or.inl hlt
      · exact absurd (String.le_antisymm h (String.not_lt.mp hlt)) hne
    · by_cases hlt : q.name < p.name
      · exact Or.inr hlt
      · exact absurd (String.le_antisymm (String.not_lt.mp hlt) h) hne
  cases hp : p.droppable <;> cases hq : q.droppable <;> simp [hs]
  all_goals exact hs

/-- strictly sorted by `compare_var` -/
def Sorted (l : List Place) : Prop := l.Pairwise fun a b => keyLt a b = true

def NamesNodup (l : List Place) : Prop := l.Pairwise fun a b => a.name ≠ b.name

theorem insertVar_perm (p : Place) (l : List Place) : (insertVar p l).Perm (p :: l) := by
  induction l with
  | nil => exact List.Perm.refl _
  | cons q qs ih =>
    simp only [insertVar]
    split
    · exact List.Perm.refl _
    · exact (List.Perm.cons q ih).trans (List.Perm.swap p q qs)

theorem sortVars_perm (l : List Place) : (sortVars l).Perm l := by
  induction l with
  | nil => exact List.Perm.refl _
  | cons p ps ih =>
    show (insertVar p (sortVars ps)).Perm (p :: ps)
    exact (insertVar_perm p _).trans (List.Perm.cons p ih)

theorem insertVar_sorted (p : Place) (l : List Place) (hs : Sorted l) (hn : ∀ q ∈ l, p.name ≠ q.name) :
    Sorted (insertVar p l) := by
  induction l with
  | nil => exact List.pairwise_singleton _ _
  | cons q qs ih =>
    simp only [insertVar]
    have hq := List.pairwise_cons.mp hs
    split
    · rename_i hlt
      refine List.pairwise_cons.mpr ⟨?_, hs⟩
      intro r hr
      rcases List.mem_cons.mp hr with rfl | hr
      · exact hlt
      · exact keyLt_trans hlt (hq.1 r hr)
    · rename_i hlt
      have hqp : keyLt q p = true := by
        rcases keyLt_total (hn q (List.mem_cons_self ..)) with h | h
        · exact absurd h hlt
        · exact h
      refine List.pairwise_cons.mpr ⟨?_, ih hq.2 (fun r hr => hn r (List.mem_cons_of_mem _ hr))⟩
      intro r hr
      rcases List.mem_cons.mp ((insertVar_perm p qs).mem_iff.mp hr) with rfl | hr
      · exact hqp
      · exact hq.1 r hr

theorem namesNodup_perm {l1 l2 : List Place} (h : l1.Perm l2) (hn : NamesNodup l1) : NamesNodup l2 :=
  (h.pairwise_iff (fun hab => fun h' => hab h'.symm)).mp hn

theorem sortVars_sorted (l : List Place) (hn : NamesNodup l) : Sorted (sortVars l) := by
  induction l with
  | nil => exact List.Pairwise.nil
  | cons p ps ih =>
    have hp := List.pairwise_cons.mp hn
    show Sorted (insertVar p (sortVars ps))
    exact insertVar_sorted p _ (ih hp.2) (fun q hq => hp.1 q ((sortVars_perm ps).mem_iff.mp hq))

theorem sorted_unique {l1 l2 : List Place} (h : l1.Perm l2) (s1 : Sorted l1) (s2 : Sorted l2) : l1 = l2 :=
  List.Perm.eq_of_pairwise (fun _ _ _ _ hab hba => by rw [keyLt_asymm hab] at hba; cases hba) s1 s2 h

theorem sortVars_canonical {l1 l2 : List Place} (h : l1.Perm l2) (hn : NamesNodup l1) : sortVars l1 = sortVars l2 :=
  sorted_unique (((sortVars_perm l1).trans h).trans (sortVars_perm l2).symm) (sortVars_sorted l1 hn)
    (sortVars_sorted l2 (namesNodup_perm h hn))

theorem sortVars_of_sorted {l : List Place} (hs : Sorted l) (hn : NamesNodup l) : sortVars l = l :=
  sorted_unique (sortVars_perm l) (sortVars_sorted l hn) hs

theorem namesNodup_filter (f : Place → Bool) {l : List Place} (hn : NamesNodup l) : NamesNodup (l.filter f) :=
  List.Pairwise.filter f hn

theorem sorted_split {l : List Place} (hs : Sorted l) :
    l = l.filter (·.droppable) ++ l.filter (fun p => !p.droppable) := by
  induction l with
  | nil => rfl
  | cons a as ih =>
    have h := List.pairwise_cons.mp hs
    cases ha : a.droppable with
    | true =>
      simp only [List.filter_cons, ha, if_true, Bool.not_true, Bool.false_eq_true, if_false, List.cons_append]
      rw [← ih h.2]
    | false =>
      -- everything after a non-droppable place is non-droppable
      have hall : ∀ b ∈ as, b.droppable = false := by
        intro b hb
        have := h.1 b hb
        unfold keyLt at this
        cases hbd : b.droppable <;> simp_all
      have e1 : as.filter (·.droppable) = [] := List.filter_eq_nil_iff.mpr (fun b hb => by simp [hall b hb])
      have e2 : as.filter (fun p => !p.droppable) = as :=
        List.filter_eq_self.mpr (fun b hb => by simp [hall b hb])
      simp only [List.filter_cons, ha, Bool.false_eq_true, if_false, Bool.not_false, if_true, e1, e2, List.nil_append]

theorem namesNodup_nodup {l : List Place} (h : NamesNodup l) : l.Nodup :=
  List.Pairwise.imp (fun hab => fun heq => hab (congrArg Place.name heq)) h

theorem sameIds_perm {a b : List Place} (hs : sameIds a b = true) (ha : NamesNodup a) (hb : NamesNodup b)
    (hc : ∀ p ∈ a, ∀ q ∈ b, p.name = q.name → p = q) : a.Perm b := by
  apply (List.perm_ext_iff_of_nodup (namesNodup_nodup ha) (namesNodup_nodup hb)).mpr
  simp only [sameIds, Bool.and_eq_true, List.all_eq_true, List.any_eq_true, beq_iff_eq] at hs
  intro p
  constructor
  · intro hp
    obtain ⟨q, hq, hqn⟩ := hs.1 p hp
    rw [hc p hp q hq hqn.symm]; exact hq
  · intro hp
    obtain ⟨q, hq, hqn⟩ := hs.2 p hp
    rw [← hc q hq p hp hqn]; exact hq

theorem filter_sortVars (f : Place → Bool) {l : List Place} (hn : NamesNodup l) :
    (sortVars l).filter f = sortVars (l.filter f) := by
  have hs := sortVars_sorted l hn
  have h1 : Sorted ((sortVars l).filter f) := List.Pairwise.filter f hs
  have h2 : ((sortVars l).filter f).Perm (l.filter f) := (sortVars_perm l).filter f
  exact (sorted_unique (h2.trans (sortVars_perm _).symm) h1 (sortVars_sorted _ (namesNodup_filter f hn)))

theorem deliver_single (inRow row succIn : List Place) (ex : Bool) (hp : row.Perm succIn) (hn : NamesNodup row) :
    deliver ⟨inRow, [row]⟩ [ex] =
      some [if ex then row else blockInputs false ⟨succIn, []⟩] := by
  cases ex with
  | true => rfl
  | false =>
    simp only [deliver, List.headD, blockInputs, Bool.false_eq_true, if_false]
    rw [sortVars_canonical hp hn]

theorem deliver_branch (inRow first : List Place) (rest : List (List Place)) (exits : List Bool) (hr : rest ≠ [])
    (ds : List (List Place)) (hd : deliver ⟨inRow, first :: rest⟩ exits = some ds)
    (hnf : NamesNodup first)
    (i : Nat) (row succIn d : List Place) (hrow : (first :: rest)[i]? = some row) (hdi : ds[i]? = some d)
    (hp : row.Perm succIn) (hn : NamesNodup row)
    (hc : ∀ p ∈ first, ∀ q ∈ row, p.name = q.name → p = q)
    (hlin : (row.filter fun p => !p.droppable).Perm (first.filter fun p => !p.droppable)) :
    d = blockInputs false ⟨succIn, []⟩ := by
  cases rest with
  | nil => exact absurd rfl hr
  | cons r2 rest' =>
    simp only [deliver] at hd
    split at hd
    · cases hd
    · split at hd
      · rename_i hall
        simp only [Option.some.injEq] at hd
        subst hd
        rw [List.getElem?_map, hrow] at hdi
        simp only [Option.map_some, Option.some.injEq] at hdi
        subst hdi
        have hfr : first.Perm row := by
          cases i with
          | zero => simp only [List.getElem?_cons_zero, Option.some.injEq] at hrow; subst hrow; exact List.Perm.refl _
          | succ j =>
            have hmem : row ∈ r2 :: rest' := List.mem_of_getElem? (by simpa using hrow)
            have := List.all_eq_true.mp hall row hmem
            exact sameIds_perm this hnf hn hc
        simp only [blockInputs, Bool.false_eq_true, if_false]
        exact sortVars_canonical (hfr.trans hp) hnf
      · simp only [Option.some.injEq] at hd
        subst hd
        rw [List.getElem?_map, hrow] at hdi
        simp only [Option.map_some, Option.some.injEq] at hdi
        subst hdi
        simp only [blockInputs, Bool.false_eq_true, if_false]
        rw [← sortVars_canonical hp hn]
        have hs := sortVars_sorted row hn
        have h1 := sorted_split hs
        have h2 : (sortVars row).filter (fun p => !p.droppable) = sortVars (first.filter fun p => !p.droppable) := by
          rw [filter_sortVars _ hn]
          exact sortVars_canonical hlin (namesNodup_filter _ hn)
        rw [← h2]
        exact h1.symm

theorem return_vars_order (tys : List Bool) (exitIn predOut inRow : List Place) (h : predOut = exitIn) :
    deliver ⟨inRow, [(insertReturnVars tys exitIn predOut).2]⟩ [true] = some [(insertReturnVars tys exitIn predOut).1] ∧
    (insertReturnVars tys exitIn predOut).1.take tys.length = tys.zipIdx.map (fun (d, i) => retVar i d) ∧
    (insertReturnVars tys exitIn predOut).1.drop tys.length = exitIn := by
  subst h
  refine ⟨rfl, ?_, ?_⟩
  · simp [insertReturnVars]
  · simp [insertReturnVars]

end GuppyVerif.Wiring
