import GuppyVerif.Lemmas.Basic
import GuppyVerif.Model.OrderEdges
/-! # C05: the order edges inserted by `track_hugr_side_effects` form one chain per region (`chain_final`): the invariant `Inv`
    of the tracker state is kept by every `handle_side_effect` (abstracted to the relation `Run`) and by `addNode`;
    `addNode_links`: a side-effecting node is linked at once. -/
namespace GuppyVerif.OrderEdges

/-- edges of consecutive elements -/
def pathEdges : List Nat → List (Nat × Nat)
  | a :: b :: t => (a, b) :: pathEdges (b :: t)
  | _ => []

theorem pathEdges_snoc (l : List Nat) (a x : Nat) : pathEdges (l ++ [a] ++ [x]) = pathEdges (l ++ [a]) ++ [(a, x)] := by
  induction l with
  | nil => rfl
  | cons b t ih =>
    cases t with
    | nil => rfl
    | cons c t' =>
      simp only [List.cons_append, pathEdges] at ih ⊢
      rw [ih]

/-- order edges whose target lies in region `p` -/
def region (s : St) (p : Nat) : List (Nat × Nat) := s.edges.filter fun e => parentOf s.nodes e.2 == some p

/-- parents are created before their children (`Hugr.add_node` needs an existing parent) -/
def WFN (nodes : List Node) : Prop := ∀ i p, parentOf nodes i = some p → p < i

/-- the node sequence is well formed: every node's parent was inserted before it -/
def WFSeq : Nat → List Node → Prop
  | _, [] => True
  | n, nd :: rest => (∀ p, nd.parent = some p → p < n) ∧ WFSeq (n + 1) rest

/-- the region's `Input` node: hugr-py's dataflow builders create it first -/
def firstChild (nodes : List Node) (p : Nat) : Option Nat := (children nodes p).head?

/-- a region without a dictionary entry has no order edge; one with entry `last` has exactly the edges of a path
    `Input → … → last`, without repeated nodes as long as `dup` is unset.  `keys`: so that `finish` adds one edge to
    `Output` per region; `bound`: so that a node inserted later is no edge's target (`inv_append`) -/
structure Inv (s : St) : Prop where
  keys : (s.prev.map (·.1)).Nodup
  bound : ∀ e ∈ s.edges, e.2 < s.nodes.length
  chainsN : ∀ p, lookup s.prev p = none → region s p = []
  chainsS : ∀ p last, lookup s.prev p = some last →
    ∃ inp mids, firstChild s.nodes p = some inp ∧ region s p = pathEdges (inp :: mids ++ [last]) ∧
      (s.dup = false → (inp :: mids ++ [last]).Nodup)

/-! ### the dictionary `prev_node_with_side_effect` -/

theorem lookup_nil (q : Nat) : lookup [] q = none := rfl
theorem lookup_cons (e : Nat × Nat) (es : List (Nat × Nat)) (q : Nat) :
    lookup (e :: es) q = if e.1 = q then some e.2 else lookup es q := by
  simp only [lookup, List.find?_cons]
  cases h : e.1 == q <;> simp_all

theorem lookup_none_iff (prev : List (Nat × Nat)) (q : Nat) : lookup prev q = none ↔ prev.any (·.1 == q) = false := by
  induction prev with
  | nil => simp [lookup_nil]
  | cons e es ih => rw [lookup_cons]; by_cases h : e.1 = q <;> simp [h, ih]

theorem lookup_map_upd (prev : List (Nat × Nat)) (p n q : Nat) :
    lookup (prev.map fun e => if e.1 == p then (p, n) else e) q =
      if p = q then (lookup prev p).map fun _ => n else lookup prev q := by
  induction prev with
  | nil => simp [lookup_nil]
  | cons e es ih =>
    rw [List.map_cons, lookup_cons, lookup_cons, lookup_cons, ih]
    by_cases hq : p = q
    · subst hq; by_cases he : e.1 = p <;> simp [he]
    · by_cases he : e.1 = p <;> simp [he, hq]

theorem lookup_append_one (prev : List (Nat × Nat)) (p n q : Nat) :
    lookup (prev ++ [(p, n)]) q = (lookup prev q).or (if p = q then some n else none) := by
  induction prev with
  | nil => simp [lookup_cons, lookup_nil]
  | cons e es ih => rw [List.cons_append, lookup_cons, lookup_cons, ih]; split <;> simp

theorem lookup_setPrev (prev : List (Nat × Nat)) (p n q : Nat) :
    lookup (setPrev prev p n) q = if q = p then some n else lookup prev q := by
  unfold setPrev
  cases hl : lookup prev p with
  | none =>
    rw [if_neg (by simp [(lookup_none_iff prev p).mp hl]), lookup_append_one]
    by_cases hq : q = p
    · simp [hq, hl]
    · simp [hq, Ne.symm hq]
  | some v =>
    have : prev.any (·.1 == p) = true := by
      cases h : prev.any (·.1 == p)
      · rw [(lookup_none_iff prev p).mpr h] at hl; cases hl
      · rfl
    rw [if_pos this, lookup_map_upd, hl]
    by_cases hq : q = p
    · simp [hq]
    · simp [hq, Ne.symm hq]

theorem keys_setPrev (prev : List (Nat × Nat)) (p n : Nat) (h : (prev.map (·.1)).Nodup) :
    ((setPrev prev p n).map (·.1)).Nodup := by
  unfold setPrev
  split
  · have : (prev.map fun e => if e.1 == p then (p, n) else e).map (·.1) = prev.map (·.1) := by
      rw [List.map_map]; exact List.map_congr_left fun e _ => by by_cases he : e.1 = p <;> simp [he]
    rw [this]; exact h
  · rename_i h'
    rw [List.map_append]
    refine List.nodup_append.mpr ⟨h, by simp, fun a ha b hb hab => h' ?_⟩
    obtain ⟨e, he, rfl⟩ := List.mem_map.mp ha
    have hb : b = p := by simpa using hb
    exact List.any_eq_true.mpr ⟨e, he, by simp [hab, hb]⟩

/-! ### `linkAfter` -/

theorem linkAfter_self (x p : Nat) (s : St) : linkAfter x x p s = s := by simp [linkAfter]

theorem linkAfter_ne {v x : Nat} (h : v ≠ x) (p : Nat) (s : St) :
    linkAfter v x p s =
      { s with edges := s.edges ++ [(v, x)], prev := setPrev s.prev p x,
               dup := s.dup || s.edges.any (·.2 == x) || (children s.nodes p).head? == some x } := by
  simp [linkAfter, h]

structure Frame (s s' : St) : Prop where
  nodes : s'.nodes = s.nodes
  edges : s.edges <+: s'.edges
  dup : s'.dup = false → s.dup = false

theorem Frame.refl (s : St) : Frame s s := ⟨rfl, List.prefix_refl _, id⟩

theorem Frame.trans {s s1 s2 : St} (h1 : Frame s s1) (h2 : Frame s1 s2) : Frame s s2 :=
  ⟨h2.nodes.trans h1.nodes, h1.edges.trans h2.edges, fun h => h1.dup (h2.dup h)⟩

theorem frame_linkAfter (v x p : Nat) (s : St) : Frame s (linkAfter v x p s) := by
  by_cases h : v = x
  · rw [h, linkAfter_self]; exact .refl s
  · rw [linkAfter_ne h]; exact ⟨rfl, List.prefix_append _ _, fun hd => by simp at hd; exact hd.1.1⟩

theorem lookup_linkAfter (v x p : Nat) (s : St) (q : Nat) :
    lookup (linkAfter v x p s).prev q = if v ≠ x ∧ q = p then some x else lookup s.prev q := by
  by_cases h : v = x
  · simp [h, linkAfter_self]
  · rw [linkAfter_ne h, lookup_setPrev]; simp [h]

theorem region_linkAfter {s : St} {v x p : Nat} (h : v ≠ x) (hp : parentOf s.nodes x = some p) (q : Nat) :
    region (linkAfter v x p s) q = if q = p then region s p ++ [(v, x)] else region s q := by
  rw [linkAfter_ne h]
  simp only [region, List.filter_append, List.filter_cons, List.filter_nil, hp]
  by_cases hq : q = p
  · simp [hq]
  · simp [hq, Ne.symm hq]

theorem pathEdges_targets : ∀ (l : List Nat) (a : Nat), (pathEdges (a :: l)).map (·.2) = l
  | [], _ => rfl
  | b :: t, _ => congrArg (b :: ·) (pathEdges_targets t b)

theorem mem_path_target (l : List Nat) (a y : Nat) (h : y ∈ l) : ∃ e ∈ pathEdges (a :: l), e.2 = y :=
  List.mem_map.mp ((pathEdges_targets l a).symm ▸ h : y ∈ (pathEdges (a :: l)).map (·.2))

/-- linking `x` behind the last linked node of its region, or behind the region's `Input` when nothing is linked there
    yet, extends the region's path by `x`; `dup` stays unset only if `x` is on no path yet -/
theorem linkAfter_inv {s : St} (hI : Inv s) {x p v : Nat} (hx : x < s.nodes.length) (hp : parentOf s.nodes x = some p)
    (hv : lookup s.prev p = some v ∨ (lookup s.prev p = none ∧ firstChild s.nodes p = some v)) :
    Inv (linkAfter v x p s) := by
  by_cases hvx : v = x
  · rw [hvx, linkAfter_self]; exact hI
  have hl : ∀ q, lookup (linkAfter v x p s).prev q = if q = p then some x else lookup s.prev q := fun q => by
    rw [lookup_linkAfter]; simp [hvx]
  have hr := region_linkAfter hvx hp
  have hfr := frame_linkAfter v x p s
  have hd : (linkAfter v x p s).dup = false → s.edges.any (·.2 == x) = false ∧ firstChild s.nodes p ≠ some x := by
    rw [linkAfter_ne hvx]; simp [firstChild, and_assoc]
  refine ⟨?_, ?_, fun q hq => ?_, fun q last hq => ?_⟩
  · rw [linkAfter_ne hvx]; exact keys_setPrev _ _ _ hI.keys
  · rw [linkAfter_ne hvx]
    intro e he
    rcases List.mem_append.mp he with he | he
    · exact hI.bound e he
    · rw [List.mem_singleton.mp he]; exact hx
  · rw [hl] at hq
    split at hq
    · cases hq
    · rename_i hqp; rw [hr, if_neg hqp]; exact hI.chainsN q hq
  · rw [hl] at hq
    rw [hr, hfr.nodes]
    split at hq
    · rename_i hqp
      subst hqp; cases hq
      rw [if_pos rfl]
      rcases hv with hv | ⟨hv, hf⟩
      · obtain ⟨inp, mids, h1, h2, h3⟩ := hI.chainsS q v hv
        refine ⟨inp, mids ++ [v], h1, ?_, fun hdup => ?_⟩
        · rw [h2]; simpa using (pathEdges_snoc (inp :: mids) v x).symm
        · obtain ⟨hany, hfc⟩ := hd hdup
          -- `x` is not the `Input`, and no edge of the path leads to it
          have hxm : x ∉ mids ++ [v] := fun hm => by
            obtain ⟨e, he, hey⟩ := mem_path_target (mids ++ [v]) inp x hm
            have he' : e ∈ region s q := h2 ▸ he
            have : s.edges.any (·.2 == x) = true :=
              List.any_eq_true.mpr ⟨e, (List.mem_filter.mp he').1, by simp [hey]⟩
            rw [this] at hany; cases hany
          exact List.nodup_snoc (l := inp :: (mids ++ [v])) (h3 (hfr.dup hdup)) fun h =>
            (List.mem_cons.mp h).elim (fun h => hfc (h ▸ h1)) hxm
      · exact ⟨v, [], hf, by rw [hI.chainsN q hv]; rfl, fun _ => List.nodup_cons.mpr ⟨by simp [hvx], by simp⟩⟩
    · rename_i hqp
      rw [if_neg hqp]
      obtain ⟨inp, mids, h1, h2, h3⟩ := hI.chainsS q last hq
      exact ⟨inp, mids, h1, h2, fun hdup => h3 (hfr.dup hdup)⟩

/-! ### `handle_side_effect` -/

/-- what `handle_side_effect(x)` can do to the state: nothing (no parent, or the fuel is spent); link `x` behind the
    last linked node of its region; or, the region having none, see to the parent first and then link `x` behind the
    region's `Input` (or not at all: under a `Conditional` / `CFG`, or when there is no `Input`) -/
inductive Run : St → Nat → St → Prop
  | stop (s : St) (x : Nat) : Run s x s
  | again {s : St} {x p v : Nat} : parentOf s.nodes x = some p → lookup s.prev p = some v → Run s x (linkAfter v x p s)
  | up {s s1 : St} {x p : Nat} : parentOf s.nodes x = some p → lookup s.prev p = none → Run s p s1 → Run s x s1
  | first {s s1 : St} {x p inp : Nat} : parentOf s.nodes x = some p → lookup s.prev p = none → Run s p s1 →
      firstChild s1.nodes p = some inp → Run s x (linkAfter inp x p s1)

/-- the state in which `x` is linked when its region has no entry yet: the parent has been seen to, unless it is a
    `FuncDefn` -/
def upStep (f : Nat) (s : St) (p : Nat) : St := if kindOf s.nodes p == .funcDefn then s else handle f s p

theorem upStep_run {f : Nat} (ih : ∀ s x, Run s x (handle f s x)) (s : St) (p : Nat) : Run s p (upStep f s p) := by
  unfold upStep
  split
  · exact .stop s p
  · exact ih s p

theorem handle_run (f : Nat) : ∀ (s : St) (x : Nat), Run s x (handle f s x) := by
  induction f with
  | zero => exact fun s x => .stop s x
  | succ f ih =>
    intro s x
    simp only [handle, ← upStep.eq_def]
    cases hp : parentOf s.nodes x with
    | none => exact .stop s x
    | some p =>
      simp only []
      cases hl : lookup s.prev p with
      | some v => exact .again hp hl
      | none =>
        simp only []
        have h1 := upStep_run ih s p
        generalize upStep f s p = s1 at h1
        split
        · exact .up hp hl h1
        · cases hc : (children s1.nodes p).head? with
          | none => exact .up hp hl h1
          | some inp => exact .first hp hl h1 hc

theorem Run.frame {s s' : St} {x : Nat} (h : Run s x s') : Frame s s' := by
  induction h with
  | stop => exact .refl _
  | again => exact frame_linkAfter ..
  | up _ _ _ ih => exact ih
  | first _ _ _ _ ih => exact ih.trans (frame_linkAfter ..)

/-- a run keeps the invariant; it writes dictionary entries of ancestors of `x` only, which come before `x` -/
theorem Run.post {s s' : St} {x : Nat} (h : Run s x s') (hW : WFN s.nodes) (hI : Inv s) (hx : x < s.nodes.length) :
    Inv s' ∧ ∀ q, x ≤ q → lookup s'.prev q = lookup s.prev q := by
  induction h with
  | stop => exact ⟨hI, fun _ _ => rfl⟩
  | @again x p v hp hl =>
    have hpx := hW x p hp
    exact ⟨linkAfter_inv hI hx hp (.inl hl), fun q hq => by rw [lookup_linkAfter, if_neg (by omega)]⟩
  | @up s1 x p hp _ _ ih =>
    have hpx := hW x p hp
    obtain ⟨i1, a1⟩ := ih (by omega)
    exact ⟨i1, fun q hq => a1 q (by omega)⟩
  | @first s1 x p inp hp hl hr hin ih =>
    have hpx := hW x p hp
    obtain ⟨i1, a1⟩ := ih (by omega)
    have hn := hr.frame.nodes
    exact ⟨linkAfter_inv i1 (hn ▸ hx) (hn ▸ hp) (.inr ⟨(a1 p (Nat.le_refl _)).trans hl, hin⟩),
      fun q hq => by rw [lookup_linkAfter, if_neg (by omega)]; exact a1 q (by omega)⟩

/-- with fuel, a node inserted into a dataflow region that has its `Input` ends as the region's last.  `hne`, `hv`:
    `linkAfter v x` does nothing when `v = x` -/
theorem handle_links {f : Nat} {s : St} {x p inp : Nat} (hp : parentOf s.nodes x = some p)
    (hk1 : kindOf s.nodes p ≠ .cond) (hk2 : kindOf s.nodes p ≠ .cfg) (hin : firstChild s.nodes p = some inp)
    (hne : inp ≠ x) (hv : ∀ v, lookup s.prev p = some v → v ≠ x) : lookup (handle (f + 1) s x).prev p = some x := by
  simp only [handle, ← upStep.eq_def, hp]
  cases hl : lookup s.prev p with
  | some v => simp only []; rw [lookup_linkAfter, if_pos ⟨hv v hl, rfl⟩]
  | none =>
    simp only []
    have h1 := (upStep_run (handle_run f) s p).frame.nodes
    generalize upStep f s p = s1 at h1
    have hc : (children s1.nodes p).head? = some inp := by rw [h1]; exact hin
    rw [if_neg (by simp [hk1, hk2]), hc]
    simp only []
    rw [lookup_linkAfter, if_pos ⟨hne, rfl⟩]

/-! ### adding a node -/

theorem parentOf_append (nodes : List Node) (nd : Node) (i : Nat) :
    parentOf (nodes ++ [nd]) i = if i = nodes.length then nd.parent else parentOf nodes i := by
  rcases Nat.lt_trichotomy i nodes.length with h | h | h
  · simp [parentOf, List.getElem?_append_left h, Nat.ne_of_lt h]
  · simp [parentOf, h]
  · simp [parentOf, Nat.le_of_lt h, Nat.ne_of_gt h, Nat.succ_le_of_lt h]

theorem children_append (nodes : List Node) (nd : Node) (p : Nat) :
    children (nodes ++ [nd]) p = children nodes p ++ (if nd.parent == some p then [nodes.length] else []) := by
  simp only [children, List.length_append, List.length_singleton, List.range_succ, List.filter_append,
    List.filter_cons, List.filter_nil, parentOf_append, if_true]
  congr 1
  exact List.filter_congr fun i hi => by rw [if_neg (Nat.ne_of_lt (List.mem_range.mp hi))]

theorem firstChild_append (nodes : List Node) (nd : Node) (p inp : Nat) (h : firstChild nodes p = some inp) :
    firstChild (nodes ++ [nd]) p = some inp := by
  simp only [firstChild, children_append] at h ⊢
  cases hc : children nodes p with
  | nil => rw [hc] at h; cases h
  | cons a t => rw [hc] at h; simpa using h

theorem inv_append {s : St} (hI : Inv s) (nd : Node) : Inv { s with nodes := s.nodes ++ [nd] } := by
  have hreg : ∀ p, region { s with nodes := s.nodes ++ [nd] } p = region s p := by
    intro p
    simp only [region]
    apply List.filter_congr
    intro e he
    rw [parentOf_append, if_neg (Nat.ne_of_lt (hI.bound e he))]
  refine ⟨hI.keys, fun e he => by have := hI.bound e he; simp; omega, ?_, ?_⟩
  · intro p hp; rw [hreg]; exact hI.chainsN p hp
  · intro p last hp
    obtain ⟨inp, mids, h1, h2, h3⟩ := hI.chainsS p last hp
    exact ⟨inp, mids, firstChild_append _ _ _ _ h1, by rw [hreg]; exact h2, h3⟩

theorem wfn_append {nodes : List Node} (hW : WFN nodes) (nd : Node) (hnd : ∀ p, nd.parent = some p → p < nodes.length) :
    WFN (nodes ++ [nd]) := by
  intro i p hip
  rw [parentOf_append] at hip
  split at hip
  · rename_i h; rw [h]; exact hnd p hip
  · exact hW i p hip

structure AddPost (s s' : St) (nds : List Node) : Prop where
  nodes : s'.nodes = s.nodes ++ nds
  inv : Inv s'
  wfn : WFN s'.nodes

theorem AddPost.trans {s s1 s2 : St} {l1 l2 : List Node} (h1 : AddPost s s1 l1) (h2 : AddPost s1 s2 l2) :
    AddPost s s2 (l1 ++ l2) :=
  ⟨by rw [h2.nodes, h1.nodes, List.append_assoc], h2.inv, h2.wfn⟩

theorem addNode_spec {s : St} (hW : WFN s.nodes) (hI : Inv s) (nd : Node)
    (hnd : ∀ p, nd.parent = some p → p < s.nodes.length) : AddPost s (addNode nd s) [nd] := by
  unfold addNode
  have hW1 := wfn_append hW nd hnd
  have hI1 := inv_append hI nd
  cases nd.eff with
  | false => exact ⟨rfl, hI1, hW1⟩
  | true =>
    simp only [if_true]
    have hr := handle_run (s.nodes ++ [nd]).length { s with nodes := s.nodes ++ [nd] } s.nodes.length
    exact ⟨hr.frame.nodes, (hr.post hW1 hI1 (by simp)).1, hr.frame.nodes ▸ hW1⟩

theorem foldl_spec : ∀ (nds : List Node) (s : St), WFN s.nodes → Inv s → WFSeq s.nodes.length nds →
    AddPost s (nds.foldl (fun s nd => addNode nd s) s) nds := by
  intro nds
  induction nds with
  | nil => intro s hW hI _; exact ⟨by simp, hI, hW⟩
  | cons nd rest ih =>
    intro s hW hI hS
    have h1 := addNode_spec hW hI nd hS.1
    exact h1.trans (ih _ h1.wfn h1.inv (by rw [h1.nodes]; simpa using hS.2))

/-! ### leaving the context: the edge to `Output` -/

theorem mem_children {nodes : List Node} {p c : Nat} (h : c ∈ children nodes p) : parentOf nodes c = some p := by
  simp only [children, List.mem_filter, List.mem_range] at h
  simpa using h.2

def outEdge (nodes : List Node) (e : Nat × Nat) : Option (Nat × Nat) :=
  ((children nodes e.1)[1]?).map fun out => (e.2, out)

theorem outEdge_parent {nodes : List Node} {e r : Nat × Nat} (h : outEdge nodes e = some r) :
    parentOf nodes r.2 = some e.1 ∧ r.1 = e.2 := by
  simp only [outEdge, Option.map_eq_some_iff] at h
  obtain ⟨out, h1, rfl⟩ := h
  exact ⟨mem_children (List.mem_of_getElem? h1), rfl⟩

theorem filter_key : ∀ (prev : List (Nat × Nat)), (prev.map (·.1)).Nodup → ∀ p,
    prev.filter (·.1 == p) = ((lookup prev p).map fun last => (p, last)).toList := by
  intro prev
  induction prev with
  | nil => intro _ _; rfl
  | cons e es ih =>
    intro hk p
    simp only [List.map_cons, List.nodup_cons] at hk
    rw [lookup_cons, List.filter_cons]
    by_cases e1 : e.1 = p
    · subst e1
      have : es.filter (·.1 == e.1) = [] :=
        List.filter_eq_nil_iff.mpr fun a ha h => hk.1 (List.mem_map.mpr ⟨a, ha, by simpa using h⟩)
      simp [this]
    · simp [e1, ih hk.2]

theorem finish_region {s : St} (hI : Inv s) (p : Nat) :
    region (finish s) p = region s p ++
      match lookup s.prev p with
      | some last => (outEdge s.nodes (p, last)).toList
      | none => [] := by
  have : ∀ e, (outEdge s.nodes e).filter (fun r => parentOf s.nodes r.2 == some p) =
      if (e.1 == p) = true then outEdge s.nodes e else none := fun e => by
    cases ho : outEdge s.nodes e with
    | none => simp
    | some r => simp [Option.filter, (outEdge_parent ho).1]
  show ((s.edges ++ s.prev.filterMap (outEdge s.nodes)).filter fun e => parentOf s.nodes e.2 == some p) = _
  rw [List.filter_append, List.filter_filterMap, funext this, ← List.filterMap_filter, filter_key s.prev hI.keys]
  cases lookup s.prev p with
  | none => rfl
  | some last => simp only [Option.map_some, Option.toList, List.filterMap_cons]; cases outEdge s.nodes (p, last) <;> rfl

theorem chain_final {nds : List Node} (hS : WFSeq 0 nds) (hd : (runAll nds).dup = false) (p : Nat) :
    region (runAll nds) p = [] ∨
    ∃ inp mids last, firstChild (runAll nds).nodes p = some inp ∧ (inp :: mids ++ [last]).Nodup ∧
      ((∃ out, (children (runAll nds).nodes p)[1]? = some out ∧
          region (runAll nds) p = pathEdges (inp :: mids ++ [last] ++ [out])) ∨
       ((children (runAll nds).nodes p)[1]? = none ∧ region (runAll nds) p = pathEdges (inp :: mids ++ [last]))) := by
  have h0 : Inv ({} : St) :=
    { keys := List.nodup_nil
      bound := fun e he => by cases he
      chainsN := fun _ _ => rfl
      chainsS := fun p last h => by simp [lookup] at h }
  have hW0 : WFN ({} : St).nodes := fun i p h => by simp [parentOf] at h
  have hI := (foldl_spec nds {} hW0 h0 hS).inv
  unfold runAll at hd ⊢
  generalize nds.foldl (fun s nd => addNode nd s) {} = s at *
  have hds : s.dup = false := hd
  rw [finish_region hI]
  cases hl : lookup s.prev p with
  | none => left; simp only [hI.chainsN p hl, List.append_nil]
  | some last =>
    right
    obtain ⟨inp, mids, h1, h2, h3⟩ := hI.chainsS p last hl
    refine ⟨inp, mids, last, h1, h3 hds, ?_⟩
    simp only [outEdge]
    cases ho : (children s.nodes p)[1]? with
    | none => right; exact ⟨ho, by simp [h2]⟩
    | some out =>
      left
      refine ⟨out, ho, ?_⟩
      simp only [Option.map_some, Option.toList, h2]
      have := pathEdges_snoc (inp :: mids) last out
      simp only [List.cons_append, List.append_assoc] at this ⊢
      exact this.symm

/-! ### coverage: every side-effecting node is linked, behind everything linked earlier in its region -/

theorem addNode_edges_prefix (nd : Node) (s : St) : s.edges <+: (addNode nd s).edges := by
  unfold addNode
  cases nd.eff with
  | false => exact List.prefix_refl _
  | true => exact (handle_run _ ({ s with nodes := s.nodes ++ [nd] } : St) _).frame.edges

theorem chain_last_lt {s : St} (hI : Inv s) {p v : Nat} (h : lookup s.prev p = some v) : v < s.nodes.length := by
  obtain ⟨inp, mids, _, h2, _⟩ := hI.chainsS p v h
  obtain ⟨e, he, hev⟩ := mem_path_target (mids ++ [v]) inp v (by simp)
  have : e ∈ region s p := by rw [h2]; exact he
  have := hI.bound e (List.mem_filter.mp this).1
  rw [hev] at this; exact this

theorem addNode_links {s : St} (hI : Inv s) (nd : Node) {p inp : Nat}
    (hnd : ∀ q, nd.parent = some q → q < s.nodes.length) (heff : nd.eff = true) (hpar : nd.parent = some p)
    (hk : kindOf s.nodes p ≠ .cond ∧ kindOf s.nodes p ≠ .cfg) (hinp : firstChild s.nodes p = some inp) :
    lookup (addNode nd s).prev p = some s.nodes.length := by
  have hplt : p < s.nodes.length := hnd p hpar
  have hinplt : inp < s.nodes.length := by
    have : inp ∈ children s.nodes p := List.mem_of_mem_head? hinp
    simp only [children, List.mem_filter, List.mem_range] at this
    exact this.1
  have hkind : kindOf (s.nodes ++ [nd]) p = kindOf s.nodes p := by
    simp [kindOf, List.getElem?_append_left hplt]
  unfold addNode
  simp only [heff, if_true, List.length_append, List.length_singleton]
  exact handle_links (by rw [parentOf_append, if_pos rfl, hpar]) (by rw [hkind]; exact hk.1) (by rw [hkind]; exact hk.2)
    (firstChild_append _ _ _ _ hinp) (Nat.ne_of_lt hinplt) (fun v hv => Nat.ne_of_lt (chain_last_lt hI hv))

end GuppyVerif.OrderEdges
