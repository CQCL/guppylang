import GuppyVerif.Spec.C33Closure
/-! The capturing-closure gate (C33): liveness is "used before assigned" (`liveBefore_iff`);
`captured` depends on the enclosing locals only through their names. -/
namespace GuppyVerif.ClosureGate

open Spec

theorem assignsName_false_iff (s : Stmt) (x : Nat) : assignsName s x = false ↔ s.assigns ≠ some x := by
  unfold assignsName; simp

theorem liveBefore_iff (body : List Stmt) (x : Nat) : x ∈ liveBefore body ↔ UsedFree body x := by
  induction body with
  | nil =>
    simp only [liveBefore, List.not_mem_nil, false_iff]
    rintro ⟨pre, s, post, h, _⟩
    cases pre <;> simp at h
  | cons s rest ih =>
    simp only [liveBefore, List.mem_append, List.mem_filter, Bool.not_eq_eq_eq_not, Bool.not_true,
      assignsName_false_iff]
    constructor
    · rintro (h | ⟨h1, h2⟩)
      · exact ⟨[], s, rest, rfl, h, by simp⟩
      · obtain ⟨pre, t, post, e, hr, hp⟩ := ih.mp h1
        refine ⟨s :: pre, t, post, by rw [e]; rfl, hr, ?_⟩
        intro u hu
        simp only [List.mem_cons] at hu
        rcases hu with rfl | hu
        · exact h2
        · exact hp u hu
    · rintro ⟨pre, t, post, e, hr, hp⟩
      cases pre with
      | nil =>
        simp only [List.nil_append, List.cons.injEq] at e
        obtain ⟨rfl, _⟩ := e
        exact Or.inl hr
      | cons u pre =>
        simp only [List.cons_append, List.cons.injEq] at e
        obtain ⟨rfl, e⟩ := e
        exact Or.inr ⟨ih.mpr ⟨pre, t, post, e, hr, fun v hv => hp v (List.mem_cons_of_mem _ hv)⟩,
          hp _ (List.mem_cons_self)⟩

theorem isLocal_iff (locals : List (Nat × VKind)) (x : Nat) :
    isLocal locals x = true ↔ x ∈ locals.map (·.1) := by
  unfold isLocal
  simp only [List.any_eq_true, beq_iff_eq, List.mem_map]

theorem captured_ne_nil_iff (locals : List (Nat × VKind)) (f : Inner) :
    captured locals f ≠ [] ↔ Captures (locals.map (·.1)) f := by
  unfold captured Captures
  simp only [ne_eq, List.filter_eq_nil_iff, Classical.not_forall, Classical.not_not, exists_prop,
    Bool.and_eq_true, Bool.not_eq_eq_eq_not, Bool.not_true, List.contains_eq_mem, decide_eq_false_iff_not,
    isLocal_iff, liveBefore_iff]

theorem isLocal_congr {l l' : List (Nat × VKind)} (h : l.map (·.1) = l'.map (·.1)) (x : Nat) :
    isLocal l x = isLocal l' x :=
  Bool.eq_iff_iff.mpr (by rw [isLocal_iff, isLocal_iff, h])

theorem captured_congr {l l' : List (Nat × VKind)} (h : l.map (·.1) = l'.map (·.1)) (f : Inner) :
    captured l f = captured l' f := by
  unfold captured
  congr 1
  funext x
  rw [isLocal_congr h x]

theorem checkNested_congr (flag : Bool) {l l' : List (Nat × VKind)} (h : l.map (·.1) = l'.map (·.1)) (f : Inner) :
    checkNested flag l f = checkNested flag l' f := by
  unfold checkNested; rw [captured_congr h f]

theorem names_bind_congr {l l' : List (Nat × VKind)} (h : l.map (·.1) = l'.map (·.1)) (x : Nat) (k k' : VKind) :
    ((x, k) :: l.filter fun e => e.1 != x).map (·.1) = ((x, k') :: l'.filter fun e => e.1 != x).map (·.1) := by
  have : ∀ m : List (Nat × VKind), (m.filter fun e => e.1 != x).map (·.1) = (m.map (·.1)).filter (· != x) :=
    fun m => (List.filter_map (f := (·.1)) (p := (· != x)) (l := m)).symm
  simp only [List.map_cons, this, h]

end GuppyVerif.ClosureGate
