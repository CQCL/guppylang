import GuppyVerif.Spec.C30
/-! Within one file `Loc.le` / `Loc.lt` are the total preorder `PosLe` and its strict
part; `Loc.max` / `Loc.min` are its least upper / greatest lower bound. -/
namespace GuppyVerif.Span

theorem le_iff_of_file {a b : Loc} (h : a.file = b.file) :
    Loc.le a b = true ↔ PosLe a.line a.col b.line b.col := by
  unfold Loc.le PosLe
  simp only [h, ne_eq, not_true_eq_false, ↓reduceIte]
  by_cases hl : a.line = b.line
  · simp [hl]
  · simp only [hl, not_false_eq_true, ↓reduceIte, decide_eq_true_eq, false_and, or_false]

theorem lt_iff_of_file {a b : Loc} (h : a.file = b.file) :
    Loc.lt a b = true ↔ ¬ PosLe b.line b.col a.line a.col := by
  unfold Loc.lt PosLe
  simp only [h, ne_eq, not_true_eq_false, ↓reduceIte]
  by_cases hl : a.line = b.line
  · simp [hl]
  · simp only [hl, not_false_eq_true, ↓reduceIte, decide_eq_true_eq]; omega

theorem not_lt_iff_of_file {a b : Loc} (h : a.file = b.file) :
    ¬ Loc.lt a b = true ↔ PosLe b.line b.col a.line a.col :=
  (not_congr (lt_iff_of_file h)).trans Classical.not_not

theorem PosLe.trans {a b c d e f : Nat} (h₁ : PosLe a b c d) (h₂ : PosLe c d e f) :
    PosLe a b e f := by unfold PosLe at *; omega

theorem PosLe.refl (a b : Nat) : PosLe a b a b := by unfold PosLe; omega

theorem PosLe.of_not {a b c d : Nat} (h : ¬ PosLe a b c d) : PosLe c d a b := by
  unfold PosLe at *; omega

theorem mk?_of_WF {s e : Loc} (h : Span.WF ⟨s, e⟩) : Span.mk? s e = some ⟨s, e⟩ := by
  have hf : s.file = e.file := h.1
  have hlt : Loc.lt e s = false := Bool.eq_false_iff.mpr ((not_lt_iff_of_file hf.symm).mpr h.2)
  simp only [Span.mk?, hf, hlt, ne_eq, not_true_eq_false, Bool.false_eq_true, ↓reduceIte]

theorem max_le_iff {a b : Loc} (h : a.file = b.file) (l : Loc) :
    PosLe (Loc.max a b).line (Loc.max a b).col l.line l.col ↔
      PosLe a.line a.col l.line l.col ∧ PosLe b.line b.col l.line l.col := by
  unfold Loc.max
  split
  · have hab := PosLe.of_not ((lt_iff_of_file h).mp ‹_›)
    exact ⟨fun hl => ⟨hab.trans hl, hl⟩, And.right⟩
  · have hba := (not_lt_iff_of_file h).mp ‹_›
    exact ⟨fun hl => ⟨hl, hba.trans hl⟩, And.left⟩

theorem le_min_iff {a b : Loc} (h : a.file = b.file) (l : Loc) :
    PosLe l.line l.col (Loc.min a b).line (Loc.min a b).col ↔
      PosLe l.line l.col a.line a.col ∧ PosLe l.line l.col b.line b.col := by
  unfold Loc.min
  split
  · have hba := PosLe.of_not ((lt_iff_of_file h.symm).mp ‹_›)
    exact ⟨fun hl => ⟨hl.trans hba, hl⟩, And.right⟩
  · have hab := (not_lt_iff_of_file h.symm).mp ‹_›
    exact ⟨fun hl => ⟨hl, hl.trans hab⟩, And.left⟩

theorem max_file {a b : Loc} (h : a.file = b.file) : (Loc.max a b).file = a.file := by
  unfold Loc.max; split <;> simp only [h]

theorem min_file {a b : Loc} (h : a.file = b.file) : (Loc.min a b).file = a.file := by
  unfold Loc.min; split <;> simp only [h]

end GuppyVerif.Span
