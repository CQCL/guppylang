import GuppyVerif.Lemmas.C01Acct
/-! `Holds` and the path-based `LeavesOnly` of `Spec/C01.lean` describe the same states (`Holds.leavesOnly`,
    `LeavesOnly.holds`), and there `leafWs` is the spec's `leafWires`; with distinct leaf wires the balance of
    `C01Acct` then gives `getitem_leaf_once`. -/
namespace GuppyVerif.DFWiring

theorem Holds.leavesOnly {n : Nat} {L : Locals} {env : Env} {t : Ty} {p : PlaceId} {v : Val}
    (h : Holds n L env p t v) : LeavesOnly n L p t := by
  induction t using Ty.ind generalizing p v with
  | leaf c d =>
    intro s t' hat
    cases s with
    | cons _ _ => simp [Ty.at] at hat
    | nil =>
      cases at_nil hat
      simp only [Holds] at h
      obtain ⟨w, h1, h2, _⟩ := h
      simpa [Ty.isLeaf, sub] using ⟨w, h1, h2⟩
  | node k cs ih =>
    intro s t' hat
    cases v with
    | atom _ => simp [Holds] at h
    | tup vs =>
      cases s with
      | nil =>
        cases at_nil hat
        simp only [Holds] at h
        simp [Ty.isLeaf, sub, h.1]
      | cons j s =>
        obtain ⟨tj, hj, hat'⟩ := at_node_cons hat
        obtain ⟨vj, _, hv⟩ := h.child hj
        rw [sub_cons]
        exact ih tj (List.mem_of_getElem? hj) hv s t' hat'

mutual
/-- a dummy value (every leaf `.atom 0`): with `unitEnv` it turns `LeavesOnly` into `Holds` -/
def unitVal : Ty → Val
  | .leaf _ _ => .atom 0
  | .node _ cs => .tup (unitVals cs)
def unitVals : List Ty → List Val
  | [] => []
  | t :: ts => unitVal t :: unitVals ts
end

def unitEnv : Env := fun _ => some (.atom 0)

mutual
theorem unitVal_hasShape : ∀ t : Ty, (unitVal t).HasShape t
  | .leaf _ _ => by simp [unitVal, Val.HasShape]
  | .node _ cs => by simp only [unitVal, Val.HasShape]; exact unitVals_hasShapes cs
theorem unitVals_hasShapes : ∀ ts : List Ty, HasShapes (unitVals ts) ts
  | [] => by simp [unitVals, HasShapes]
  | t :: ts => by simp only [unitVals, HasShapes]; exact ⟨unitVal_hasShape t, unitVals_hasShapes ts⟩
end

theorem LeavesOnly.child {n : Nat} {L : Locals} {p : PlaceId} {k : Kind} {cs : List Ty}
    (h : LeavesOnly n L p (.node k cs)) {j : Nat} {tj : Ty} (hj : cs[j]? = some tj) :
    LeavesOnly n L (j :: p) tj := by
  intro s t' hat
  have := h (j :: s) t' (by simp [Ty.at, hj, hat])
  rwa [sub_cons] at this

mutual
theorem LeavesOnly.holds {n : Nat} {L : Locals} : ∀ (t : Ty) (p : PlaceId),
    LeavesOnly n L p t → Holds n L unitEnv p t (unitVal t)
  | .leaf c d, p, h => by
    have := h [] (.leaf c d) rfl
    simp only [Ty.isLeaf, ↓reduceIte, sub, List.reverse_nil, List.nil_append] at this
    obtain ⟨w, h1, h2⟩ := this
    simp only [Holds, unitVal]
    exact ⟨w, h1, h2, rfl⟩
  | .node k cs, p, h => by
    have h0 := h [] (.node k cs) rfl
    simp only [Ty.isLeaf, Bool.false_eq_true, ↓reduceIte, sub, List.reverse_nil,
      List.nil_append] at h0
    simp only [Holds, unitVal]
    exact ⟨h0, LeavesOnly.holdsList cs p 0 (fun j tj _ hj => h.child (by simpa using hj))⟩
theorem LeavesOnly.holdsList {n : Nat} {L : Locals} : ∀ (ts : List Ty) (p : PlaceId) (i : Nat),
    (∀ j tj, i ≤ j → ts[j - i]? = some tj → LeavesOnly n L (j :: p) tj) →
    HoldsList n L unitEnv p i ts (unitVals ts)
  | [], _, _, _ => by simp [HoldsList, unitVals]
  | t :: ts, p, i, h => by
    simp only [HoldsList, unitVals]
    obtain ⟨h0, hr⟩ := (List.forall_children_cons i t ts).mp h
    exact ⟨LeavesOnly.holds t (i :: p) h0, LeavesOnly.holdsList ts p (i + 1) hr⟩
end

mutual
theorem Holds.leafWs_eq {n : Nat} {L : Locals} {env : Env} : ∀ (t : Ty) (p : PlaceId) (v : Val),
    Holds n L env p t v → leafWs L p t = leafWires L p t
  | .leaf _ _, p, v, h => by
    simp only [Holds] at h
    obtain ⟨w, h1, _, _⟩ := h
    simp [leafWs, leafWires, places, h1]
  | .node _ cs, p, .tup vs, h => by
    simp only [Holds] at h
    simp only [leafWs, leafWires, places, List.filterMap_cons, h.1]
    exact HoldsList.leafWs_eq cs p 0 vs h.2
  | .node _ _, _, .atom _, h => by simp [Holds] at h
theorem HoldsList.leafWs_eq {n : Nat} {L : Locals} {env : Env} :
    ∀ (ts : List Ty) (p : PlaceId) (i : Nat) (vs : List Val),
      HoldsList n L env p i ts vs → leafWsList L p i ts = (placesList p i ts).filterMap L
  | [], _, _, [], _ => by simp [leafWsList, placesList]
  | t :: ts, p, i, v :: vs, h => by
    simp only [HoldsList] at h
    simp only [leafWsList, placesList, List.filterMap_append]
    rw [Holds.leafWs_eq t (i :: p) v h.1, HoldsList.leafWs_eq ts p (i + 1) vs h.2]
    rfl
  | [], _, _, _ :: _, h => by simp [HoldsList] at h
  | _ :: _, _, _, [], h => by simp [HoldsList] at h
end

theorem self_mem_places (p : PlaceId) (t : Ty) : p ∈ places p t := by
  cases t <;> simp [places]

theorem places_sub_placesList : ∀ (ts : List Ty) (p : PlaceId) (i j : Nat) (tj : Ty),
    i ≤ j → ts[j - i]? = some tj → ∀ q ∈ places (j :: p) tj, q ∈ placesList p i ts
  | [], _, _ => by simp
  | t :: ts, p, i => (List.forall_children_cons i t ts).mpr
    ⟨fun q hq => by simp [placesList, hq], fun j tj hj h q hq => by
      simp only [placesList, List.mem_append]
      exact Or.inr (places_sub_placesList ts p (i + 1) j tj hj h q hq)⟩

theorem sub_mem_places : ∀ (s : List Nat) (t : Ty) (p : PlaceId) (t' : Ty),
    t.at s = some t' → sub p s ∈ places p t
  | [], t, p, _, _ => by simpa [sub] using self_mem_places p t
  | _ :: _, .leaf _ _, _, _, hat => by simp [Ty.at] at hat
  | j :: s, .node k cs, p, t', hat => by
    obtain ⟨tj, hj, hat'⟩ := at_node_cons hat
    rw [sub_cons]
    simp only [places, List.mem_cons]
    exact Or.inr (places_sub_placesList cs p 0 j tj (Nat.zero_le j) (by simpa using hj) _
      (sub_mem_places s tj (j :: p) t' hat'))

/-- by the balance of `getitem_acct`: an old wire is neither produced nor the result -/
theorem getitem_leaf_once {n : Nat} {L : Locals} {env : Env} {p : PlaceId} {k : Kind} {cs : List Ty}
    {v : Val} {r : Wire × Locals × Nat × List Op} (hh : Holds n L env p (.node k cs) v)
    (e : getitem L n p (.node k cs) = .ok r) (hnd : (leafWires L p (.node k cs)).Nodup)
    {s : List Nat} {c d : Bool} {x : Wire} (hat : (Ty.node k cs).at s = some (.leaf c d))
    (hx : L (sub p s) = some x) : (consumed r.2.2.2).count x = 1 := by
  have C := getitem_acct _ L n p env _ _ hh e
  have hlt : x.node < n := by
    have := hh.leavesOnly s _ hat
    simp only [Ty.isLeaf, ↓reduceIte, hx, Option.some.injEq, exists_eq_left'] at this
    exact this
  have hmem : x ∈ leafWires L p (.node k cs) :=
    List.mem_filterMap.mpr ⟨sub p s, sub_mem_places s _ p _ hat, hx⟩
  have hprod : (produced r.2.2.2).count x = 0 :=
    List.count_eq_zero.mpr (fun hm => by have := (C.fresh x hm).1; omega)
  have hres : [r.1].count x = 0 :=
    List.count_eq_zero.mpr (fun hm => by
      have := C.newWire rfl; rw [List.mem_singleton.mp hm] at hlt; omega)
  have hbal := C.balance x
  rw [Holds.leafWs_eq _ p _ hh, hnd.count, if_pos hmem, hprod, hres] at hbal
  omega

end GuppyVerif.DFWiring
