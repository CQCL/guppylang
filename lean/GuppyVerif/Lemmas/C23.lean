import GuppyVerif.Spec.C23
/-! One bracket gives a well-formed dict back exactly (`restore_save`); hence a tree of nested traces leaves all
modules as they were and observes what `denote` predicts (`exec_eq`, one equation for the whole result). -/
namespace GuppyVerif.MockBuiltins

open Spec

theorem Globals.ext {a b : Globals} (h1 : a.order = b.order) (h2 : ∀ n, a.val n = b.val n) : a = b := by
  cases a; cases b; simp only [Globals.mk.injEq]; exact ⟨h1, funext h2⟩

theorem not_mem_of_absent {g : Globals} (h : WF g) {n : Name} (hn : g.val n = none) : n ∉ g.order := by
  intro hm; have := (h.2 n).mp hm; simp [hn] at this

theorem restore_save (g : Globals) (h : WF g) :
    restore (save g) (updateAll mockDict g) = (g, true) := by
  have nf := @not_mem_of_absent g h .float
  have ni := @not_mem_of_absent g h .int
  have nl := @not_mem_of_absent g h .len
  -- Order: the update appends exactly the absent names behind `g.order` and `finally` deletes exactly
  -- those; an absent name is not in `g.order` (`nf ni nl`), so erasing it only touches the appended tail
  -- (`List.erase_append_right`); writing the saved values back meets present keys and moves nothing.
  cases hf : g.val .float <;> cases hi : g.val .int <;> cases hl : g.val .len <;>
    simp only [hf, hi, hl, forall_const] at nf ni nl <;>
    simp [restore, restoreDel, save, updateAll, mockDict, mockNames, hasKey, Globals.set, Globals.del,
      Globals.contains, hf, hi, hl, List.erase_append_right, nf, ni, nl] <;>
    refine Globals.ext (by simp) fun n => ?_ <;> cases n <;> simp [hf, hi, hl]

theorem WF_set {g : Globals} (h : WF g) (n : Name) (v : Val) : WF (g.set n v) := by
  obtain ⟨hnd, hm⟩ := h
  unfold Globals.set Globals.contains
  cases hc : (g.val n).isSome
  · have hn : n ∉ g.order := by intro hmem; have := (hm n).mp hmem; simp [hc] at this
    refine ⟨?_, ?_⟩
    · simp only [Bool.false_eq_true, ↓reduceIte]
      exact List.nodup_append.mpr ⟨hnd, by simp, by intro a ha b hb; simp at hb; subst hb; intro e; subst e; exact hn ha⟩
    · intro k
      by_cases hk : k = n
      · subst hk; simp
      · simp [hk, hm k]
  · have hn : n ∈ g.order := (hm n).mpr hc
    refine ⟨by simpa using hnd, ?_⟩
    intro k
    by_cases hk : k = n
    · subst hk; simp [hn]
    · simp [hk, hm k]

theorem WF_update (g : Globals) (h : WF g) : WF (updateAll mockDict g) := by
  simp only [updateAll, mockDict, mockNames, List.map, List.foldl]
  exact WF_set (WF_set (WF_set h _ _) _ _) _ _

theorem update_val (g : Globals) (n : Name) :
    (updateAll mockDict g).val n =
      if n = .len then some (.mock .len) else if n = .int then some (.mock .int)
      else if n = .float then some (.mock .float) else g.val n := by
  simp [updateAll, mockDict, mockNames, Globals.set]

theorem update_idem (g : Globals) :
    updateAll mockDict (updateAll mockDict g) = updateAll mockDict g :=
  Globals.ext rfl fun n => by cases n <;> rfl

theorem setMod_same (σ : Mods) (m : Nat) (g : Globals) : setMod σ m g m = g := by simp [setMod]

theorem setMod_restore (σ : Mods) (m : Nat) (g : Globals) : setMod (setMod σ m g) m (σ m) = σ := by
  funext j; unfold setMod; by_cases h : j = m <;> simp [h]

theorem WF_setMod {σ : Mods} (h : ∀ j, WF (σ j)) (m : Nat) {g : Globals} (hg : WF g) :
    ∀ j, WF (setMod σ m g j) := by
  intro j; unfold setMod; by_cases hj : j = m <;> simp [hj, hg, h j]

/-- the user's modules `σ₀` with the mocks installed in every module of `act` (those being traced) -/
def mockAll (act : List Nat) (σ₀ : Mods) : Mods :=
  fun j => if j ∈ act then updateAll mockDict (σ₀ j) else σ₀ j

theorem WF_mockAll {σ₀ : Mods} (h : ∀ j, WF (σ₀ j)) (act : List Nat) : ∀ j, WF (mockAll act σ₀ j) := by
  intro j; unfold mockAll; by_cases hj : j ∈ act <;> simp [hj, h j, WF_update]

theorem mockAll_cons (act : List Nat) (σ₀ : Mods) (m : Nat) :
    setMod (mockAll act σ₀) m (updateAll mockDict (mockAll act σ₀ m)) = mockAll (m :: act) σ₀ := by
  funext j
  unfold setMod mockAll
  by_cases hj : j = m
  · subst hj
    by_cases ha : j ∈ act <;> simp [ha, update_idem]
  · simp [hj]

theorem observe_mockAll (K : Nat) (act : List Nat) (σ₀ : Mods) :
    observe K (mockAll act σ₀) = Spec.observe K σ₀ act := by
  unfold observe Spec.observe view mockAll
  apply List.map_congr_left
  intro j _
  by_cases ha : j ∈ act <;> simp [ha, update_val]

theorem mockAll_nil (σ₀ : Mods) : mockAll [] σ₀ = σ₀ := by funext j; simp [mockAll]

/-- `act` lists the modules being traced: the induction needs the statement from inside a bracket -/
theorem exec_eq (K : Nat) (σ₀ : Mods) (h : ∀ j, WF (σ₀ j)) (p : Prog) : ∀ act : List Nat,
    exec K p (mockAll act σ₀) = ⟨mockAll act σ₀, (denote K σ₀ act p).1, (denote K σ₀ act p).2⟩ := by
  induction p with
  | skip | raise => intro act; rfl
  | probe => intro act; simp [exec, denote, observe_mockAll]
  | seq p q ihp ihq =>
    intro act
    simp only [exec, denote, ihp act]
    rcases denote K σ₀ act p with ⟨t, _ | _⟩
    · simp [ihq act]
    · rfl
  | trace m body retOk ih =>
    intro act
    simp only [exec, denote]
    rw [mockAll_cons, ih (m :: act)]
    dsimp only
    rw [← mockAll_cons, setMod_same, restore_save _ (WF_mockAll h act m), setMod_restore]
    simp
  | «catch» p ih => intro act; simp only [exec, denote, ih act]

theorem exec_eq_nil (K : Nat) (p : Prog) (σ : Mods) (h : ∀ j, WF (σ j)) :
    exec K p σ = ⟨σ, (denote K σ [] p).1, (denote K σ [] p).2⟩ := by
  simpa only [mockAll_nil] using exec_eq K σ h p []

end GuppyVerif.MockBuiltins
