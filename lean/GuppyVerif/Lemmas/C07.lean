import GuppyVerif.Spec.C07
/-! The specification side of C07: lens laws of `getP`/`putP` (`assignAt`), and `updateInoutPorts`
    against its reference `inoutBindings`. -/
namespace GuppyVerif.Places

/-! ### the lens laws: one step of a path is itself a lens (`getS`/`setS`); each law is the
    one-step law carried along the path -/

def getS : Step → V → Option V
  | .proj k, .tup vs => vs[k]?
  | .idx i, .arr cs => cs[i]?
  | _, _ => none

def setS : Step → V → V → V
  | .proj k, c, .tup vs => .tup (vs.set k c)
  | .idx i, c, .arr cs => .arr (cs.set i c)
  | _, _, x => x

theorem getP_cons (s : Step) (r : List Step) (x : V) : getP (s :: r) x = (getS s x).bind (getP r) := by
  cases s <;> cases x <;> simp only [getP, getS, Option.bind_none] <;> split <;> simp_all

theorem putP_cons (s : Step) (r : List Step) (new x : V) :
    putP (s :: r) new x = (getS s x).bind fun c => (putP r new c).map fun c' => setS s c' x := by
  cases s <;> cases x <;> simp only [putP, getS, setS, Option.bind_none] <;> split <;>
    simp_all <;> split <;> simp_all

theorem putP_cons_some {s : Step} {r : List Step} {new x x' : V} :
    putP (s :: r) new x = some x' ↔
      ∃ c c', getS s x = some c ∧ putP r new c = some c' ∧ x' = setS s c' x := by
  rw [putP_cons]
  cases getS s x with
  | none => simp
  | some c =>
    cases hp : putP r new c with
    | none => simp [hp]
    | some c' => simp [hp, eq_comm]

theorem getS_setS {s : Step} {x c : V} (c' : V) (h : getS s x = some c) :
    getS s (setS s c' x) = some c' := by
  cases s <;> cases x <;> simp only [getS, reduceCtorEq] at h <;>
    simp [getS, setS, (List.getElem?_eq_some_iff.mp h).1]

theorem setS_getS {s : Step} {x c : V} (h : getS s x = some c) : setS s c x = x := by
  cases s <;> cases x <;> simp [getS, setS] at h ⊢ <;>
    (obtain ⟨hlt, rfl⟩ := List.getElem?_eq_some_iff.mp h; exact List.set_getElem_self hlt)

theorem setS_setS (s : Step) (a b x : V) : setS s b (setS s a x) = setS s b x := by
  cases s <;> cases x <;> simp [setS]

theorem getS_setS_ne {s s' : Step} (h : s ≠ s') (c x : V) : getS s' (setS s c x) = getS s' x := by
  cases s <;> cases s' <;> cases x <;> simp_all [getS, setS]

theorem getP_append : ∀ (p q : List Step) (x : V),
    getP (p ++ q) x = (getP p x).bind (getP q)
  | [], q, x => by simp [getP]
  | s :: r, q, x => by
    rw [List.cons_append, getP_cons, getP_cons]
    cases getS s x <;> simp [getP_append r q]

theorem getP_putP : ∀ (p : List Step) (new x x' : V), putP p new x = some x' → getP p x' = some new
  | [], new, x, x', h => by simp [putP] at h; simp [getP, h]
  | s :: r, new, x, x', h => by
    obtain ⟨c, c', hg, hp, rfl⟩ := putP_cons_some.mp h
    rw [getP_cons, getS_setS c' hg]
    exact getP_putP r new c c' hp

theorem putP_getP : ∀ (p : List Step) (x v : V), getP p x = some v → putP p v x = some x
  | [], x, v, h => by simp [getP] at h; simp [putP, h]
  | s :: r, x, v, h => by
    rw [getP_cons] at h
    cases hg : getS s x with
    | none => simp [hg] at h
    | some c =>
      simp only [hg, Option.bind_some] at h
      simp [putP_cons, hg, putP_getP r c v h, setS_getS hg]

theorem putP_isSome_of_getP : ∀ (p : List Step) (new x v : V), getP p x = some v →
    ∃ x', putP p new x = some x'
  | [], new, x, v, _ => ⟨new, by simp [putP]⟩
  | s :: r, new, x, v, h => by
    rw [getP_cons] at h
    cases hg : getS s x with
    | none => simp [hg] at h
    | some c =>
      simp only [hg, Option.bind_some] at h
      obtain ⟨c', hc⟩ := putP_isSome_of_getP r new c v h
      exact ⟨setS s c' x, by simp [putP_cons, hg, hc]⟩

theorem putP_putP : ∀ (p : List Step) (a b x x1 : V), putP p a x = some x1 →
    putP p b x1 = putP p b x
  | [], a, b, x, x1, _ => by simp [putP]
  | s :: r, a, b, x, x1, h => by
    obtain ⟨c, c', hg, hp, rfl⟩ := putP_cons_some.mp h
    simp [putP_cons, hg, getS_setS c' hg, putP_putP r a b c c' hp, setS_setS]

theorem putP_append : ∀ (p q : List Step) (new x c : V), getP p x = some c →
    putP (p ++ q) new x = (putP q new c).bind (fun c' => putP p c' x)
  | [], q, new, x, c, h => by
    simp [getP] at h; subst h
    cases hq : putP q new x <;> simp [putP, hq]
  | s :: r, q, new, x, c, h => by
    rw [getP_cons] at h
    cases hg : getS s x with
    | none => simp [hg] at h
    | some d =>
      simp only [hg, Option.bind_some] at h
      simp only [List.cons_append, putP_cons, hg, Option.bind_some, putP_append r q new d c h]
      cases putP q new c <;> simp

theorem getP_putP_of_ne (c : List Step) {a b : Step} (hab : a ≠ b) {r1 r2 : List Step} {v x x' : V}
    (h : putP (c ++ a :: r1) v x = some x') : getP (c ++ b :: r2) x' = getP (c ++ b :: r2) x := by
  induction c generalizing x x' with
  | nil =>
    obtain ⟨d, d', _, _, rfl⟩ := putP_cons_some.mp h
    simp only [List.nil_append, getP_cons, getS_setS_ne hab]
  | cons s c ih =>
    obtain ⟨d, d', hg, hp, rfl⟩ := putP_cons_some.mp h
    simp only [List.cons_append, getP_cons, getS_setS d' hg, hg, Option.bind_some]
    exact ih hp

theorem getP_hole_cons (s : Step) (r : List Step) : getP (s :: r) .hole = none := by
  cases s <;> simp [getP]

theorem assignAt_of_get {π : List Step} {f : V → V} {x v : V} (h : getP π x = some v) :
    assignAt π f x = putP π (f v) x := by simp [assignAt, h]

/-! ### `_update_inout_ports` consumes what `to_hugr` produces -/

/-- reference: pair the borrowed parameters with the extra ports by RANK among all borrowed
    parameters, then keep the pairs whose argument is a place -/
def inoutBindings (ps : List Param) (ports : List Nat) : List (Nat × Nat) :=
  (((ps.filter (·.borrowed)).zip ports).filter (·.1.place)).map (fun q => (q.1.name, q.2))

theorem updateInoutPorts_spec : ∀ (ps : List Param) (ports extra : List Nat),
    ports.length = (ps.filter (·.borrowed)).length →
    updateInoutPorts ps (ports ++ extra) = some (inoutBindings ps ports, extra)
  | [], ports, extra, h => by
    have : ports = [] := List.eq_nil_of_length_eq_zero (by simpa using h)
    subst this; simp [updateInoutPorts, inoutBindings]
  | q :: ps, ports, extra, h => by
    by_cases hb : q.borrowed
    · cases ports with
      | nil => simp [hb] at h
      | cons w ws =>
        have h' : ws.length = (ps.filter (·.borrowed)).length := by simpa [hb] using h
        have ih := updateInoutPorts_spec ps ws extra h'
        by_cases hp : q.place <;>
          simp [updateInoutPorts, hb, ih, inoutBindings, hp]
    · have h' : ports.length = (ps.filter (·.borrowed)).length := by simpa [hb] using h
      simp [updateInoutPorts, hb, updateInoutPorts_spec ps ports extra h', inoutBindings]

end GuppyVerif.Places
