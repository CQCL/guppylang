import GuppyVerif.Spec.C08
/-! What `VariableVisitor` counts as used; typing contexts (`lookup`, `runEvents`, `exitTy`); `check_bb` in pieces; the
    rows that can flow into a block (`RowOK`, `checkBB_ok`); what `check_rows_match` reports. -/
namespace GuppyVerif.UseDef
open GuppyVerif.Dataflow

/-- some event of the block reads `x` and no earlier event of the block assigns it -/
def ReadBeforeWrite (x : Var) (es : List Ev) : Prop :=
  ∃ pre post, es = pre ++ Ev.use x :: post ∧ x ∉ assignedOf pre

theorem assignedOf_cons_use (y : Var) (es : List Ev) : assignedOf (Ev.use y :: es) = assignedOf es := by
  simp [assignedOf]
theorem assignedOf_cons_asg (y : Var) (t : Ty) (es : List Ev) :
    assignedOf (Ev.asg y t :: es) = y :: assignedOf es := by
  simp [assignedOf]

theorem readBeforeWrite_nil (x : Var) : ¬ ReadBeforeWrite x [] := by
  rintro ⟨pre, post, h, _⟩
  cases pre <;> cases h

theorem readBeforeWrite_cons_use (x y : Var) (es : List Ev) :
    ReadBeforeWrite x (Ev.use y :: es) ↔ x = y ∨ ReadBeforeWrite x es := by
  constructor
  · rintro ⟨pre, post, h, hn⟩
    cases pre with
    | nil => left; cases h; rfl
    | cons p pre =>
      cases h
      exact Or.inr ⟨pre, post, rfl, by simpa [assignedOf_cons_use] using hn⟩
  · rintro (rfl | ⟨pre, post, h, hn⟩)
    · exact ⟨[], es, rfl, by simp [assignedOf]⟩
    · exact ⟨Ev.use y :: pre, post, by rw [h]; rfl, by simpa [assignedOf_cons_use] using hn⟩

theorem readBeforeWrite_cons_asg (x y : Var) (t : Ty) (es : List Ev) :
    ReadBeforeWrite x (Ev.asg y t :: es) ↔ x ≠ y ∧ ReadBeforeWrite x es := by
  constructor
  · rintro ⟨pre, post, h, hn⟩
    cases pre with
    | nil => cases h
    | cons p pre =>
      cases h
      rw [assignedOf_cons_asg, List.mem_cons, not_or] at hn
      exact ⟨hn.1, pre, post, rfl, hn.2⟩
  · rintro ⟨hne, pre, post, h, hn⟩
    refine ⟨Ev.asg y t :: pre, post, by rw [h]; rfl, ?_⟩
    rw [assignedOf_cons_asg, List.mem_cons, not_or]
    exact ⟨hne, hn⟩

theorem mem_usedOf_gen (x : Var) : ∀ (es : List Ev) (asgd acc : List Var),
    x ∈ usedOf es asgd acc ↔ x ∈ acc ∨ (x ∉ asgd ∧ ReadBeforeWrite x es)
  | [], asgd, acc => by simp [usedOf, readBeforeWrite_nil]
  | .use y :: es, asgd, acc => by
    simp only [usedOf]
    split <;> rename_i hc
    all_goals
      simp only [Bool.or_eq_true, List.contains_iff_mem, not_or] at hc
      rw [mem_usedOf_gen x es, readBeforeWrite_cons_use]
      grind
  | .asg y t :: es, asgd, acc => by
    simp only [usedOf]
    rw [mem_usedOf_gen x es, readBeforeWrite_cons_asg]
    grind

theorem lookup_filter_ne {x y : Var} (h : x ≠ y) (env : Row) :
    lookup x (env.filter (·.1 != y)) = lookup x env := by
  induction env with
  | nil => rfl
  | cons e env ih =>
    obtain ⟨z, t⟩ := e
    by_cases hz : z = y
    · subst hz
      have : x ≠ z := h
      simp [List.filter, lookup, this, ih]
    · have hzy : (z != y) = true := by simpa using hz
      simp only [List.filter, hzy, lookup]
      by_cases hxz : x = z
      · simp [hxz]
      · simp [hxz, ih]

theorem lookup_runEvents (x : Var) (env : Row) (es : List Ev) :
    lookup x (runEvents env es) = exitTy es (lookup x env) x := by
  induction es generalizing env with
  | nil => simp [runEvents, exitTy, lastAsg]
  | cons e es ih =>
    cases e with
    | use y => simp only [runEvents, exitTy, lastAsg]; exact ih env
    | asg y t =>
      simp only [runEvents]
      rw [ih]
      unfold exitTy
      simp only [lastAsg]
      cases h : lastAsg x es with
      | some t' => rfl
      | none =>
        by_cases hxy : x = y
        · subst hxy; simp [lookup]
        · simp [lookup, hxy, lookup_filter_ne hxy]

theorem lastAsg_isSome_iff (x : Var) (es : List Ev) :
    (lastAsg x es).isSome ↔ x ∈ assignedOf es := by
  induction es with
  | nil => simp [lastAsg, assignedOf]
  | cons e es ih =>
    cases e with
    | use y =>
      rw [lastAsg, ih, assignedOf_cons_use]
    | asg y t =>
      simp only [lastAsg]
      rw [assignedOf_cons_asg, List.mem_cons, ← ih]
      cases h : lastAsg x es with
      | some t' => simp
      | none => by_cases hxy : x = y <;> simp [hxy]

theorem exitTy_isSome (es : List Ev) (o : Option Ty) (x : Var) :
    (exitTy es o x).isSome ↔ o.isSome ∨ x ∈ assignedOf es := by
  rw [← lastAsg_isSome_iff]
  unfold exitTy
  cases lastAsg x es <;> simp

theorem exitTy_congr {es : List Ev} {o o' : Option Ty} {x : Var} (h : x ∉ assignedOf es → o = o') :
    exitTy es o x = exitTy es o' x := by
  unfold exitTy
  cases hl : lastAsg x es with
  | some t => rfl
  | none => exact h fun hx => by simpa [hl] using (lastAsg_isSome_iff x es).mpr hx

theorem lookup_runEvents_isSome (x : Var) (env : Row) (es : List Ev) :
    (lookup x (runEvents env es)).isSome ↔ (lookup x env).isSome ∨ x ∈ assignedOf es := by
  rw [lookup_runEvents, exitTy_isSome]

theorem lookup_isSome_iff_mem (x : Var) (r : Row) : (lookup x r).isSome ↔ x ∈ r.map (·.1) := by
  induction r with
  | nil => simp [lookup]
  | cons e r ih =>
    obtain ⟨y, t⟩ := e
    simp only [lookup, List.map_cons, List.mem_cons]
    by_cases h : x = y
    · simp [h]
    · simp [h, ih]

theorem lookup_rowFor (A : Ana) (env : Row) (s : Blk) (x : Var) :
    lookup x (rowFor A env s) = if x ∈ A.live s then lookup x env else none := by
  unfold rowFor
  induction A.live s with
  | nil => simp [lookup]
  | cons y l ih =>
    simp only [List.filterMap_cons]
    cases hy : lookup y env with
    | none =>
      simp only [Option.map_none, ih, List.mem_cons]
      by_cases hxy : x = y
      · subst hxy; simp [hy]
      · simp [hxy]
    | some t =>
      simp only [Option.map_some, lookup, ih, List.mem_cons]
      by_cases hxy : x = y
      · subst hxy; simp [hy]
      · simp [hxy]

theorem lookup_flow (A : Ana) (row : Row) (es : List Ev) (s : Blk) (x : Var) :
    lookup x (rowFor A (runEvents row es) s) = if x ∈ A.live s then exitTy es (lookup x row) x else none := by
  rw [lookup_rowFor, lookup_runEvents]

theorem assigned_sub_AS {U : UCfg} {b : Blk} (hb : b ∈ U.blocks) {x : Var}
    (hx : x ∈ assignedOf (U.events b)) : x ∈ U.assignedSomewhere := by
  unfold UCfg.assignedSomewhere
  exact List.mem_append_right _ (List.mem_flatMap.mpr ⟨b, hb, hx⟩)

theorem args_sub_AS {U : UCfg} {x : Var} (hx : x ∈ U.argNames) : x ∈ U.assignedSomewhere :=
  List.mem_append_left _ hx

theorem defCheck_none_iff (U : UCfg) (env : Row) (x : Var) :
    defCheck U env x = none ↔
      (x ∈ U.assignedSomewhere → (lookup x env).isSome) ∧ (x ∉ U.assignedSomewhere → x ∈ U.globals) := by
  unfold defCheck
  by_cases h : x ∈ U.assignedSomewhere
  · have hc : U.assignedSomewhere.contains x = true := by simpa using h
    simp only [hc, ↓reduceIte, h, forall_const, not_true_eq_false, false_imp_iff, and_true]
    cases lookup x env <;> simp
  · have hc : U.assignedSomewhere.contains x = false := by simpa using h
    simp only [hc, Bool.false_eq_true, ↓reduceIte, h, false_imp_iff, not_false_eq_true,
      forall_const, true_and]
    by_cases hg : x ∈ U.globals
    · simp [hg]
    · have : U.globals.contains x = false := by simpa using hg
      simp [hg]

theorem defCheck_some (U : UCfg) (env : Row) (x : Var) (e : Err) (h : defCheck U env x = some e) :
    e = .notDefined x := by
  unfold defCheck at h
  split at h
  · split at h
    · cases h
    · exact (Option.some.inj h).symm
  · split at h
    · cases h
    · exact (Option.some.inj h).symm

theorem live_of_succ {U : UCfg} (hU : U.WF) {A : Ana} (hA : AnaOK U A) {b s : Blk}
    (hb : b ∈ U.blocks) (hs : s ∈ U.succ b ++ U.dsucc b) {x : Var} (hx : x ∈ A.live s)
    (hn : x ∉ assignedOf (U.events b)) : x ∈ A.live b := by
  have hsb : s ∈ U.blocks := hU.cfg.closed b hb s hs
  exact (hA.live b hb x).mpr (.step hn hs ((hA.live s hsb x).mp hx))

/-- a row that can flow into block `b` -/
structure RowOK (U : UCfg) (A : Ana) (b : Blk) (row : Row) : Prop where
  locals : ∀ x ∈ A.live b, x ∈ U.assignedSomewhere → (lookup x row).isSome
  globals : ∀ x ∈ A.live b, x ∉ U.assignedSomewhere → x ∈ U.globals
  -- the entry's row is `U.args` as given, not cut down to the live variables as `rowFor` cuts every other row
  sub : ∀ x, (lookup x row).isSome → x ∈ U.assignedSomewhere ∧ (b ≠ U.entry → x ∈ A.live b)

def outsOf (U : UCfg) (A : Ana) (b : Blk) (row : Row) : List Row :=
  (U.succ b ++ U.dsucc b).map (rowFor A (runEvents row (U.events b)))

def entryErrs (U : UCfg) (A : Ana) (b : Blk) : List Err :=
  if b = U.entry then
    ((U.cfg.used b).filter fun x =>
      !(A.defass b).contains x && (U.assignedSomewhere.contains x || !U.globals.contains x)).map .notDefined
  else []

def succErrs (U : UCfg) (A : Ana) (b : Blk) (row : Row) : List Err :=
  (U.succ b ++ U.dsucc b).flatMap fun s => (A.live s).filterMap (defCheck U (runEvents row (U.events b)))

theorem checkBB_eq (U : UCfg) (A : Ana) (b : Blk) (row : Row) :
    checkBB U A b row =
      if !(entryErrs U A b).isEmpty then .error (entryErrs U A b)
      else if !(succErrs U A b row).isEmpty then .error (succErrs U A b row)
      else .ok (outsOf U A b row) := rfl

theorem checkBB_of_nil {U : UCfg} {A : Ana} {b : Blk} {row : Row} (hE : entryErrs U A b = [])
    (hS : succErrs U A b row = []) : checkBB U A b row = .ok (outsOf U A b row) := by
  rw [checkBB_eq, hE, hS]; rfl

theorem mem_entryErrs {U : UCfg} {A : Ana} {e : Err} :
    e ∈ entryErrs U A U.entry ↔ ∃ x, e = .notDefined x ∧ x ∈ U.cfg.used U.entry ∧
      x ∉ A.defass U.entry ∧ (x ∈ U.assignedSomewhere ∨ x ∉ U.globals) := by
  simp only [entryErrs, ↓reduceIte, List.mem_map, List.mem_filter, Bool.and_eq_true, Bool.not_eq_true',
    Bool.or_eq_true, List.contains_eq_mem, decide_eq_true_eq, decide_eq_false_iff_not]
  exact ⟨fun ⟨x, h, he⟩ => ⟨x, he.symm, h⟩, fun ⟨x, he, h⟩ => ⟨x, h, he.symm⟩⟩

theorem mem_succErrs {U : UCfg} {A : Ana} {b : Blk} {row : Row} {e : Err} :
    e ∈ succErrs U A b row ↔ ∃ s ∈ U.succ b ++ U.dsucc b, ∃ x ∈ A.live s,
      defCheck U (runEvents row (U.events b)) x = some e := by
  simp only [succErrs, List.mem_flatMap, List.mem_filterMap]

theorem succErrs_eq_nil {U : UCfg} {A : Ana} {b : Blk} {row : Row} :
    succErrs U A b row = [] ↔ ∀ s ∈ U.succ b ++ U.dsucc b, ∀ x ∈ A.live s,
      defCheck U (runEvents row (U.events b)) x = none := by
  simp only [succErrs, List.flatMap_eq_nil_iff, List.filterMap_eq_nil_iff]

theorem env_sub_AS {U : UCfg} {A : Ana} {b : Blk} (hb : b ∈ U.blocks) {row : Row}
    (hr : RowOK U A b row) {x : Var} (h : (lookup x (runEvents row (U.events b))).isSome) :
    x ∈ U.assignedSomewhere := by
  rw [lookup_runEvents_isSome] at h
  rcases h with h | h
  · exact (hr.sub x h).1
  · exact assigned_sub_AS hb h

theorem rowFor_ok {U : UCfg} {A : Ana} {b : Blk} (hb : b ∈ U.blocks) {row : Row} (hr : RowOK U A b row)
    {s : Blk} (key : ∀ x ∈ A.live s, defCheck U (runEvents row (U.events b)) x = none) :
    RowOK U A s (rowFor A (runEvents row (U.events b)) s) := by
  refine ⟨fun x hx hAS => ?_, fun x hx hAS => ((defCheck_none_iff U _ x).mp (key x hx)).2 hAS,
    fun x hx => ?_⟩
  · rw [lookup_rowFor, if_pos hx]
    exact ((defCheck_none_iff U _ x).mp (key x hx)).1 hAS
  · rw [lookup_rowFor] at hx
    by_cases hl : x ∈ A.live s
    · rw [if_pos hl] at hx
      exact ⟨env_sub_AS hb hr hx, fun _ => hl⟩
    · rw [if_neg hl] at hx; cases hx

theorem RowOK.succ {U : UCfg} (hU : U.WF) {A : Ana} (hA : AnaOK U A) {b : Blk} (hb : b ∈ U.blocks)
    {row : Row} (hr : RowOK U A b row) :
    succErrs U A b row = [] ∧
      ∀ s ∈ U.succ b ++ U.dsucc b, RowOK U A s (rowFor A (runEvents row (U.events b)) s) := by
  have key : ∀ s ∈ U.succ b ++ U.dsucc b, ∀ x ∈ A.live s,
      defCheck U (runEvents row (U.events b)) x = none := by
    intro s hs x hx
    rw [defCheck_none_iff]
    constructor
    · intro hAS
      rw [lookup_runEvents_isSome]
      by_cases ha : x ∈ assignedOf (U.events b)
      · exact Or.inr ha
      · exact Or.inl (hr.locals x (live_of_succ hU hA hb hs hx ha) hAS)
    · intro hAS
      have ha : x ∉ assignedOf (U.events b) := fun h => hAS (assigned_sub_AS hb h)
      exact hr.globals x (live_of_succ hU hA hb hs hx ha) hAS
  exact ⟨succErrs_eq_nil.mpr key, fun s hs => rowFor_ok hb hr (key s hs)⟩

theorem checkBB_ok {U : UCfg} (hU : U.WF) {A : Ana} (hA : AnaOK U A) {b : Blk} (hb : b ∈ U.blocks)
    (hne : b ≠ U.entry) {row : Row} (hr : RowOK U A b row) : checkBB U A b row = .ok (outsOf U A b row) :=
  checkBB_of_nil (by unfold entryErrs; rw [if_neg hne]) (hr.succ hU hA hb).1

theorem mem_rowsMatch {r1 r2 : Row} {e : Err} :
    e ∈ rowsMatch r1 r2 ↔ ∃ x, ((lookup x r1).isSome ∨ (lookup x r2).isSome) ∧
      ((∃ t1 t2, e = .branchType x ∧ lookup x r1 = some t1 ∧ lookup x r2 = some t2 ∧ t1 ≠ t2) ∨
       (e = .internal 1 ∧ (lookup x r1 = none ∨ lookup x r2 = none))) := by
  unfold rowsMatch
  simp only [List.mem_filterMap, List.mem_append, List.mem_filter, Bool.not_eq_true', List.contains_eq_mem,
    decide_eq_false_iff_not, ← lookup_isSome_iff_mem]
  refine exists_congr fun x => and_congr ⟨fun h => h.imp id (·.1), fun h => ?_⟩ ?_
  · by_cases h1 : (lookup x r1).isSome
    · exact .inl h1
    · exact .inr ⟨h.resolve_left h1, h1⟩
  · cases lookup x r1 <;> cases lookup x r2 <;> simp [eq_comm]
    rename_i t1 t2
    by_cases ht : t1 = t2 <;> simp [ht]

theorem rowsMatch_self (r : Row) : rowsMatch r r = [] := by
  refine List.eq_nil_iff_forall_not_mem.mpr fun e he => ?_
  obtain ⟨x, hx, ⟨t1, t2, _, h1, h2, hne⟩ | ⟨_, hn⟩⟩ := mem_rowsMatch.mp he
  · exact hne (Option.some.inj (h1.symm.trans h2))
  · have : lookup x r = none := hn.elim id id
    rw [this] at hx; exact hx.elim (nomatch ·) (nomatch ·)

theorem rowsMatch_nil_lookup {r1 r2 : Row} (h : rowsMatch r1 r2 = []) {x : Var} {t : Ty}
    (h1 : lookup x r1 = some t) (h2 : (lookup x r2).isSome) : lookup x r2 = some t := by
  obtain ⟨t2, ht2⟩ := Option.isSome_iff_exists.mp h2
  refine ht2.trans (congrArg some (Classical.not_not.mp fun hne => ?_))
  have : Err.branchType x ∈ rowsMatch r1 r2 :=
    mem_rowsMatch.mpr ⟨x, .inr h2, .inl ⟨t, t2, rfl, h1, ht2, fun e => hne e.symm⟩⟩
  rw [h] at this; cases this

end GuppyVerif.UseDef
