import GuppyVerif.Spec.C16
import GuppyVerif.Gen.C16Coerce
/-! `check_type_against` on the nine pairs of kinds of the regenerated `C16Gen.cfg`, evaluated once (`against_cfg`). -/
namespace GuppyVerif.Coerce
open GuppyVerif.IntLit (Kind)
open GuppyVerif.C16Gen (cfg)

theorem against_cfg (act exp : Kind) :
    against cfg act exp =
      match act, exp with
      | .nat, .int => .coerced "noop"
      | .nat, .float => .coerced "hugr:arithmetic.conversions.convert_u"
      | .int, .float => .coerced "hugr:arithmetic.conversions.convert_s"
      | .nat, .nat | .int, .int | .float, .float => .same
      | _, _ => .mismatch := by
  cases act <;> cases exp <;> decide +kernel

theorem indexWrite_cfg (idx : Kind) : indexWrite cfg idx = against cfg idx .int :=
  if_pos (by decide +kernel)

theorem indexPlace_cfg (idx : Kind) : indexPlace cfg idx = against cfg idx .int := by
  unfold indexPlace indexRead; rw [indexWrite_cfg]
  cases against cfg idx .int <;> rfl

theorem Narrowing.ne {act exp : Kind} (h : Narrowing act exp) : act ≠ exp := by
  rintro rfl; revert h; cases act <;> decide

end GuppyVerif.Coerce
