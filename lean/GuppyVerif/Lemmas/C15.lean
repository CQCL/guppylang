import GuppyVerif.Spec.C15
/-! Both resolution loops are a search for the first variant that answers (`firstSome`);
`resolve_go_eq_none_iff` and `resolveR_go_of_valid` go by induction on the loops themselves; the scalar
fragment of the acceptance test against `Widens`. -/
namespace GuppyVerif.Overload

/-- first result of `f i v` along a list, `i` counting from `k`: the shape of both resolution loops -/
def firstSome {α β : Type} (f : Nat → α → Option β) : List α → Nat → Option β
  | [], _ => none
  | v :: vs, k => (f k v).orElse fun _ => firstSome f vs (k + 1)

theorem firstSome_eq_some {α β : Type} (f : Nat → α → Option β) : ∀ (vs : List α) (k : Nat) (r : β),
    firstSome f vs k = some r ↔
      ∃ j v, vs[j]? = some v ∧ f (k + j) v = some r ∧
        ∀ j', j' < j → ∀ w, vs[j']? = some w → f (k + j') w = none
  | [], k, r => by simp [firstSome]
  | v :: vs, k, r => by
    rw [firstSome]
    cases hv : f k v with
    | some r₀ =>
      constructor
      · intro h
        exact ⟨0, v, rfl, hv.trans h, fun j' hj' => absurd hj' (Nat.not_lt_zero _)⟩
      · rintro ⟨j, w, hw, hf, hprev⟩
        cases j with
        | zero => cases hw; exact hv.symm.trans hf
        | succ j => cases hv.symm.trans (hprev 0 (Nat.succ_pos j) v rfl)
    | none =>
      rw [Option.orElse_none, firstSome_eq_some f vs (k + 1) r]
      constructor
      · rintro ⟨j, w, hw, hf, hprev⟩
        rw [Nat.add_right_comm] at hf
        refine ⟨j + 1, w, hw, hf, fun j' hj' w' hw' => ?_⟩
        cases j' with
        | zero => cases hw'; exact hv
        | succ j' =>
          have := hprev j' (Nat.lt_of_succ_lt_succ hj') w' hw'
          rwa [Nat.add_right_comm] at this
      · rintro ⟨j, w, hw, hf, hprev⟩
        cases j with
        | zero => cases hw; cases hv.symm.trans hf
        | succ j =>
          refine ⟨j, w, hw, by rw [Nat.add_right_comm]; exact hf, fun j' hj' w' hw' => ?_⟩
          rw [Nat.add_right_comm]
          exact hprev (j' + 1) (Nat.succ_lt_succ hj') w' hw'

theorem resolve_go_eq (args : List Arg) (exp : Option Ty) : ∀ (vs : List Variant) (k : Nat),
    resolve.go args exp vs k = firstSome (fun i v => (attempt v args exp).1.map (i, ·)) vs k
  | [], _ => rfl
  | v :: vs, k => by
    rw [resolve.go, firstSome, ← resolve_go_eq args exp vs (k + 1)]
    rcases attempt v args exp with ⟨_ | o, a⟩ <;> rfl

theorem resolveR_go_eq (args : List Arg) (exp : Option Ty) : ∀ (vs : List Variant) (k : Nat),
    resolveR.go args exp vs k =
      (firstSome (fun i v => if v.isInvalid then some (.invalid i)
        else (attempt v args exp).1.map (.chosen i)) vs k).getD .noMatch
  | [], _ => rfl
  | v :: vs, k => by
    rw [resolveR.go, firstSome, resolveR_go_eq args exp vs (k + 1)]
    cases v.isInvalid
    · rcases attempt v args exp with ⟨_ | o, a⟩ <;> rfl
    · rfl

theorem accepts_eq_false_iff (w : Variant) (args : List Arg) (exp : Option Ty) :
    accepts w args exp = false ↔ (attempt w args exp).1 = none := by
  unfold accepts; cases (attempt w args exp).1 <;> simp

theorem resolve_go_eq_none_iff (args : List Arg) (exp : Option Ty) :
    ∀ (vs : List Variant) (k : Nat),
      resolve.go args exp vs k = none ↔ ∀ v, v ∈ vs → (attempt v args exp).1 = none
  | [], k => by simp [resolve.go]
  | v :: rest, k => by
    unfold resolve.go
    have ih := resolve_go_eq_none_iff args exp rest (k + 1)
    rcases hv : attempt v args exp with ⟨r, a⟩
    cases r with
    | some t0 =>
      simp only [reduceCtorEq, List.mem_cons, forall_eq_or_imp, false_iff, not_and]
      intro h; rw [hv] at h; cases h
    | none =>
      simp only [ih, List.mem_cons, forall_eq_or_imp, hv, true_and]

theorem isSome_resolve_go (args : List Arg) (exp : Option Ty) (vs : List Variant) (k : Nat) :
    (resolve.go args exp vs k).isSome = vs.any (accepts · args exp) := by
  rw [Bool.eq_iff_iff, Option.isSome_iff_ne_none, Ne, resolve_go_eq_none_iff]
  simp only [← accepts_eq_false_iff, List.any_eq_true]
  simp

theorem resolveR_go_of_valid (args : List Arg) (exp : Option Ty) :
    ∀ (vs : List Variant) (k : Nat), (∀ v, v ∈ vs → v.isInvalid = false) →
      resolveR.go args exp vs k =
        match resolve.go args exp vs k with
        | some (i, o) => .chosen i o
        | none => .noMatch
  | [], k, _ => rfl
  | v :: rest, k, h => by
    unfold resolveR.go resolve.go
    have hv : v.isInvalid = false := h v List.mem_cons_self
    simp only [hv, Bool.false_eq_true, ↓reduceIte]
    rcases ha : attempt v args exp with ⟨r, a⟩
    cases r with
    | some o => rfl
    | none => exact resolveR_go_of_valid args exp rest (k + 1) (fun w hw => h w (List.mem_cons_of_mem _ hw))

theorem widens_iff (a p : Scalar) :
    Widens a p ↔ a = p ∨ (a = .nat ∧ p = .int) ∨ (a = .int ∧ p = .float) ∨ (a = .nat ∧ p = .float) := by
  constructor
  · rintro (_ | _) <;> simp
  · rintro (rfl | ⟨rfl, rfl⟩ | ⟨rfl, rfl⟩ | ⟨rfl, rfl⟩) <;> constructor

instance (a p : Scalar) : Decidable (Widens a p) := decidable_of_iff _ (widens_iff a p).symm

theorem AllWiden.length_eq {as ps : List Scalar} (h : AllWiden as ps) : ps.length = as.length := by
  induction h with
  | nil => rfl
  | cons _ _ ih => simp [ih]

theorem checkTypeAgainst_scalar (a p : Scalar) :
    checkTypeAgainst [] a.toTy p.toTy = (if decide (Widens a p) then some [] else none) := by
  cases a <;> cases p <;> rfl

theorem subst_scalar (σ : Subst) (p : Scalar) : p.toTy.subst σ = p.toTy := by
  cases p <;> rfl

theorem allWiden_cons_iff {a p : Scalar} {as ps : List Scalar} :
    AllWiden (a :: as) (p :: ps) ↔ Widens a p ∧ AllWiden as ps :=
  ⟨fun h => by cases h with | cons h1 h2 => exact ⟨h1, h2⟩, fun ⟨h1, h2⟩ => .cons h1 h2⟩

instance instDecAllWiden : (as ps : List Scalar) → Decidable (AllWiden as ps)
  | [], [] => isTrue .nil
  | [], _ :: _ => isFalse nofun
  | _ :: _, [] => isFalse nofun
  | _ :: as, _ :: ps =>
    have := instDecAllWiden as ps
    decidable_of_iff _ allWiden_cons_iff.symm

theorem checkArgs_scalar : ∀ (ps as : List Scalar), ps.length = as.length →
    (checkArgs [] (ps.map Scalar.toTy) [] (as.map (fun a => Arg.typed a.toTy))).1 =
      if AllWiden as ps then some [] else none
  | [], [], _ => by simp [checkArgs, AllWiden.nil]
  | p :: ps, a :: as, h => by
    simp only [List.map_cons, checkArgs, checkArg, subst_scalar, checkTypeAgainst_scalar, allWiden_cons_iff]
    by_cases hw : Widens a p
    · simpa [hw] using checkArgs_scalar ps as (by simpa using h)
    · simp [hw]
  | [], _ :: _, h => by simp at h
  | _ :: _, [], h => by simp at h

theorem beq_scalar (a b : Scalar) : (a.toTy == b.toTy) = decide (a = b) := by
  cases a <;> cases b <;> rfl

theorem closed_scalar (a : Scalar) : a.toTy.closed = true := by cases a <;> rfl

end GuppyVerif.Overload
