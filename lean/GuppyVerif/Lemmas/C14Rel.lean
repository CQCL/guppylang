import GuppyVerif.Lemmas.C14Basic
/-! A "logical relation" lemma: any relation `R cp dr h` between the two flags of a Guppy type and its
    HUGR type that is closed under the type constructors holds for every type (structural induction over
    all nested types, with the struct-parameter environment generalised). -/
namespace GuppyVerif.CopyDrop
open GuppyVerif

theorem unpackRow_some {h : HTy} {r : List HTy} (hu : unpackRow h = some r) : h = tupleOf r := by
  unfold unpackRow at hu
  split at hu
  · cases hu; rfl
  · cases hu

theorem toRowE_cases {D : List OpaqueDef} {ρ : List EnvE} {t : Ty} {r : List HTy}
    (hnb : ∀ n i c d, t ≠ .bvar n i c d) (hr : toRowE D ρ t = some r) :
    ∃ h, toHugrE D ρ t = some h ∧ (h = tupleOf r ∨ r = [h]) := by
  unfold toRowE rowOf at hr
  split at hr
  case h_3 n i c d => exact absurd rfl (hnb n i c d)
  all_goals
    obtain ⟨h, hh, hr⟩ := Option.bind_eq_some_iff.mp (by simpa [Option.map_eq_bind] using hr)
    refine ⟨h, hh, ?_⟩
  · exact .inl (unpackRow_some hr)
  · exact .inl (unpackRow_some hr)
  · exact .inr (Option.some.inj hr).symm

/-- `R cp dr h` is preserved by every type constructor and every `to_hugr` shape of `D`; `u` as in `flagG D u`.  `R` takes both
    flags, as the environment entries do, so that one induction serves statements about either. -/
structure Closed (D : List OpaqueDef) (u : Bool) (R : Bool → Bool → HTy → Prop) : Prop where
  num : ∀ k, R true true (numT k)
  var : ∀ i c d, R c d (.var i (flagB c))
  func : ∀ is os, R true true (.func is os)
  nil : R true true (tupleOf [])
  cons : ∀ {c d h cs ds hs}, R c d h → R cs ds (tupleOf hs) → R (c && cs) (d && ds) (tupleOf (h :: hs))
  structArgs : ∀ {c d hs} (ca da : Bool), R c d (tupleOf hs) →
      R (c && (!u || ca)) (d && (!u || da)) (tupleOf hs)
  static : ∀ {d h}, d ∈ D → d.shape = .static h → R (!d.neverCopyable) (!d.neverDroppable) h
  listOpt : ∀ {d e r c dd h} (lin : Bool), d ∈ D → d.shape = .listOpt e r → R c dd h →
      R (!d.neverCopyable && c) (!d.neverDroppable && dd) (.ext e r [.ty (if lin then optionOf h else h)])
  array : ∀ {d e r c dd h} (a : HArg), d ∈ D → d.shape = .array e r → R c dd h →
      R (!d.neverCopyable && c) (!d.neverDroppable && dd) (.ext e r [a, .ty h])
  staticArray : ∀ {d e r c dd h}, d ∈ D → d.shape = .staticArray e r → R c dd h →
      typeBound h = .copyable → R (!d.neverCopyable && c) (!d.neverDroppable && dd) (.ext e r [.ty h])
  underlying : ∀ {d c dd h}, d ∈ D → d.shape = .underlying → R c dd h →
      R (!d.neverCopyable && c) (!d.neverDroppable && dd) h
  option : ∀ {d c dd h}, d ∈ D → d.shape = .option → R c dd h →
      R (!d.neverCopyable && c) (!d.neverDroppable && dd) (optionOf h)
  either : ∀ {d cl dl ls cr dr rs}, d ∈ D → d.shape = .either → R cl dl (tupleOf ls) →
      R cr dr (tupleOf rs) →
      R (!d.neverCopyable && (cl && cr)) (!d.neverDroppable && (dl && dr)) (.sum [.mk ls, .mk rs])
  ext1 : ∀ {d e r c dd h}, d ∈ D → d.shape = .ext1 e r → R c dd h →
      R (!d.neverCopyable && c) (!d.neverDroppable && dd) (.ext e r [.ty h])

/-- the environment entries are related to the parallel lists of flags -/
inductive EnvRel (R : Bool → Bool → HTy → Prop) : List EnvE → List Bool → List Bool → Prop
  | nil : EnvRel R [] [] []
  | ty {c0 d0 : Bool} {h : Option HTy} {row : Option (List HTy)} {c d : Bool} {ρ : List EnvE}
      {κc κd : List Bool} :
      (∀ h', h = some h' → R c d h') → (∀ r, row = some r → R c d (tupleOf r)) →
      EnvRel R ρ κc κd → EnvRel R (.ty c0 d0 h row :: ρ) (c :: κc) (d :: κd)
  | const {a : Option HArg} {ρ : List EnvE} {κc κd : List Bool} :
      EnvRel R ρ κc κd → EnvRel R (.const a :: ρ) (true :: κc) (true :: κd)

theorem EnvRel.lookup {R : Bool → Bool → HTy → Prop} {ρ : List EnvE} {κc κd : List Bool}
    (he : EnvRel R ρ κc κd) : ∀ i : Nat,
    match ρ[i]? with
    | none => κc[i]? = none ∧ κd[i]? = none
    | some (.const _) => True
    | some (.ty _ _ h row) => ∃ c d, κc[i]? = some c ∧ κd[i]? = some d ∧
        (∀ h', h = some h' → R c d h') ∧ (∀ r, row = some r → R c d (tupleOf r)) := by
  induction he with
  | nil => exact fun _ => ⟨rfl, rfl⟩
  | ty h1 h2 _ ih => exact fun | 0 => ⟨_, _, rfl, rfl, h1, h2⟩ | j + 1 => ih j
  | const _ ih => exact fun | 0 => trivial | j + 1 => ih j

variable {D : List OpaqueDef} {u : Bool} {R : Bool → Bool → HTy → Prop}

/-- `R` relates the flags of `t` to its HUGR type and to the tuple of its HUGR row, where defined -/
abbrev Goal (D : List OpaqueDef) (u : Bool) (R : Bool → Bool → HTy → Prop) (ρ : List EnvE)
    (κc κd : List Bool) (t : Ty) : Prop :=
  (∀ h, toHugrE D ρ t = some h → R (flagG D u .copy κc t) (flagG D u .drop κd t) h) ∧
  (∀ r, toRowE D ρ t = some r → R (flagG D u .copy κc t) (flagG D u .drop κd t) (tupleOf r))

theorem single_row (hC : Closed D u R) {c d : Bool} {h : HTy} (hr : R c d h) : R c d (tupleOf [h]) := by
  simpa using hC.cons hr hC.nil

theorem goal_of_nonvar (hC : Closed D u R) {ρ : List EnvE} {κc κd : List Bool} (t : Ty)
    (hnb : ∀ n i c d, t ≠ .bvar n i c d)
    (h1 : ∀ h, toHugrE D ρ t = some h → R (flagG D u .copy κc t) (flagG D u .drop κd t) h) :
    Goal D u R ρ κc κd t := by
  refine ⟨h1, fun r hr => ?_⟩
  obtain ⟨h, hh, rfl | rfl⟩ := toRowE_cases hnb hr
  · exact h1 _ hh
  · exact single_row hC (h1 _ hh)

theorem opaqueEval_rel (hC : Closed D u R) {n : String} {xs : List EnvE} {κc κd : List Bool} {h : HTy}
    (he : EnvRel R xs κc κd) (hh : opaqueEval D n xs = some h) :
    R (intrinsic D .copy n && κc.all id) (intrinsic D .drop n && κd.all id) h := by
  unfold opaqueEval at hh
  split at hh
  · cases hh
  next d hl =>
    have hd := lookup_mem hl
    simp only [intrinsic, hl, OpaqueDef.never]
    split at hh
    case h_9 => cases hh  -- no shape fits the arguments: `none`
    all_goals rename_i hs
    -- `he` is inverted against the form of `xs` that the match has fixed
    · cases hh; cases he
      simpa using hC.static hd hs
    · obtain ⟨x, rfl, ⟨⟩⟩ := Option.bind_eq_some_iff.mp hh
      obtain _ | ⟨h1, _, ⟨⟩⟩ := he
      simp only [List.all_cons, List.all_nil, id, Bool.and_true]
      exact hC.listOpt _ hd hs (h1 _ rfl)
    · obtain ⟨x, rfl, h2⟩ := Option.bind_eq_some_iff.mp hh
      obtain ⟨a, rfl, ⟨⟩⟩ := Option.bind_eq_some_iff.mp h2
      obtain _ | ⟨h1, _, _ | _ | ⟨⟨⟩⟩⟩ := he
      simpa using hC.array a hd hs (h1 _ rfl)
    · obtain ⟨x, rfl, h2⟩ := Option.bind_eq_some_iff.mp hh
      split at h2
      · cases h2
        obtain _ | ⟨h1, _, _ | _ | ⟨⟨⟩⟩⟩ := he
        simpa using hC.staticArray hd hs (h1 _ rfl) ‹_›
      · cases h2
    · obtain _ | ⟨h1, _, _ | _ | ⟨⟨⟩⟩⟩ := he
      simpa using hC.underlying hd hs (h1 _ hh)
    · obtain ⟨x, rfl, ⟨⟩⟩ := Option.bind_eq_some_iff.mp hh
      obtain _ | ⟨h1, _, ⟨⟩⟩ := he
      simpa using hC.option hd hs (h1 _ rfl)
    · obtain ⟨ls, rfl, h2⟩ := Option.bind_eq_some_iff.mp hh
      obtain ⟨rs, rfl, ⟨⟩⟩ := Option.bind_eq_some_iff.mp h2
      obtain _ | ⟨_, h1, _ | ⟨_, h2, ⟨⟩⟩⟩ := he
      simpa using hC.either hd hs (h1 _ rfl) (h2 _ rfl)
    · obtain ⟨x, rfl, ⟨⟩⟩ := Option.bind_eq_some_iff.mp hh
      obtain _ | ⟨h1, _, ⟨⟩⟩ := he
      simpa using hC.ext1 hd hs (h1 _ rfl)

mutual
theorem rel_ty (hC : Closed D u R) :
    ∀ (t : Ty) (ρ : List EnvE) (κc κd : List Bool), EnvRel R ρ κc κd → Goal D u R ρ κc κd t
  | .num k, ρ, κc, κd, _ => by
      refine goal_of_nonvar hC _ nofun fun h hh => ?_
      cases hh
      exact hC.num k
  | .none p, ρ, κc, κd, _ => by
      refine goal_of_nonvar hC _ nofun fun h hh => ?_
      cases hh
      exact hC.nil
  | .evar n i c d, ρ, κc, κd, _ => goal_of_nonvar hC _ nofun nofun
  | .bvar n i c d, ρ, κc, κd, he => by
      have hl := he.lookup i
      simp only [Goal, toHugrE, toRowE, rowOf, varH, varRow, flagG]
      cases hρ : ρ[i]? with
      | none =>
        rw [hρ] at hl
        simp only [hl.1, hl.2, selFlag, Option.some.injEq]
        exact ⟨fun _ hh => hh ▸ hC.var _ c d, fun _ hr => hr ▸ single_row hC (hC.var _ c d)⟩
      | some e =>
        cases e with
        | const a => exact ⟨nofun, nofun⟩
        | ty c0 d0 ho row =>
          rw [hρ] at hl
          obtain ⟨c', d', hc, hd, hr⟩ := hl
          simp only [hc, hd]
          exact hr
  | .tuple ts p, ρ, κc, κd, he => by
      refine goal_of_nonvar hC _ nofun fun h hh => ?_
      simp only [toHugrE] at hh
      obtain ⟨hs, hhs, ⟨⟩⟩ := Option.bind_eq_some_iff.mp hh
      exact rel_list hC ts ρ κc κd he hs hhs
  | .func ins o ps cs, ρ, κc, κd, _ => by
      refine goal_of_nonvar hC _ nofun fun h hh => ?_
      simp only [toHugrE] at hh
      split at hh
      · obtain ⟨is, _, hh⟩ := Option.bind_eq_some_iff.mp hh
        obtain ⟨os, _, hh⟩ := Option.bind_eq_some_iff.mp hh
        obtain ⟨bs, _, ⟨⟩⟩ := Option.bind_eq_some_iff.mp hh
        exact hC.func _ _
      · cases hh
  | .struct n as fs, ρ, κc, κd, he => by
      refine goal_of_nonvar hC _ nofun fun h hh => ?_
      simp only [toHugrE] at hh
      obtain ⟨hs, hhs, ⟨⟩⟩ := Option.bind_eq_some_iff.mp hh
      exact hC.structArgs _ _ (rel_list hC fs _ _ _ (rel_env hC as ρ κc κd he) hs hhs)
  | .opaque n as, ρ, κc, κd, he => by
      refine goal_of_nonvar hC _ nofun fun h hh => ?_
      rw [toHugrE_opaque_eq] at hh
      simp only [flagG, flagGArgs_eq_all_env]
      exact opaqueEval_rel hC (rel_env hC as ρ κc κd he) hh
termination_by structural x => x
theorem rel_list (hC : Closed D u R) :
    ∀ (ts : List Ty) (ρ : List EnvE) (κc κd : List Bool), EnvRel R ρ κc κd →
      ∀ hs, toHugrEList D ρ ts = some hs →
        R (flagGList D u .copy κc ts) (flagGList D u .drop κd ts) (tupleOf hs)
  | [], ρ, κc, κd, _ => by
      intro hs hh
      cases hh
      exact hC.nil
  | t :: r, ρ, κc, κd, he => by
      intro hs hh
      simp only [toHugrEList] at hh
      obtain ⟨h, hh1, hh⟩ := Option.bind_eq_some_iff.mp hh
      obtain ⟨hs', hh2, ⟨⟩⟩ := Option.bind_eq_some_iff.mp hh
      exact hC.cons ((rel_ty hC t ρ κc κd he).1 h hh1) (rel_list hC r ρ κc κd he hs' hh2)
termination_by structural x => x
theorem rel_env (hC : Closed D u R) :
    ∀ (as : List Arg) (ρ : List EnvE) (κc κd : List Bool), EnvRel R ρ κc κd →
      EnvRel R (envArgs D ρ as) (flagEnvArgs D u .copy κc as) (flagEnvArgs D u .drop κd as)
  | [], _, _, _, _ => EnvRel.nil
  | .ty t :: r, ρ, κc, κd, he =>
      EnvRel.ty (rel_ty hC t ρ κc κd he).1 (rel_ty hC t ρ κc κd he).2 (rel_env hC r ρ κc κd he)
  | .const _ :: r, ρ, κc, κd, he => EnvRel.const (rel_env hC r ρ κc κd he)
termination_by structural x => x
end

-- `rel_ty` at a member of `as` (the membership is not needed); nothing uses it
theorem rel_args (hC : Closed D u R) :
    ∀ (as : List Arg) (ρ : List EnvE) (κc κd : List Bool), EnvRel R ρ κc κd →
      ∀ t, Arg.ty t ∈ as → Goal D u R ρ κc κd t
  | _, ρ, κc, κd, he => fun t _ => rel_ty hC t ρ κc κd he

theorem rel_top (hC : Closed D u R) (t : Ty) (h : HTy) (hh : toHugr D t = some h) :
    R (flagG D u .copy [] t) (flagG D u .drop [] t) h :=
  (rel_ty hC t [] [] [] EnvRel.nil).1 h hh

end GuppyVerif.CopyDrop
