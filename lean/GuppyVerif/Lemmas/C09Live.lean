import GuppyVerif.Lemmas.C09Worklist
/-! The liveness step as an equation, `LivePath` as a least predicate with the specification's own equation
    (`LiveSpec.unfold`), and the invariants of the worklist (backward analysis), for every visiting order. -/
namespace GuppyVerif.Dataflow

/-- the step of `LivePath` and `InfPath` -/
abbrev liveR (g : Cfg) (x : Var) (b c : Blk) : Prop := x ∉ g.assigned b ∧ Edge g b c

theorem infPath_eq (g : Cfg) (x : Var) (b : Blk) : InfPath g x b = Diverges (liveR g x) b := rfl

theorem mem_liveF {g : Cfg} {vals : Blk → List Var} {b : Blk} {x : Var} :
    x ∈ liveF g vals b ↔ x ∈ g.used b ∨ ∃ c, liveR g x b c ∧ x ∈ vals c := by
  unfold liveF liveApply liveOut liveR Edge
  simp only [List.mem_append, List.mem_filter, List.mem_flatMap, Bool.not_eq_true',
    List.contains_eq_mem, decide_eq_false_iff_not]
  exact or_congr_right ⟨fun ⟨⟨c, hc, hx⟩, hn⟩ => ⟨c, ⟨hn, hc⟩, hx⟩, fun ⟨c, ⟨hn, hc⟩, hx⟩ => ⟨⟨c, hc, hx⟩, hn⟩⟩

theorem liveStep_eq (g : Cfg) (s : LSt) (b : Blk) :
    liveStep g s b =
      if sameSet (s.vals b) (liveF g s.vals b) then ⟨s.vals, s.queue.filter (· != b)⟩
      else ⟨upd s.vals b (liveF g s.vals b), s.queue.filter (· != b) ++ (g.pred b ++ g.dpred b)⟩ := rfl

theorem livePath_least (g : Cfg) (x : Var) :
    Least (x ∈ g.used ·) (liveR g x) (LivePath g x) where
  intro := by
    rintro b (h | ⟨c, ⟨hn, he⟩, hc⟩)
    · exact .use h
    · exact .step hn he hc
  ind v hv b h := by
    induction h with
    | use hu => exact hv _ (.inl hu)
    | step hn he _ ih => exact hv _ (.inr ⟨_, ⟨hn, he⟩, ih⟩)

theorem liveSpec_nil {g : Cfg} {x : Var} {b : Blk} : LiveSpec g [] x b ↔ LivePath g x b := by
  simp [LiveSpec]

theorem LiveSpec.unfold {g : Cfg} {init : List Var} {x : Var} {b : Blk} :
    LiveSpec g init x b ↔ x ∈ g.used b ∨ (x ∉ g.assigned b ∧ ∃ c, Edge g b c ∧ LiveSpec g init x c) := by
  simp only [LiveSpec, infPath_eq]
  constructor
  · rintro (h | ⟨hi, h⟩)
    · cases h with
      | use hu => exact .inl hu
      | step hna he h' => exact .inr ⟨hna, _, he, .inl h'⟩
    · obtain ⟨c, ⟨hna, he⟩, h'⟩ := h.tail
      exact .inr ⟨hna, c, he, .inr ⟨hi, h'⟩⟩
  · rintro (hu | ⟨hna, c, he, h | ⟨hi, h⟩⟩)
    · exact .inl (.use hu)
    · exact .inl (.step hna he h)
    · exact .inr ⟨hi, .cons ⟨hna, he⟩ h⟩

theorem liveF_upd_of_not_edge {g : Cfg} {vals : Blk → List Var} {b c : Blk} {v : List Var}
    (h : ¬ Edge g c b) : liveF g (upd vals b v) c = liveF g vals c := by
  unfold liveF liveOut
  have : ∀ d ∈ g.succ c ++ g.dsucc c, upd vals b v d = vals d :=
    fun d hd => upd_ne vals v fun e => h (e ▸ hd)
  rw [List.flatMap_def, List.flatMap_def, List.map_congr_left this]

structure LInv (g : Cfg) (init : List Var) (s : LSt) : Prop where
  stab : ∀ c ∈ g.blocks, c ∉ s.queue → SetEq (s.vals c) (liveF g s.vals c)
  sound : ∀ b x, x ∈ s.vals b → x ∈ init ∨ LivePath g x b
  above : ∀ b x, x ∈ init → Diverges (liveR g x) b → x ∈ s.vals b

theorem linv_init (g : Cfg) (init : List Var) : LInv g init (liveInit g init) := by
  refine ⟨?_, ?_, ?_⟩
  · intro c hc hq; exact absurd hc hq
  · intro b x hx; exact Or.inl hx
  · intro b x hx _; exact hx

theorem linv_step (g : Cfg) (hg : g.WF) (init : List Var) (s : LSt) (b : Blk)
    (hi : LInv g init s) : LInv g init (liveStep g s b) := by
  rw [liveStep_eq]
  by_cases e : sameSet (s.vals b) (liveF g s.vals b) = true
  · rw [if_pos e]
    refine ⟨fun c hc hq => ?_, hi.sound, hi.above⟩
    by_cases hcb : c = b
    · subst hcb; exact (sameSet_iff _ _).mp e
    · exact hi.stab c hc fun h => hq (List.mem_filter_bne.mpr ⟨h, hcb⟩)
  · rw [if_neg e]
    refine ⟨fun c hc hq => ?_, fun c x => ?_, fun c x hx => ?_⟩
    · -- every predecessor of `b` is queued again, so an unqueued `c` does not read the new value
      simp only [List.mem_append, not_or] at hq
      have hne : ¬ Edge g c b := fun he =>
        (List.mem_append.mp ((hg.conv c b).mp he)).elim hq.2.1 hq.2.2
      dsimp only
      rw [liveF_upd_of_not_edge hne]
      by_cases hcb : c = b
      · subst hcb; rw [upd_same]; exact fun _ => Iff.rfl
      · rw [upd_ne _ _ hcb]; exact hi.stab c hc fun h => hq.1 (List.mem_filter_bne.mpr ⟨h, hcb⟩)
    · exact upd_forall (p := fun c l => x ∈ l → x ∈ init ∨ LivePath g x c) (fun c => hi.sound c x)
        (fun h => (livePath_least g x).below (hi.sound · x) (mem_liveF.mp h)) c
    · exact upd_forall (p := fun c l => Diverges (liveR g x) c → x ∈ l) (fun c => hi.above c x hx)
        (fun h => mem_liveF.mpr (.inr (h.above (hi.above · x hx)))) c

theorem linv_reach (g : Cfg) (hg : g.WF) (init : List Var) {s t : LSt} (h : LReach g s t)
    (hi : LInv g init s) : LInv g init t := by
  induction h with
  | refl => exact hi
  | step b _ _ ih => exact ih (linv_step g hg init _ b hi)

theorem LInv.solves {g : Cfg} {init : List Var} {s : LSt} (hi : LInv g init s)
    (hq : ∀ c ∈ g.blocks, c ∉ s.queue) (x : Var) :
    Solves (· ∈ g.blocks) (x ∈ g.used ·) (liveR g x) (x ∈ s.vals ·) :=
  fun b hb => (hi.stab b hb (hq b hb) x).trans mem_liveF

theorem LReach.trans {g : Cfg} {s t u : LSt} (h₁ : LReach g s t) (h₂ : LReach g t u) : LReach g s u := by
  induction h₁ with
  | refl => exact h₂
  | step b hb _ ih => exact .step b hb (ih h₂)

end GuppyVerif.Dataflow
