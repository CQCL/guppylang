import GuppyVerif.Model.Check02
/-! What the components of `Model/Check02.lean` compute, in terms of `Known` names. -/
namespace GuppyVerif.C02

theorem zipStrict_eq {α β : Type} (xs : List α) (ys : List β) :
    zipStrict xs ys = if xs.length = ys.length then .ok (xs.zip ys)
      else .error (.internal "ValueError: zip() arguments have different lengths") := by
  induction xs generalizing ys with
  | nil => cases ys <;> simp [zipStrict]
  | cons x xs ih =>
    cases ys with
    | nil => simp [zipStrict]
    | cons y ys => by_cases h : xs.length = ys.length <;> simp [zipStrict, ih, h]

theorem acceptable_iff {α : Type} (r : Except Failure α) :
    Acceptable r ↔ ¬ ∃ s, r = .error (.internal s) := by
  rcases r with (_ | _) | _ <;> simp [Acceptable]

theorem acceptable_error {α β : Type} {e : Failure} (h : Acceptable (.error e : Except Failure α)) :
    Acceptable (.error e : Except Failure β) := by
  cases e <;> exact h

def Known (sc : Scope) (x : Nat) : Prop :=
  x ∈ sc.locals ∨ lookup x sc.generic ≠ none ∨ lookup x sc.globals ≠ none

theorem visitName_acceptable_iff (sc : Scope) (x : Nat) : Acceptable (visitName sc x) ↔ Known sc x := by
  unfold visitName Known
  by_cases hl : x ∈ sc.locals
  · simp [hl, Acceptable]
  · cases hg : lookup x sc.generic with
    | some b => cases b <;> simp [hl, Acceptable]
    | none =>
      cases hgl : lookup x sc.globals with
      | some k => cases k <;> simp [hl, Acceptable]
      | none => simp [hl, Acceptable]

theorem entryCheck_ok {used assBefore asg : List Nat} {sc : Scope}
    (h : entryCheck used assBefore asg sc = .ok ()) :
    ∀ x ∈ used, assBefore.contains x = true ∨
      lookup x sc.generic ≠ none ∨ lookup x sc.globals ≠ none := by
  fun_induction entryCheck used assBefore asg sc <;> grind

theorem succCheck_ok {live asg maybe : List Nat} {sc : Scope}
    (h : succCheck live asg maybe sc = .ok ()) :
    ∀ x ∈ live, sc.locals.contains x = true ∨
      lookup x sc.generic ≠ none ∨ lookup x sc.globals ≠ none := by
  fun_induction succCheck live asg maybe sc <;> grind

theorem rowLookup_isSome_iff (x : Nat) (r : Row) : (rowLookup x r).isSome = (r.map (·.1)).contains x := by
  fun_induction rowLookup x r <;> grind

theorem outputRow_names (live : List Nat) (locals : Row) :
    (outputRow live locals).map (·.1) = live.filter (fun x => (locals.map (·.1)).contains x) := by
  simp only [outputRow, ← rowLookup_isSome_iff]
  induction live with
  | nil => rfl
  | cons x rest ih => cases h : rowLookup x locals <;> simp [h, ih]

theorem rowLookup_of_mem {r : Row} {x : Nat} (h : x ∈ r.map (·.1)) : ∃ t, rowLookup x r = some t :=
  Option.isSome_iff_exists.1 (by rw [rowLookup_isSome_iff]; simpa using h)

theorem rowsMatchOn_acceptable (names : List Nat) (r1 r2 : Row)
    (h1 : ∀ x ∈ names, ∃ t, rowLookup x r1 = some t) (h2 : ∀ x ∈ names, ∃ t, rowLookup x r2 = some t) :
    Acceptable (rowsMatchOn names r1 r2) := by
  induction names with
  | nil => simp [rowsMatchOn, Acceptable]
  | cons x rest ih =>
    obtain ⟨t1, e1⟩ := h1 x (by simp)
    obtain ⟨t2, e2⟩ := h2 x (by simp)
    simp only [rowsMatchOn, e1, e2]
    split
    · exact ih (fun y hy => h1 y (by simp [hy])) (fun y hy => h2 y (by simp [hy]))
    · simp [Acceptable]

theorem known_mono {sc : Scope} {x y : Nat} (h : Known sc y) : Known { sc with locals := x :: sc.locals } y := by
  rcases h with h | h | h
  · exact Or.inl (List.mem_cons_of_mem _ h)
  · exact Or.inr (Or.inl h)
  · exact Or.inr (Or.inr h)

/-- the invariant behind `block_names_resolved`: with `asg` the names assigned so far in the block (all in
    `ctx.locals`), if every name of `usedFirst` is known then no read reaches the internal branch -/
theorem runBlock_acceptable : ∀ (evs : List Ev) (asg : List Nat) (sc : Scope),
    (∀ x ∈ usedFirst evs asg, Known sc x) → (∀ x ∈ asg, x ∈ sc.locals) → Acceptable (runBlock sc evs)
  | [], _, sc, _, _ => by simp [runBlock, Acceptable]
  | .use x :: r, asg, sc, hu, ha => by
    -- `x` was assigned earlier in the block, or is one of the names vetted up front: known either way
    have hk : Known sc x :=
      if hx : x ∈ asg then .inl (ha x hx) else hu x (by simp [usedFirst, hx])
    have hacc := (visitName_acceptable_iff sc x).mpr hk
    have hr := runBlock_acceptable r asg sc
      (fun y hy => hu y (by simp only [usedFirst]; split <;> simp [hy])) ha
    simp only [runBlock]
    split
    · exact hr
    · next hv => exact acceptable_error (hv ▸ hacc)
  | .assign x :: r, asg, sc, hu, ha => by
    simp only [runBlock]
    apply runBlock_acceptable r (x :: asg) { sc with locals := x :: sc.locals }
    · intro y hy
      exact known_mono (hu y (by simpa [usedFirst] using hy))
    · intro y hy
      rcases List.mem_cons.mp hy with rfl | h
      · exact List.mem_cons_self
      · exact List.mem_cons_of_mem _ (ha y h)

theorem entryCheck_acceptable (used assBefore asg : List Nat) (sc : Scope) :
    Acceptable (entryCheck used assBefore asg sc) := by
  fun_induction entryCheck used assBefore asg sc <;> simp_all [Acceptable]

theorem succCheck_acceptable (live asg maybe : List Nat) (sc : Scope) :
    Acceptable (succCheck live asg maybe sc) := by
  fun_induction succCheck live asg maybe sc <;> simp_all [Acceptable]

end GuppyVerif.C02
