import GuppyVerif.Lemmas.C27
/-! PriorityQueue: heap order is argued on entry lists alone (no buffer, capacity or fuel); each
    loop of the model is then followed once on a represented buffer. -/
namespace GuppyVerif.Coll
variable {α : Type}

/-! ### heap order -/

/-- parent index in the array layout of the tree; opaque to `omega`, which gets the two facts
    below instead of a division -/
def parent (j : Nat) : Nat := (j - 1) / 2

theorem parent_lt {j : Nat} (h : 0 < j) : parent j < j := by unfold parent; omega

theorem parent_eq_iff {i j : Nat} (h : 0 < j) : parent j = i ↔ j = 2 * i + 1 ∨ j = 2 * i + 2 := by
  unfold parent; omega

/-- priority stored at index `j` (0 beyond the end; only used at valid indices) -/
def pr (a : List (Int × α)) (j : Nat) : Int := match a[j]? with | some x => x.1 | none => 0

theorem pr_of_get {a : List (Int × α)} {j : Nat} {x : Int × α} (h : a[j]? = some x) : pr a j = x.1 := by
  simp [pr, h]

theorem pr_set {a : List (Int × α)} {i : Nat} (hi : i < a.length) (x : Int × α) (j : Nat) :
    pr (a.set i x) j = if i = j then x.1 else pr a j := by
  unfold pr
  rw [List.getElem?_set]
  by_cases h : i = j
  · subst h; simp [hi]
  · simp [h]

/-- the Spec's `HeapOrdered` read on the represented list (`heapOrdered_iff`) -/
def IsHeap (a : List (Int × α)) : Prop := ∀ j, 0 < j → j < a.length → pr a (parent j) ≤ pr a j

theorem IsHeap.root_min {a : List (Int × α)} (h : IsHeap a) : ∀ j, j < a.length → pr a 0 ≤ pr a j := by
  intro j
  induction j using Nat.strongRecOn with
  | _ j ih =>
    intro hj
    by_cases h0 : j = 0
    · subst h0; exact Int.le_refl _
    · have hp := parent_lt (Nat.pos_of_ne_zero h0)
      exact Int.le_trans (ih _ hp (Nat.lt_trans hp hj)) (h j (Nat.pos_of_ne_zero h0) hj)

/-- invariant of sift-up at `i`: heap order on every edge except the one from `i` to its parent,
    and the children of `i` are above its parent -/
structure HeapExcept (a : List (Int × α)) (i : Nat) : Prop where
  other : ∀ j, 0 < j → j < a.length → j ≠ i → pr a (parent j) ≤ pr a j
  children : ∀ j, 0 < j → j < a.length → parent j = i → 0 < i → pr a (parent i) ≤ pr a j

theorem HeapExcept.done {a : List (Int × α)} {i : Nat} (h : HeapExcept a i)
    (hi : 0 < i → pr a (parent i) ≤ pr a i) : IsHeap a := by
  intro j hj0 hjl
  by_cases e : j = i
  · subst e; exact hi hj0
  · exact h.other j hj0 hjl e

theorem HeapExcept.swap {a : List (Int × α)} {i : Nat} {x y : Int × α} (h : HeapExcept a i)
    (h0 : 0 < i) (hx : a[i]? = some x) (hy : a[parent i]? = some y) (hlt : x.1 < y.1) :
    HeapExcept ((a.set i y).set (parent i) x) (parent i) := by
  have hi := (List.getElem?_eq_some_iff.mp hx).1
  have hpi := parent_lt h0
  have prs : ∀ j, pr ((a.set i y).set (parent i) x) j =
      if parent i = j then x.1 else if i = j then y.1 else pr a j := fun j => by
    rw [pr_set (by rw [List.length_set]; exact Nat.lt_trans hpi hi), pr_set hi]
  have prp := pr_of_get hy
  constructor
  · intro j hj0 hjl hjp
    simp only [List.length_set] at hjl
    have hpj := parent_lt hj0
    rw [prs, prs, if_neg (Ne.symm hjp)]
    by_cases e1 : i = j
    · subst e1; rw [if_pos rfl, if_pos rfl]; exact Int.le_of_lt hlt
    · have := h.other j hj0 hjl (Ne.symm e1)
      rw [if_neg e1]
      by_cases e2 : parent i = parent j
      · rw [← e2, prp] at this; rw [if_pos e2]; exact Int.le_trans (Int.le_of_lt hlt) this
      · rw [if_neg e2]
        by_cases e3 : i = parent j
        · rw [if_pos e3, ← prp]; exact h.children j hj0 hjl e3.symm h0
        · rwa [if_neg e3]
  · intro j hj0 hjl hjp hp0
    simp only [List.length_set] at hjl
    have hpp := parent_lt hp0
    have hpj := parent_lt hj0
    have hgp := h.other (parent i) hp0 (Nat.lt_trans hpi hi) (Nat.ne_of_lt hpi)
    rw [prs, prs, if_neg (Nat.ne_of_gt hpp), if_neg (Nat.ne_of_gt (Nat.lt_trans hpp hpi)),
      if_neg (Nat.ne_of_lt (hjp ▸ hpj))]
    by_cases e1 : i = j
    · rw [if_pos e1, ← prp]; exact hgp
    · have := h.other j hj0 hjl (Ne.symm e1)
      rw [hjp] at this
      rw [if_neg e1]; exact Int.le_trans hgp this

theorem IsHeap.heapExcept_snoc {a : List (Int × α)} (h : IsHeap a) (x : Int × α) :
    HeapExcept (a ++ [x]) a.length := by
  have pra : ∀ j, j < a.length → pr (a ++ [x]) j = pr a j := fun j hj => by
    simp [pr, List.getElem?_append_left hj]
  constructor
  · intro j hj0 hjl hne
    have hj : j < a.length := by simp at hjl; omega
    have := parent_lt hj0
    rw [pra j hj, pra _ (Nat.lt_trans this hj)]
    exact h j hj0 hj
  · intro j hj0 hjl hp _
    have := parent_lt hj0
    simp at hjl; omega

theorem IsHeap.dropLast {a : List (Int × α)} (h : IsHeap a) : IsHeap a.dropLast := by
  have prd : ∀ j, j < a.length - 1 → pr a.dropLast j = pr a j := fun j hj => by
    have hj' : j < a.length := Nat.lt_of_lt_of_le hj (Nat.sub_le _ _)
    simp [pr, hj, List.getElem?_eq_getElem hj']
  intro j hj0 hjl
  simp at hjl
  have := parent_lt hj0
  rw [prd j hjl, prd _ (Nat.lt_trans this hjl)]
  exact h j hj0 (Nat.lt_of_lt_of_le hjl (Nat.sub_le _ _))

/-- invariant of sift-down, hole at `i`, displaced priority `d`: heap order on the edges that do not
    touch `i`; `d` and the children of `i` fit under the parent of `i` -/
structure HoleInv (b : List (Int × α)) (i : Nat) (d : Int) : Prop where
  other : ∀ j, 0 < j → j < b.length → j ≠ i → parent j ≠ i → pr b (parent j) ≤ pr b j
  displaced : 0 < i → pr b (parent i) ≤ d
  children : ∀ j, 0 < j → j < b.length → parent j = i → 0 < i → pr b (parent i) ≤ pr b j

theorem IsHeap.holeInv_root {b : List (Int × α)} (h : IsHeap b) (d : Int) : HoleInv b 0 d :=
  ⟨fun j hj0 hjl _ _ => h j hj0 hjl, fun h0 => absurd h0 (Nat.lt_irrefl 0),
    fun _ _ _ _ h0 => absurd h0 (Nat.lt_irrefl 0)⟩

theorem HoleInv.fill {b : List (Int × α)} {i : Nat} {d : Int} (h : HoleInv b i d) (hi : i < b.length)
    (hch : ∀ j, 0 < j → j < b.length → parent j = i → d ≤ pr b j) {e : Int × α} (he : e.1 = d) :
    IsHeap (b.set i e) := by
  intro j hj0 hjl
  simp only [List.length_set] at hjl
  have := parent_lt hj0
  rw [pr_set hi, pr_set hi, he]
  by_cases e1 : i = parent j
  · rw [if_pos e1, if_neg (Nat.ne_of_lt (e1 ▸ this))]; exact hch j hj0 hjl e1.symm
  · rw [if_neg e1]
    by_cases e2 : i = j
    · subst e2; rw [if_pos rfl]; exact h.displaced hj0
    · rw [if_neg e2]; exact h.other j hj0 hjl (Ne.symm e2) (Ne.symm e1)

theorem HoleInv.descend {b : List (Int × α)} {i m : Nat} {d : Int} {c : Int × α} (h : HoleInv b i d)
    (hi : i < b.length) (hm0 : 0 < m) (hc : b[m]? = some c) (hmi : parent m = i)
    (hmin : ∀ j, 0 < j → j < b.length → parent j = i → pr b m ≤ pr b j) (hlt : c.1 < d) :
    HoleInv (b.set i c) m d := by
  have hml := (List.getElem?_eq_some_iff.mp hc).1
  have prc := pr_of_get hc
  have him := parent_lt hm0
  refine ⟨fun j hj0 hjl hjm hjpm => ?_, fun _ => ?_, fun j hj0 hjl hjp _ => ?_⟩
  · simp only [List.length_set] at hjl
    have := parent_lt hj0
    rw [pr_set hi, pr_set hi, ← prc]
    by_cases e1 : i = parent j
    · rw [if_pos e1, if_neg (Nat.ne_of_lt (e1 ▸ this))]; exact hmin j hj0 hjl e1.symm
    · rw [if_neg e1]
      by_cases e2 : i = j
      · subst e2; rw [if_pos rfl]; exact h.children m hm0 hml hmi hj0
      · rw [if_neg e2]; exact h.other j hj0 hjl (Ne.symm e2) (Ne.symm e1)
  · rw [pr_set hi, hmi, if_pos rfl]; exact Int.le_of_lt hlt
  · simp only [List.length_set] at hjl
    have := parent_lt hj0
    rw [pr_set hi, pr_set hi, hmi, if_pos rfl, if_neg (by omega), ← prc]
    have := h.other j hj0 hjl (by omega) (by omega)
    rwa [hjp] at this

/-! ### the loops of the model, one iteration at a time -/

theorem siftUp_stop {f i : Nat} {buf b1 b2 b3 b4 : List (Option (Int × α))} {x y : Int × α} (h0 : 0 < i)
    (t1 : takeUnwrap buf i = .ok (x, b1)) (t2 : takeUnwrap b1 ((i - 1) / 2) = .ok (y, b2))
    (hc : x.1 ≥ y.1) (p1 : put b2 i x = .ok b3) (p2 : put b3 ((i - 1) / 2) y = .ok b4) :
    PQ.siftUp (f + 1) buf i = .ok b4 := by
  obtain ⟨xp, xv⟩ := x
  obtain ⟨yp, yv⟩ := y
  simp only [PQ.siftUp, h0, if_true, t1, t2, bind, Except.bind, show xp ≥ yp from hc, p1, p2]

theorem siftUp_go {f i : Nat} {buf b1 b2 b3 b4 : List (Option (Int × α))} {x y : Int × α} (h0 : 0 < i)
    (t1 : takeUnwrap buf i = .ok (x, b1)) (t2 : takeUnwrap b1 ((i - 1) / 2) = .ok (y, b2))
    (hc : ¬ x.1 ≥ y.1) (p1 : put b2 i y = .ok b3) (p2 : put b3 ((i - 1) / 2) x = .ok b4) :
    PQ.siftUp (f + 1) buf i = PQ.siftUp f b4 ((i - 1) / 2) := by
  obtain ⟨xp, xv⟩ := x
  obtain ⟨yp, yv⟩ := y
  simp only [PQ.siftUp, h0, if_true, t1, t2, bind, Except.bind, show ¬ xp ≥ yp from hc, if_false, p1, p2]

theorem pickChild_right {n left : Nat} {buf b1 b2 b3 : List (Option (Int × α))} {l r : Int × α}
    (h2 : left + 1 < n) (t1 : takeUnwrap buf left = .ok (l, b1))
    (t2 : takeUnwrap b1 (left + 1) = .ok (r, b2)) (hlt : r.1 < l.1) (p1 : put b2 left l = .ok b3) :
    PQ.pickChild buf n left = .ok (left + 1, r, b3) := by
  obtain ⟨lp, lv⟩ := l
  obtain ⟨rp, rv⟩ := r
  simp only [PQ.pickChild, h2, if_true, t1, t2, bind, Except.bind, show rp < lp from hlt, p1]
  rfl

theorem pickChild_left {n left : Nat} {buf b1 b2 b3 : List (Option (Int × α))} {l r : Int × α}
    (h2 : left + 1 < n) (t1 : takeUnwrap buf left = .ok (l, b1))
    (t2 : takeUnwrap b1 (left + 1) = .ok (r, b2)) (hlt : ¬ r.1 < l.1)
    (p1 : put b2 (left + 1) r = .ok b3) : PQ.pickChild buf n left = .ok (left, l, b3) := by
  obtain ⟨lp, lv⟩ := l
  obtain ⟨rp, rv⟩ := r
  simp only [PQ.pickChild, h2, if_true, t1, t2, bind, Except.bind, show ¬ rp < lp from hlt, if_false, p1]
  rfl

theorem pickChild_only {n left : Nat} {buf b1 : List (Option (Int × α))} {l : Int × α}
    (h2 : ¬ left + 1 < n) (t1 : takeUnwrap buf left = .ok (l, b1)) :
    PQ.pickChild buf n left = .ok (left, l, b1) := by
  simp only [PQ.pickChild, h2, if_false, t1, bind, Except.bind]
  rfl

theorem siftDown_leaf {f n i : Nat} (buf : List (Option (Int × α))) (d : Int) (h : 2 * i + 1 ≥ n) :
    PQ.siftDown (f + 1) buf n d i = .ok (buf, i) := by
  simp only [PQ.siftDown, h, if_true]
  rfl

theorem siftDown_stop {f n i m : Nat} {buf b1 b2 : List (Option (Int × α))} {d : Int} {c : Int × α}
    (h : ¬ 2 * i + 1 ≥ n) (pk : PQ.pickChild buf n (2 * i + 1) = .ok (m, c, b1)) (hc : d ≤ c.1)
    (p1 : put b1 m c = .ok b2) : PQ.siftDown (f + 1) buf n d i = .ok (b2, i) := by
  obtain ⟨cp, cv⟩ := c
  simp only [PQ.siftDown, h, if_false, pk, bind, Except.bind, show d ≤ cp from hc, if_true, p1]
  rfl

theorem siftDown_go {f n i m : Nat} {buf b1 b2 : List (Option (Int × α))} {d : Int} {c : Int × α}
    (h : ¬ 2 * i + 1 ≥ n) (pk : PQ.pickChild buf n (2 * i + 1) = .ok (m, c, b1)) (hc : ¬ d ≤ c.1)
    (p1 : put b1 i c = .ok b2) : PQ.siftDown (f + 1) buf n d i = PQ.siftDown f b2 n d m := by
  obtain ⟨cp, cv⟩ := c
  simp only [PQ.siftDown, h, if_false, pk, bind, Except.bind, show ¬ d ≤ cp from hc, p1]

theorem PQ.push_eq {cap : Nat} {q : PQ α} {v : α} {p : Int} {b1 b2 : List (Option (Int × α))}
    (hc : ¬ q.size ≥ cap) (p1 : put q.buf q.size (p, v) = .ok b1)
    (su : PQ.siftUp (q.size + 1) b1 q.size = .ok b2) : q.push cap v p = .ok ⟨b2, q.size + 1⟩ := by
  simp only [PQ.push, hc, if_false, p1, su, bind, Except.bind]
  rfl

theorem PQ.pop_single {q : PQ α} {r : Int × α} {b1 : List (Option (Int × α))} (hs : q.size = 1)
    (t1 : takeUnwrap q.buf 0 = .ok (r, b1)) : q.pop = .ok (r.1, r.2, ⟨b1, 0⟩) := by
  obtain ⟨rp, rv⟩ := r
  simp [PQ.pop, hs, t1]

theorem PQ.pop_sift {q : PQ α} {n i : Nat} {r de : Int × α} {b1 b2 b3 b4 : List (Option (Int × α))}
    (hs : q.size = n + 2) (t1 : takeUnwrap q.buf 0 = .ok (r, b1))
    (t2 : takeUnwrap b1 (n + 1) = .ok (de, b2))
    (sd : PQ.siftDown (n + 2) b2 (n + 1) de.1 0 = .ok (b3, i)) (p1 : put b3 i de = .ok b4) :
    q.pop = .ok (r.1, r.2, ⟨b4, n + 1⟩) := by
  obtain ⟨rp, rv⟩ := r
  obtain ⟨dp, dv⟩ := de
  simp [PQ.pop, hs, t1, t2, sd, p1, bind, Except.bind]

/-! ### the loops on a represented buffer

Fuel: the index of `siftUp` falls, so `i < f` suffices; the hole index of `siftDown` rises, so
`b.length - i ≤ f` does. -/

theorem siftUp_spec {cap : Nat} (f : Nat) : ∀ (buf : List (Option (Int × α))) (a : List (Int × α)) (i : Nat),
    Rep cap buf a → i < a.length → i < f →
    ∃ buf' a', PQ.siftUp f buf i = .ok buf' ∧ Rep cap buf' a' ∧ a'.Perm a ∧
      (HeapExcept a i → IsHeap a') := by
  induction f with
  | zero => intro _ _ i _ _ h; omega
  | succ f ih =>
    intro buf a i hrep hi hf
    by_cases h0 : 0 < i
    · have hp := parent_lt h0
      have hpl : parent i < a.length := Nat.lt_trans hp hi
      obtain ⟨x, hx⟩ : ∃ x, a[i]? = some x := ⟨_, List.getElem?_eq_getElem hi⟩
      obtain ⟨y, hy⟩ : ∃ y, a[parent i]? = some y := ⟨_, List.getElem?_eq_getElem hpl⟩
      obtain ⟨t1, r1⟩ := RepH.take hrep hx (by simp)
      obtain ⟨t2, r2⟩ := r1.take hy (mt List.mem_singleton.mp (Nat.ne_of_lt hp))
      by_cases hc : x.1 ≥ y.1
      · obtain ⟨p1, r3⟩ := r2.put_back hx (.swap _ _ _) (mt List.mem_singleton.mp (Nat.ne_of_gt hp))
        obtain ⟨p2, r4⟩ := r3.put_back hy (.refl _) List.not_mem_nil
        exact ⟨_, a, siftUp_stop h0 t1 t2 hc p1 p2, r4, .refl _,
          fun h => h.done fun _ => by rw [pr_of_get hx, pr_of_get hy]; exact hc⟩
      · obtain ⟨p1, r3⟩ := r2.put y hi (.swap _ _ _) (mt List.mem_singleton.mp (Nat.ne_of_gt hp))
        obtain ⟨p2, r4⟩ := r3.put x (by simpa using hpl) (.refl _) List.not_mem_nil
        obtain ⟨buf', a', hs, hr', hperm, hheap⟩ := ih _ _ _ r4 (by simpa using hpl) (by omega)
        exact ⟨buf', a', (siftUp_go h0 t1 t2 hc p1 p2).trans hs, hr', hperm.trans (List.set_set_perm_of_getElem? hx hy),
          fun h => hheap (h.swap h0 hx hy (Int.not_le.mp hc))⟩
    · obtain rfl : i = 0 := Nat.eq_zero_of_not_pos h0
      exact ⟨buf, a, rfl, hrep, .refl _, fun h => h.done fun h => absurd h (Nat.lt_irrefl 0)⟩

theorem pickChild_spec {cap : Nat} {buf : List (Option (Int × α))} {b : List (Int × α)} {i : Nat}
    (h : RepH cap buf b [i]) (hl : 2 * i + 1 < b.length) :
    ∃ m c buf', PQ.pickChild buf b.length (2 * i + 1) = .ok (m, c, buf') ∧ b[m]? = some c ∧
      RepH cap buf' b [m, i] ∧ (m = 2 * i + 1 ∨ m = 2 * i + 2) ∧
      ∀ j, j < b.length → j = 2 * i + 1 ∨ j = 2 * i + 2 → pr b m ≤ pr b j := by
  obtain ⟨l, hlft⟩ : ∃ x, b[2 * i + 1]? = some x := ⟨_, List.getElem?_eq_getElem hl⟩
  obtain ⟨t1, r1⟩ := h.take hlft (mt List.mem_singleton.mp (by omega))
  have prl := pr_of_get hlft
  by_cases h2 : 2 * i + 1 + 1 < b.length
  · obtain ⟨r, hrgt⟩ : ∃ x, b[2 * i + 2]? = some x := ⟨_, List.getElem?_eq_getElem h2⟩
    obtain ⟨t2, r2⟩ := r1.take hrgt (by simp; omega)
    have prr := pr_of_get hrgt
    by_cases hlt : r.1 < l.1
    · obtain ⟨p1, r3⟩ := r2.put_back hlft (.swap _ _ _) (by simp; omega)
      refine ⟨_, r, _, pickChild_right h2 t1 t2 hlt p1, hrgt, r3, .inr rfl, fun j _ hj => ?_⟩
      rcases hj with rfl | rfl
      · rw [prr, prl]; exact Int.le_of_lt hlt
      · exact Int.le_refl _
    · obtain ⟨p1, r3⟩ := r2.put_back hrgt (.refl _) (by simp; omega)
      refine ⟨_, l, _, pickChild_left h2 t1 t2 hlt p1, hlft, r3, .inl rfl, fun j _ hj => ?_⟩
      rcases hj with rfl | rfl
      · exact Int.le_refl _
      · rw [prl, prr]; exact Int.not_lt.mp hlt
  · refine ⟨_, l, _, pickChild_only h2 t1, hlft, r1, .inl rfl, fun j hjl hj => ?_⟩
    rcases hj with rfl | rfl
    · exact Int.le_refl _
    · exact absurd hjl h2

/-- what sift-down from hole `i` with displaced priority `d` leaves: entries `b'` with hole `i'`.
    `perm` and `heap` speak of every `e` put into the hole: what the list holds there is
    irrelevant (`RepH` ignores it), the caller puts the displaced entry in afterwards. -/
structure SiftedDown (cap : Nat) (b : List (Int × α)) (d : Int) (i : Nat)
    (buf' : List (Option (Int × α))) (b' : List (Int × α)) (i' : Nat) : Prop where
  rep : RepH cap buf' b' [i']
  lt : i' < b'.length
  length_eq : b'.length = b.length
  perm : ∀ e, (b'.set i' e).Perm (b.set i e)
  heap : HoleInv b i d → ∀ e : Int × α, e.1 = d → IsHeap (b'.set i' e)

theorem siftDown_spec {cap : Nat} (f : Nat) :
    ∀ (buf : List (Option (Int × α))) (b : List (Int × α)) (d : Int) (i : Nat),
    RepH cap buf b [i] → i < b.length → b.length - i ≤ f →
    ∃ buf' b' i', PQ.siftDown f buf b.length d i = .ok (buf', i') ∧
      SiftedDown cap b d i buf' b' i' := by
  induction f with
  | zero => intro _ b _ i _ hi hf; omega
  | succ f ih =>
    intro buf b d i hrep hi hf
    by_cases hleaf : 2 * i + 1 ≥ b.length
    · refine ⟨buf, b, i, siftDown_leaf buf d hleaf, hrep, hi, rfl, fun _ => .refl _,
        fun hinv e he => hinv.fill hi (fun j hj0 hjl hjp => ?_) he⟩
      have := (parent_eq_iff hj0).mp hjp; omega
    · obtain ⟨m, c, buf1, pk, hc, r1, hm, hmin⟩ := pickChild_spec hrep (by omega)
      have hml := (List.getElem?_eq_some_iff.mp hc).1
      have hm0 : 0 < m := by omega
      have hmi := (parent_eq_iff hm0).mpr hm
      have him : i < m := hmi ▸ parent_lt hm0
      replace hmin : ∀ j, 0 < j → j < b.length → parent j = i → pr b m ≤ pr b j :=
        fun j hj0 hjl hjp => hmin j hjl ((parent_eq_iff hj0).mp hjp)
      by_cases hle : d ≤ c.1
      · obtain ⟨p1, r2⟩ := r1.put_back hc (.refl _) (mt List.mem_singleton.mp (Nat.ne_of_gt him))
        refine ⟨_, b, i, siftDown_stop hleaf pk hle p1, r2, hi, rfl,
          fun _ => .refl _, fun hinv e he => hinv.fill hi (fun j hj0 hjl hjp => ?_) he⟩
        have := hmin j hj0 hjl hjp
        rw [pr_of_get hc] at this; omega
      · obtain ⟨p1, r2⟩ := r1.put c hi (.swap _ _ _) (mt List.mem_singleton.mp (Nat.ne_of_lt him))
        obtain ⟨buf', b', i', hs, o⟩ :=
          ih _ (b.set i c) d m r2 (by simpa using hml) (by simp; omega)
        rw [List.length_set] at hs
        refine ⟨buf', b', i', (siftDown_go hleaf pk hle p1).trans hs, o.rep, o.lt,
          o.length_eq.trans (List.length_set ..), fun e => (o.perm e).trans ?_,
          fun hinv => o.heap (hinv.descend hi hm0 hc hmi hmin (Int.not_le.mp hle))⟩
        -- `(b.set i c).set m e` is `b.set i e` with the cells `i` and `m` exchanged
        have := List.set_set_perm_of_getElem? (a := b.set i e) (i := i) (j := m) (x := e) (y := c) (by simp [hi])
          (by rw [List.getElem?_set]; simp [show i ≠ m by omega, hc])
        rwa [List.set_set] at this

/-! ### the queue operations on represented states -/

/-- a queue state represents the entry list `a` (heap array order).  Heap order is not part of it:
    the operations succeed and keep the multiset on every represented state (`capacity_panics`,
    `empty_panics` assume `Slots` only), so the lemmas below carry it as `IsHeap a → IsHeap a'`. -/
def PQRep (cap : Nat) (q : PQ α) (a : List (Int × α)) : Prop := q.size = a.length ∧ Rep cap q.buf a

theorem PQRep.empty (cap : Nat) : PQRep cap (PQ.empty cap : PQ α) [] := ⟨rfl, Rep.empty cap⟩

theorem PQ.push_of_full {cap : Nat} {q : PQ α} (hc : cap ≤ q.size) (v : α) (p : Int) :
    q.push cap v p = .error .capacity := by
  simp [PQ.push, show q.size ≥ cap from hc]

theorem PQ.pop_of_empty {q : PQ α} (h0 : q.size = 0) : q.pop = .error .empty := by
  simp [PQ.pop, h0, bind, Except.bind]

theorem PQ.peek_of_empty {q : PQ α} (h0 : q.size = 0) : q.peek = .error .empty := by
  simp [PQ.peek, h0]

theorem PQRep.push_ok {cap : Nat} {q : PQ α} {a : List (Int × α)} (h : PQRep cap q a)
    (hl : a.length < cap) (v : α) (p : Int) :
    ∃ q' a', q.push cap v p = .ok q' ∧ PQRep cap q' a' ∧ a'.Perm ((p, v) :: a) ∧
      (IsHeap a → IsHeap a') := by
  obtain ⟨hs, hr⟩ := h
  obtain ⟨p1, r1⟩ := hr.push hl (p, v)
  obtain ⟨buf', a', su, r2, hperm, hheap⟩ :=
    siftUp_spec (a.length + 1) _ _ a.length r1 (by simp) (by omega)
  rw [← hs] at p1 su
  refine ⟨_, a', PQ.push_eq (by omega) p1 su, ⟨?_, r2⟩, hperm.trans (List.perm_append_singleton _ _),
    fun hh => hheap (hh.heapExcept_snoc _)⟩
  simp [hperm.length_eq, hs]

theorem PQRep.next_empty {cap : Nat} {q : PQ α} (h : PQRep cap q []) : q.next = .ok none := by
  have hs : q.size = 0 := h.1
  simp [PQ.next, PQ.len, PQ.discardEmpty, hs, h.2.allNothing]

theorem PQRep.peek_ok {cap : Nat} {q : PQ α} {a : List (Int × α)} {r : Int × α} (h : PQRep cap q a)
    (hr0 : a[0]? = some r) : q.peek = .ok (r.1, r.2, q) := by
  obtain ⟨hs, hr⟩ := h
  have hl : 0 < a.length := (List.getElem?_eq_some_iff.mp hr0).1
  have h0 : ¬ q.size ≤ 0 := by omega
  have hg : q.buf[0]? = some (some r) := by rw [hr.get (Nat.lt_of_lt_of_le hl hr.le_cap), hr0]
  obtain ⟨rp, rv⟩ := r
  simp [PQ.peek, h0, read_of_get hg, unwrap]

theorem PQRep.pop_ok {cap : Nat} {q : PQ α} {a : List (Int × α)} {r : Int × α} (h : PQRep cap q a)
    (hr0 : a[0]? = some r) :
    ∃ q' a', q.pop = .ok (r.1, r.2, q') ∧ PQRep cap q' a' ∧ a.Perm (r :: a') ∧
      (IsHeap a → IsHeap a') := by
  obtain ⟨hs, hr⟩ := h
  have hl : 0 < a.length := (List.getElem?_eq_some_iff.mp hr0).1
  obtain ⟨t1, r1⟩ := RepH.take hr hr0 (by simp)
  by_cases hn : a.length = 1
  · obtain ⟨x, rfl⟩ := List.length_eq_one_iff.mp hn
    obtain rfl : x = r := Option.some.inj hr0
    exact ⟨_, [], PQ.pop_single hs t1, ⟨rfl, r1.dropLast (.refl _) List.not_mem_nil⟩, .refl _,
      fun _ j _ hj => absurd hj (Nat.not_lt_zero j)⟩
  · obtain ⟨n, hn2⟩ : ∃ n, a.length = n + 2 := ⟨a.length - 2, by omega⟩
    have hbl : a.dropLast.length = n + 1 := by simp [hn2]
    have hlast : a.length - 1 = n + 1 := by omega
    obtain ⟨de, hd⟩ : ∃ de, a[n + 1]? = some de := ⟨_, List.getElem?_eq_getElem (by omega)⟩
    have h0 : n + 1 ∉ [0] := mt List.mem_singleton.mp (Nat.succ_ne_zero n)
    obtain ⟨t2, r2⟩ := r1.take hd h0
    obtain ⟨buf', b', i', sd, o⟩ := siftDown_spec (n + 2) _ a.dropLast de.1 0
      (r2.dropLast (by rw [hlast]) (hlast ▸ h0)) (hbl ▸ Nat.succ_pos n) (by omega)
    obtain ⟨p1, r4⟩ := o.rep.put de o.lt (.refl _) List.not_mem_nil
    rw [hbl] at sd
    refine ⟨_, _, PQ.pop_sift (by omega) t1 t2 sd p1, ⟨by simp [o.length_eq, hbl], r4⟩,
      (List.perm_cons_set_dropLast hr0 (by rwa [hlast]) (by omega)).trans (.cons _ (o.perm de).symm),
      fun hh => o.heap (hh.dropLast.holeInv_root _) de rfl⟩

end GuppyVerif.Coll
