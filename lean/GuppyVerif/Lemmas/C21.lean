import GuppyVerif.Spec.C21
/-! The regular dispatch agrees with itself, and is what a traced left operand reaches (any tables); the constant-on-the-left
    shapes evaluated once. -/
namespace GuppyVerif.C21

theorem mem_allTys (t : NTy) : t ∈ allTys := by cases t <;> decide

theorem agree_regular (T : Tables) (op : Op) (a b : NTy) :
    Agree T op (some (regular T op a b)) (regular T op a b) = true := by
  unfold regular
  cases h : T.ops.lookup op with
  | none => rfl
  | some p =>
    -- either branch returns the table's own dunder with the matching operand order
    simp only
    split
    · simp [Agree, Sel.meaning, h]
    · split
      · simp [Agree, Sel.meaning, h]
      · rfl

theorem comptime_traced_left (T : Tables) (op : Op) (a : NTy) (r : Operand)
    (h : ∀ lop rop, T.ops.lookup op = some (lop, rop) →
      T.mixin.lookup lop = some (some lop, .binary) ∧ T.fwd.lookup lop = some rop) :
    comptime T op (.traced a) r = some (regular T op a r.ty) := by
  unfold comptime regular
  cases hl : T.ops.lookup op with
  | none => rfl
  | some p =>
    obtain ⟨hm, hf⟩ := h p.1 p.2 hl
    -- CPython calls the mixin's `lop` on the traced operand; by `hm` it tries the dunder of its own name on `[self, other]`,
    -- then by `hf` the checker's `rop` on `[other, self]`: the two attempts of `regular`, in its order
    simp only [wrapped, hm, hf]
    split <;> simp_all

theorem const_left_agree :
    ∀ op ∈ allOps, ∀ a ∈ constTys, ∀ b ∈ allTys,
      AgreeRefl a b (comptime tables op (.const a) (.traced b)) (regular tables op a b) = true ∧
      Agree tables op (comptime tables op (.const a) (.traced b)) (regular tables op a b) = true := by
  decide +kernel

theorem shapes_const_left :
    (shapes.all fun p => match p with
      | (.const a, .traced _) => constTys.contains a
      | (.const _, .const _) => false
      | _ => true) = true := by
  decide

end GuppyVerif.C21
