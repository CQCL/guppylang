import GuppyVerif.Lemmas.Basic
import GuppyVerif.Spec.C09
/-! What the worklists share.  The loop (`IsWorklist`: C09's two analyses and C10's `update_reachable`).  For C09's two,
    termination from a potential (`wlPot`): a pop either leaves the values alone and shrinks the queue, or flips one of
    finitely many (block, variable) memberships; each flips at most once because a variable moves one way only (`Toward`),
    and keeps doing so because the transfer functions are monotone variable by variable (`Approaches.step`).  And the
    argument that makes a stable result the path-based one, for one variable at a time (`Least`, `Solves`). -/
namespace GuppyVerif.Dataflow

theorem sameSet_iff (a b : List Nat) : sameSet a b = true ↔ SetEq a b := by
  unfold sameSet SetEq
  simp only [Bool.and_eq_true, List.all_eq_true, List.contains_iff_mem]
  constructor
  · rintro ⟨h1, h2⟩ x; exact ⟨h1 x, h2 x⟩
  · intro h; exact ⟨fun x hx => (h x).mp hx, fun x hx => (h x).mpr hx⟩

theorem exists_of_not_sameSet {a b : List Nat} (h : ¬ sameSet a b = true) : ∃ x, ¬ (x ∈ a ↔ x ∈ b) :=
  Classical.not_forall.mp fun hall => h ((sameSet_iff a b).mpr hall)

theorem mem_of_not_iff {a b U : List Nat} {x : Nat} (ha : ∀ x ∈ a, x ∈ U) (hb : ∀ x ∈ b, x ∈ U)
    (h : ¬ (x ∈ a ↔ x ∈ b)) : x ∈ U :=
  Classical.byCases (ha x) fun h1 =>
    hb x (Classical.not_not.mp fun h2 => h ⟨fun h => absurd h h1, fun h => absurd h h2⟩)

theorem upd_same {α : Type} (f : Blk → α) (b : Blk) (v : α) : upd f b v b = v := if_pos rfl

theorem upd_ne {α : Type} (f : Blk → α) {b c : Blk} (v : α) (h : c ≠ b) : upd f b v c = f c := if_neg h

theorem upd_forall {α : Type} {p : Blk → α → Prop} {f : Blk → α} {b : Blk} {v : α}
    (hf : ∀ c, p c (f c)) (hv : p b v) (c : Blk) : p c (upd f b v c) := by
  unfold upd
  split
  · rename_i h; exact h ▸ hv
  · exact hf c

def Diverges (R : Blk → Blk → Prop) (b : Blk) : Prop :=
  ∃ f : Nat → Blk, f 0 = b ∧ ∀ i, R (f i) (f (i + 1))

theorem exists_chain {S : Blk → Prop} {E : Blk → Blk → Prop} (next : ∀ c, S c → ∃ d, E c d ∧ S d)
    {b : Blk} (hb : S b) : Diverges E b := by
  let nx : {c // S c} → {c // S c} := fun c =>
    ⟨Classical.choose (next c.1 c.2), (Classical.choose_spec (next c.1 c.2)).2⟩
  let f : Nat → {c // S c} := fun i => Nat.rec ⟨b, hb⟩ (fun _ c => nx c) i
  exact ⟨fun i => (f i).1, rfl, fun i => (Classical.choose_spec (next (f i).1 (f i).2)).1⟩

/-- `Fin` is the least predicate closed under "`G` holds here, or one `R`-step leads to where `Fin` holds": the finite
    `R`-paths that end in `G` -/
structure Least (G : Blk → Prop) (R : Blk → Blk → Prop) (Fin : Blk → Prop) : Prop where
  intro : ∀ b, (G b ∨ ∃ c, R b c ∧ Fin c) → Fin b
  ind : ∀ v : Blk → Prop, (∀ b, (G b ∨ ∃ c, R b c ∧ v c) → v b) → ∀ b, Fin b → v b

theorem Diverges.tail {R : Blk → Blk → Prop} {b : Blk} (h : Diverges R b) : ∃ c, R b c ∧ Diverges R c := by
  obtain ⟨f, f0, hf⟩ := h
  exact ⟨f 1, f0 ▸ hf 0, fun i => f (i + 1), rfl, fun i => hf (i + 1)⟩

theorem Diverges.cons {R : Blk → Blk → Prop} {b c : Blk} (hr : R b c) (h : Diverges R c) : Diverges R b := by
  obtain ⟨f, rfl, hf⟩ := h
  exact ⟨fun i => match i with | 0 => b | i + 1 => f i, rfl, fun i => match i with | 0 => hr | i + 1 => hf i⟩

/-- on the blocks in `S`, `v` satisfies the equation of the analysis: what a run leaves when nothing is queued -/
def Solves (S G : Blk → Prop) (R : Blk → Blk → Prop) (v : Blk → Prop) : Prop :=
  ∀ b, S b → (v b ↔ G b ∨ ∃ c, R b c ∧ v c)

section
variable {S G Fin v : Blk → Prop} {R : Blk → Blk → Prop} {I : Prop}

theorem Least.unfold (hL : Least G R Fin) (b : Blk) : Fin b ↔ G b ∨ ∃ c, R b c ∧ Fin c :=
  ⟨hL.ind (fun b => G b ∨ ∃ c, R b c ∧ Fin c)
    (fun _ h => h.imp_right fun ⟨c, hr, hc⟩ => ⟨c, hr, hL.intro c hc⟩) b, hL.intro b⟩

theorem Solves.of_fin (hL : Least G R Fin) (hS : ∀ b c, S b → R b c → S c) (hv : Solves S G R v)
    {b : Blk} (h : Fin b) : S b → v b :=
  hL.ind (fun b => S b → v b)
    (fun b h hb => (hv b hb).mpr (h.imp_right fun ⟨c, hr, hc⟩ => ⟨c, hr, hc (hS b c hb hr)⟩)) b h

/-- what a solution holds beyond the finite paths lies on an infinite one: the blocks where it does are closed
    under "next" -/
theorem Solves.diverges (hL : Least G R Fin) (hS : ∀ b c, S b → R b c → S c) (hv : Solves S G R v)
    {b : Blk} (hb : S b) (hvb : v b) (hn : ¬ Fin b) : Diverges R b := by
  refine exists_chain (S := fun c => S c ∧ v c ∧ ¬ Fin c) ?_ ⟨hb, hvb, hn⟩
  rintro c ⟨hc, hvc, hnc⟩
  rcases (hv c hc).mp hvc with hg | ⟨d, hr, hd⟩
  · exact absurd (hL.intro c (.inl hg)) hnc
  · exact ⟨d, hr, hS c d hc hr, hd, fun hf => hnc (hL.intro c (.inr ⟨d, hr, hf⟩))⟩

/-- values below `I ∨ Fin` stay there when a block is recomputed from them -/
theorem Least.below (hL : Least G R Fin) (hv : ∀ c, v c → I ∨ Fin c) {b : Blk}
    (h : G b ∨ ∃ c, R b c ∧ v c) : I ∨ Fin b := by
  rcases h with hg | ⟨c, hr, hc⟩
  · exact .inr (hL.intro b (.inl hg))
  · exact (hv c hc).imp_right fun hf => hL.intro b (.inr ⟨c, hr, hf⟩)

/-- values that hold on every infinite path still do when a block is recomputed from them -/
theorem Diverges.above (hv : ∀ c, Diverges R c → v c) {b : Blk} (h : Diverges R b) : ∃ c, R b c ∧ v c :=
  let ⟨c, hr, hc⟩ := h.tail; ⟨c, hr, hv c hc⟩

/-- A solution that was kept below `I ∨ Fin` and, if `I`, holds on every infinite path is the path-based one.  (`I`: the
    variable was in the initial value of every block.) -/
theorem Solves.iff (hL : Least G R Fin) (hS : ∀ b c, S b → R b c → S c) (hv : Solves S G R v)
    (below : ∀ c, v c → I ∨ Fin c) (above : I → ∀ c, Diverges R c → v c) {b : Blk} (hb : S b) :
    v b ↔ Fin b ∨ (I ∧ Diverges R b) := by
  refine ⟨fun h => ?_, fun h => h.elim (hv.of_fin hL hS · hb) fun ⟨hi, hd⟩ => above hi b hd⟩
  by_cases hf : Fin b
  · exact .inl hf
  · exact .inr ⟨(below b h).resolve_right hf, hv.diverges hL hS hb h hf⟩

end

/-- `run` is the loop of `BackwardAnalysis.run` / `ForwardAnalysis.run` / `update_reachable`: pop what the scheduler
    picks (the head if the pick is not queued) until the queue is empty; `none` when the fuel runs out first.
    The model's loops satisfy both equations by `rfl`. -/
structure IsWorklist {σ : Type} (queue : σ → List Blk) (step : σ → Blk → σ) (sched : List Blk → Blk)
    (run : Nat → σ → Option σ) : Prop where
  zero : ∀ s, run 0 s = if (queue s).isEmpty then some s else none
  succ : ∀ fuel s, run (fuel + 1) s =
    match queue s with
    | [] => some s
    | h :: _ => run fuel (step s (if (queue s).contains (sched (queue s)) then sched (queue s) else h))

theorem liveRun_isWorklist (g : Cfg) (sched : List Blk → Blk) :
    IsWorklist LSt.queue (liveStep g) sched (liveRun g sched) := ⟨fun _ => rfl, fun _ _ => rfl⟩

theorem assRun_isWorklist (g : Cfg) (P : AParams) (sched : List Blk → Blk) :
    IsWorklist ASt.queue (assStep g P) sched (assRun g P sched) := ⟨fun _ => rfl, fun _ _ => rfl⟩

section
variable {σ : Type} {queue : σ → List Blk} {step : σ → Blk → σ} {sched : List Blk → Blk}
  {run : Nat → σ → Option σ}

theorem pick_mem (q : List Blk) (h : Blk) (t : List Blk) (hq : q = h :: t) :
    (if q.contains (sched q) then sched q else h) ∈ q := by
  split
  · rename_i hc; simpa using hc
  · rw [hq]; exact List.mem_cons_self

theorem IsWorklist.reach (hw : IsWorklist queue step sched run) {R : σ → σ → Prop} (hrefl : ∀ s, R s s)
    (hstep : ∀ {s t} b, b ∈ queue s → R (step s b) t → R s t) :
    ∀ (fuel : Nat) (s t : σ), run fuel s = some t → R s t ∧ queue t = [] := by
  intro fuel
  induction fuel with
  | zero =>
    intro s t h
    rw [hw.zero] at h
    split at h
    · cases h; exact ⟨hrefl _, by simpa using ‹(queue s).isEmpty = true›⟩
    · cases h
  | succ n ih =>
    intro s t h
    rw [hw.succ] at h
    split at h
    · cases h; exact ⟨hrefl _, ‹queue s = []›⟩
    · obtain ⟨hr, he⟩ := ih _ _ h
      exact ⟨hstep _ (pick_mem _ _ _ ‹_›) hr, he⟩

theorem IsWorklist.isSome (hw : IsWorklist queue step sched run) {Inv : σ → Prop} {pot : σ → Nat}
    (hstep : ∀ s b, Inv s → b ∈ queue s → Inv (step s b) ∧ pot (step s b) < pot s) :
    ∀ (fuel : Nat) (s : σ), Inv s → pot s ≤ fuel → (run fuel s).isSome = true := by
  intro fuel
  induction fuel with
  | zero =>
    intro s hi hp
    rw [hw.zero]
    cases hq : queue s with
    | nil => rfl
    | cons c q =>
      -- a pop would push the potential below `0`
      have := (hstep s c hi (hq ▸ List.mem_cons_self)).2
      omega
  | succ n ih =>
    intro s hi hp
    rw [hw.succ]
    split
    · rfl
    · have := hstep s _ hi (pick_mem (sched := sched) _ _ _ ‹_›)
      exact ih _ this.1 (by omega)

theorem replay_reach {replay : σ → List Blk → Option σ} (h0 : ∀ s, replay s [] = some s)
    (hS : ∀ s b rest, replay s (b :: rest) = if (queue s).contains b then replay (step s b) rest else none)
    {R : σ → σ → Prop} (hrefl : ∀ s, R s s) (hstep : ∀ {s t} b, b ∈ queue s → R (step s b) t → R s t) :
    ∀ (seq : List Blk) (s t : σ), replay s seq = some t → R s t := by
  intro seq
  induction seq with
  | nil => intro s t h; rw [h0] at h; cases h; exact hrefl _
  | cons b rest ih =>
    intro s t h
    rw [hS] at h
    split at h
    · exact hstep b (by simpa using ‹(queue s).contains b = true›) (ih _ _ h)
    · cases h

end

theorem liveReplay_reach (g : Cfg) :
    ∀ (seq : List Blk) (s t : LSt), liveReplay g s seq = some t → LReach g s t :=
  replay_reach (queue := LSt.queue) (step := liveStep g) (fun _ => rfl) (fun _ _ _ => rfl) LReach.refl
    fun b => LReach.step b

theorem assReplay_reach (g : Cfg) (P : AParams) :
    ∀ (seq : List Blk) (s t : ASt), assReplay g P s seq = some t → AReach g P s t :=
  replay_reach (queue := ASt.queue) (step := assStep g P) (fun _ => rfl) (fun _ _ _ => rfl) AReach.refl
    fun b => AReach.step b

/-- what can still flip in the values weighs `|blocks| + 1` each, a queued block weighs one -/
def wlPot (blocks : List Blk) (flips : Nat) (queue : List Blk) : Nat :=
  flips * (blocks.length + 1) + blocks.countP fun b => queue.contains b

theorem wlPot_pop {blocks q : List Blk} {b : Blk} (k : Nat) (hb : b ∈ blocks) (hq : b ∈ q) :
    wlPot blocks k (q.filter (· != b)) < wlPot blocks k q := by
  have : blocks.countP (fun c => (q.filter (· != b)).contains c) < blocks.countP (fun c => q.contains c) := by
    apply List.countP_lt_countP
    · intro c _ hc
      simp only [List.contains_iff_mem] at hc ⊢
      exact (List.mem_filter_bne.mp hc).1
    · refine ⟨b, hb, by simpa using hq, ?_⟩
      simp [List.mem_filter]
  unfold wlPot
  omega

theorem wlPot_le {k m : Nat} (blocks q : List Blk) (h : k ≤ m) :
    wlPot blocks k q ≤ (m + 1) * (blocks.length + 1) := by
  have hq : blocks.countP (fun b => q.contains b) ≤ blocks.length := List.countP_le_length
  have := Nat.mul_le_mul_right (blocks.length + 1) h
  unfold wlPot
  rw [Nat.add_mul]
  omega

theorem wlPot_flip {k k' : Nat} (blocks q q' : List Blk) (h : k' < k) :
    wlPot blocks k' q' < wlPot blocks k q := by
  have hq : blocks.countP (fun b => q'.contains b) ≤ blocks.length := List.countP_le_length
  have := Nat.mul_le_mul_right (blocks.length + 1) (Nat.succ_le_of_lt h)
  rw [Nat.succ_mul] at this
  unfold wlPot
  omega

structure Toward (dn : Var → Bool) (old new : List Var) : Prop where
  dec : ∀ x, dn x = true → x ∈ new → x ∈ old
  inc : ∀ x, dn x = false → x ∈ old → x ∈ new

/-- the membership of `p.2` in the value at `p.1` can still flip -/
def pend (dn : Var → Bool) (v : Blk → List Var) (p : Blk × Var) : Bool := dn p.2 == (v p.1).contains p.2

theorem pend_iff {dn : Var → Bool} {v : Blk → List Var} {c : Blk} {x : Var} :
    pend dn v (c, x) = true ↔ (dn x = true ↔ x ∈ v c) := by
  unfold pend
  rw [beq_iff_eq, Bool.eq_iff_iff, List.contains_iff_mem]

theorem mem_pairs {bs : List Blk} {U : List Var} {b : Blk} {x : Var} (hb : b ∈ bs) (hx : x ∈ U) :
    (b, x) ∈ bs.flatMap fun b => U.map fun x => (b, x) :=
  List.mem_flatMap.mpr ⟨b, hb, List.mem_map.mpr ⟨x, hx, rfl⟩⟩

/-- a value that moves the allowed way never raises the number of memberships still to flip, and lowers it when a
    membership at `b` changes -/
theorem countP_pend_upd {dn : Var → Bool} {v : Blk → List Var} {b : Blk} {nb : List Var}
    (hT : Toward dn (v b) nb) (pairs : List (Blk × Var)) :
    pairs.countP (pend dn (upd v b nb)) ≤ pairs.countP (pend dn v) ∧
      ∀ x, (b, x) ∈ pairs → ¬ (x ∈ v b ↔ x ∈ nb) →
        pairs.countP (pend dn (upd v b nb)) < pairs.countP (pend dn v) := by
  have himp : ∀ p ∈ pairs, pend dn (upd v b nb) p = true → pend dn v p = true := by
    rintro ⟨c, x⟩ _
    simp only [pend_iff]
    refine upd_forall (p := fun c l => (dn x = true ↔ x ∈ l) → (dn x = true ↔ x ∈ v c))
      (fun _ h => h) (fun h => ?_) c
    cases hd : dn x
    · exact ⟨fun h' => (nomatch h'), fun hx => (hd ▸ h).mpr (hT.inc x hd hx)⟩
    · exact ⟨fun _ => hT.dec x hd ((hd ▸ h).mp rfl), fun _ => rfl⟩
  refine ⟨List.countP_mono_left himp, fun x hx hne => List.countP_lt_countP himp ⟨(b, x), hx, ?_⟩⟩
  rw [← Bool.not_eq_true, pend_iff, pend_iff, upd_same]
  cases hd : dn x
  · have h1 : x ∉ v b := fun h1 => hne ⟨fun _ => hT.inc x hd h1, fun _ => h1⟩
    exact ⟨⟨fun h => (nomatch h), fun h => absurd h h1⟩,
      fun h => hne ⟨fun h' => absurd h' h1, fun h' => nomatch h.mpr h'⟩⟩
  · have h2 : x ∉ nb := fun h2 => hne ⟨fun _ => h2, fun _ => hT.dec x hd h2⟩
    exact ⟨⟨fun _ => Classical.not_not.mp fun h1 => hne ⟨fun h => absurd h h1, fun h => absurd h h2⟩,
      fun _ => rfl⟩, fun h => h2 (h.mp rfl)⟩

def Approaches (dn : Var → Bool) (bs : List Blk) (F : (Blk → List Var) → Blk → List Var)
    (v : Blk → List Var) : Prop :=
  ∀ b ∈ bs, Toward dn (v b) (F v b)

/-- the values went the allowed way, so (`hF`) `F` of them did too -/
theorem Approaches.step {dn : Var → Bool} {bs : List Blk} {F : (Blk → List Var) → Blk → List Var}
    {v : Blk → List Var} {b : Blk}
    (hF : ∀ x (v w : Blk → List Var), (∀ c, x ∈ v c → x ∈ w c) → ∀ c, x ∈ F v c → x ∈ F w c)
    (h : Approaches dn bs F v) (hb : b ∈ bs) : Approaches dn bs F (upd v b (F v b)) := by
  intro c hc
  constructor
  · intro x hd hx
    have down : ∀ c, x ∈ upd v b (F v b) c → x ∈ v c :=
      upd_forall (p := fun c l => x ∈ l → x ∈ v c) (fun _ h => h) ((h b hb).dec x hd)
    have hx' : x ∈ F v c := hF x _ _ down c hx
    exact upd_forall (p := fun c l => c ∈ bs → x ∈ F v c → x ∈ l) (fun c hc => (h c hc).dec x hd)
      (fun _ h => h) c hc hx'
  · intro x hd hx
    have up : ∀ c, x ∈ v c → x ∈ upd v b (F v b) c :=
      upd_forall (p := fun c l => x ∈ v c → x ∈ l) (fun _ h => h) ((h b hb).inc x hd)
    refine hF x _ _ up c ?_
    exact upd_forall (p := fun c l => c ∈ bs → x ∈ l → x ∈ F v c) (fun c hc => (h c hc).inc x hd)
      (fun _ h => h) c hc hx

end GuppyVerif.Dataflow
