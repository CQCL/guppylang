import GuppyVerif.Lemmas.Basic
import GuppyVerif.Spec.C24
/-! The checker's error lists are non-empty exactly where the occurrence
relations of `Spec/C24.lean` find something bad, one syntax constructor at a time. -/
namespace GuppyVerif.Unitary

theorem FlagKind.forall {P : FlagKind → Prop} : (∀ k, P k) ↔ P .control ∧ P .dagger ∧ P .power :=
  ⟨fun h => ⟨h _, h _, h _⟩, fun ⟨a, b, c⟩ k => by cases k <;> assumption⟩

theorem Flags.inn_iff (F g : Flags) : F.inn g = true ↔ g.Includes F := by
  simp only [Flags.inn, Flags.and, Flags.Includes, FlagKind.forall, Flags.has]
  rcases F with ⟨a, b, c⟩
  simp only [Flags.mk.injEq, Bool.and_eq_left_iff_imp, decide_eq_true_eq]

theorem Args.mem_cons_iff {x e : Expr} {r : Args} : Args.Mem x (.cons e r) ↔ x = e ∨ Args.Mem x r := by
  constructor
  · intro h; cases h with
    | head => exact .inl rfl
    | tail h => exact .inr h
  · rintro (rfl | h)
    · exact .head
    · exact .tail h

theorem Args.not_mem_nil {x : Expr} : ¬ Args.Mem x .nil := by intro h; cases h

theorem Args.anyQubit_iff : (as : Args) → (as.anyQubit = true ↔ as.PassesQubit)
  | .nil => by simp [Args.anyQubit, Args.PassesQubit, Args.not_mem_nil]
  | .cons e r => by
    simp only [Args.anyQubit, Bool.or_eq_true, Args.anyQubit_iff r, Args.PassesQubit, Args.mem_cons_iff,
      or_and_right, exists_or, exists_eq_left]

/-- the expressions directly below a node into which `Sub` descends -/
def Expr.children : Expr → Args
  | .place _ is => is
  | .call _ args _ => args
  | .node cs _ => cs
  | _ => .nil

theorem sub_iff {x e : Expr} : Sub x e ↔ x = e ∨ ∃ a, Args.Mem a e.children ∧ Sub x a := by
  constructor
  · intro h
    cases h with
    | refl => exact .inl rfl
    | call hm hs | node hm hs | idx hm hs => exact .inr ⟨_, hm, hs⟩
  · rintro (rfl | ⟨a, hm, hs⟩)
    · exact .refl
    · cases e with
      | leaf | exempt => cases hm
      | place => exact .idx hm hs
      | call => exact .call hm hs
      | node => exact .node hm hs

/-- what makes the node itself bad -/
def BadHere (F : Flags) : Expr → Prop
  | .call g args _ => args.PassesQubit ∧ ¬ g.Includes F
  | .place _ is => F.dagger = true ∧ is.isNil = false
  | _ => False

theorem badE_iff (F : Flags) (e : Expr) :
    BadE F e ↔ BadHere F e ∨ ∃ a, Args.Mem a e.children ∧ BadE F a := by
  constructor
  · rintro (⟨g, a, r, h, hq, hi⟩ | ⟨hd, q, is, hn, h⟩)
    · rcases sub_iff.mp h with rfl | ⟨b, hm, hs⟩
      · exact .inl ⟨hq, hi⟩
      · exact .inr ⟨b, hm, .inl ⟨g, a, r, hs, hq, hi⟩⟩
    · rcases sub_iff.mp h with rfl | ⟨b, hm, hs⟩
      · exact .inl ⟨hd, hn⟩
      · exact .inr ⟨b, hm, .inr ⟨hd, q, is, hn, hs⟩⟩
  · rintro (h | ⟨b, hm, (⟨g, a, r, hs, hq, hi⟩ | ⟨hd, q, is, hn, hs⟩)⟩)
    · cases e with
      | call g a r => exact .inl ⟨g, a, r, .refl, h⟩
      | place q is => exact .inr ⟨h.1, q, is, h.2, .refl⟩
      | leaf | exempt | node => exact h.elim
    · exact .inl ⟨g, a, r, sub_iff.mpr (.inr ⟨b, hm, hs⟩), hq, hi⟩
    · exact .inr ⟨hd, q, is, hn, sub_iff.mpr (.inr ⟨b, hm, hs⟩)⟩

mutual
theorem errsExpr_ne_nil (F : Flags) : (e : Expr) → (errsExpr F e ≠ [] ↔ BadE F e)
  | .leaf => by rw [badE_iff]; simp [errsExpr, BadHere, Expr.children, Args.not_mem_nil]
  | .place q is => by
    rw [badE_iff, errsExpr, List.append_ne_nil_iff, errsArgs_ne_nil F is]
    simp only [BadHere, Expr.children]
    cases hd : F.dagger <;> cases hn : is.isNil <;> simp
  | .call g args r => by
    rw [badE_iff, errsExpr, List.append_ne_nil_iff, errsArgs_ne_nil F args]
    simp only [BadHere, Expr.children, ← Args.anyQubit_iff, ← Flags.inn_iff]
    cases args.anyQubit <;> cases F.inn g <;> simp
  | .exempt as => by rw [badE_iff]; simp [errsExpr, BadHere, Expr.children, Args.not_mem_nil]
  | .node cs q => by
    rw [badE_iff, errsExpr, errsArgs_ne_nil F cs]
    simp only [BadHere, Expr.children, false_or]
theorem errsArgs_ne_nil (F : Flags) : (as : Args) → (errsArgs F as ≠ [] ↔ ∃ a, Args.Mem a as ∧ BadE F a)
  | .nil => by
    simp only [errsArgs, ne_eq, not_true_eq_false, false_iff]
    rintro ⟨a, h, _⟩; exact Args.not_mem_nil h
  | .cons e r => by
    rw [errsArgs, List.append_ne_nil_iff, errsExpr_ne_nil F e, errsArgs_ne_nil F r]
    constructor
    · rintro (h | ⟨a, hm, hb⟩)
      · exact ⟨e, .head, h⟩
      · exact ⟨a, .tail hm, hb⟩
    · rintro ⟨a, hm, hb⟩
      rcases Args.mem_cons_iff.mp hm with rfl | hm
      · exact .inl hb
      · exact .inr ⟨a, hm, hb⟩
end

/-- `Violates` (Spec/C24.lean) for a single statement -/
def VS (F : Flags) (s : Stmt) : Prop :=
  (∃ F' e, SiteS F s F' e ∧ BadE F' e) ∨
    (∃ F', F'.dagger = true ∧ (LoopAtS F s F' ∨ AssignAtS F s F'))

theorem or_dagger (F G : Flags) : (F.or G).dagger = true ↔ (F.dagger = true ∨ G.dagger = true) := by
  simp [Flags.or]

mutual
theorem shallow_deepS : (s : Stmt) → s.hasAssignShallow = true → s.hasAssign = true
  | .expr _ => by simp [Stmt.hasAssignShallow]
  | .assign _ _ => by simp [Stmt.hasAssign]
  | .ite _ t f => by
    simp only [Stmt.hasAssignShallow, Stmt.hasAssign, Bool.or_eq_true]
    rintro (h | h)
    · exact .inl (shallow_deepB t h)
    · exact .inr (shallow_deepB f h)
  | .while _ b => by
    simp only [Stmt.hasAssignShallow, Stmt.hasAssign]
    exact shallow_deepB b
  | .withBlock _ _ _ => by simp [Stmt.hasAssignShallow]
theorem shallow_deepB : (b : Block) → b.hasAssignShallow = true → b.hasAssign = true
  | .nil => by simp [Block.hasAssignShallow]
  | .cons s r => by
    simp only [Block.hasAssignShallow, Block.hasAssign, Bool.or_eq_true]
    rintro (h | h)
    · exact .inl (shallow_deepS s h)
    · exact .inr (shallow_deepB r h)
end

mutual
theorem assign_errsS (F : Flags) (hd : F.dagger = true) :
    (s : Stmt) → s.hasAssign = true → errsStmt F s ≠ []
  | .expr _ => by simp [Stmt.hasAssign]
  | .assign _ _ => by simp [errsStmt, hd]
  | .ite c t f => by
    simp only [Stmt.hasAssign, Bool.or_eq_true, errsStmt]
    rintro (h | h)
    · rw [List.append_ne_nil_iff, List.append_ne_nil_iff]; exact .inl (.inr (assign_errsB F hd t h))
    · rw [List.append_ne_nil_iff]; exact .inr (assign_errsB F hd f h)
  | .while c b => by
    simp only [Stmt.hasAssign, errsStmt]
    intro h; rw [List.append_ne_nil_iff]; exact .inr (assign_errsB F hd b h)
  | .withBlock cargs G b => by
    simp only [Stmt.hasAssign, errsStmt]
    intro h; rw [List.append_ne_nil_iff]
    exact .inr (assign_errsB (F.or G) ((or_dagger F G).mpr (.inl hd)) b h)
theorem assign_errsB (F : Flags) (hd : F.dagger = true) :
    (b : Block) → b.hasAssign = true → errsBlock F b ≠ []
  | .nil => by simp [Block.hasAssign]
  | .cons s r => by
    simp only [Block.hasAssign, Bool.or_eq_true, errsBlock]
    rintro (h | h)
    · rw [List.append_ne_nil_iff]; exact .inl (assign_errsS F hd s h)
    · rw [List.append_ne_nil_iff]; exact .inr (assign_errsB F hd r h)
end

theorem prepassWith_ne_none (G : Flags) (b : Block) :
    (prepassWith G b).toList ≠ [] ↔
      (G.dagger = true ∧ (b.hasLoop = true ∨ b.hasAssignShallow = true)) := by
  unfold prepassWith
  cases G.dagger <;> cases b.hasLoop <;> cases b.hasAssignShallow <;> simp

theorem vs_with_iff (F G : Flags) (cargs : Args) (b : Block) :
    VS F (.withBlock cargs G b) ↔ (∃ a, Args.Mem a cargs ∧ BadE F a) ∨ Violates (F.or G) b := by
  unfold VS Violates
  constructor
  · rintro (⟨F', e, hs, hb⟩ | ⟨F', hd, (hl | ha)⟩)
    · cases hs with
      | withArg hm => exact .inl ⟨e, hm, hb⟩
      | withBody h => exact .inr (.inl ⟨F', e, h, hb⟩)
    · cases hl with
      | withBody h => exact .inr (.inr ⟨F', hd, .inl h⟩)
    · cases ha with
      | withBody h => exact .inr (.inr ⟨F', hd, .inr h⟩)
  · rintro (⟨a, hm, hb⟩ | (⟨F', e, hs, hb⟩ | ⟨F', hd, (hl | ha)⟩))
    · exact .inl ⟨F, a, .withArg hm, hb⟩
    · exact .inl ⟨F', e, .withBody hs, hb⟩
    · exact .inr ⟨F', hd, .inl (.withBody hl)⟩
    · exact .inr ⟨F', hd, .inr (.withBody ha)⟩

theorem vs_ite_iff (F : Flags) (c : Expr) (t f : Block) :
    VS F (.ite c t f) ↔ BadE F c ∨ Violates F t ∨ Violates F f := by
  unfold VS Violates
  constructor
  · rintro (⟨F', e, hs, hb⟩ | ⟨F', hd, (hl | ha)⟩)
    · cases hs with
      | iteC => exact .inl hb
      | iteT h => exact .inr (.inl (.inl ⟨F', e, h, hb⟩))
      | iteF h => exact .inr (.inr (.inl ⟨F', e, h, hb⟩))
    · cases hl with
      | iteT h => exact .inr (.inl (.inr ⟨F', hd, .inl h⟩))
      | iteF h => exact .inr (.inr (.inr ⟨F', hd, .inl h⟩))
    · cases ha with
      | iteT h => exact .inr (.inl (.inr ⟨F', hd, .inr h⟩))
      | iteF h => exact .inr (.inr (.inr ⟨F', hd, .inr h⟩))
  · rintro (hb | (⟨F', e, hs, hb⟩ | ⟨F', hd, (hl | ha)⟩) | (⟨F', e, hs, hb⟩ | ⟨F', hd, (hl | ha)⟩))
    · exact .inl ⟨F, c, .iteC, hb⟩
    · exact .inl ⟨F', e, .iteT hs, hb⟩
    · exact .inr ⟨F', hd, .inl (.iteT hl)⟩
    · exact .inr ⟨F', hd, .inr (.iteT ha)⟩
    · exact .inl ⟨F', e, .iteF hs, hb⟩
    · exact .inr ⟨F', hd, .inl (.iteF hl)⟩
    · exact .inr ⟨F', hd, .inr (.iteF ha)⟩

theorem vs_while_iff (F : Flags) (c : Expr) (b : Block) :
    VS F (.while c b) ↔ F.dagger = true ∨ BadE F c ∨ Violates F b := by
  unfold VS Violates
  constructor
  · rintro (⟨F', e, hs, hb⟩ | ⟨F', hd, (hl | ha)⟩)
    · cases hs with
      | whileC => exact .inr (.inl hb)
      | whileB h => exact .inr (.inr (.inl ⟨F', e, h, hb⟩))
    · cases hl with
      | here => exact .inl hd
      | whileB h => exact .inr (.inr (.inr ⟨F', hd, .inl h⟩))
    · cases ha with
      | whileB h => exact .inr (.inr (.inr ⟨F', hd, .inr h⟩))
  · rintro (hd | hb | (⟨F', e, hs, hb⟩ | ⟨F', hd, (hl | ha)⟩))
    · exact .inr ⟨F, hd, .inl .here⟩
    · exact .inl ⟨F, c, .whileC, hb⟩
    · exact .inl ⟨F', e, .whileB hs, hb⟩
    · exact .inr ⟨F', hd, .inl (.whileB hl)⟩
    · exact .inr ⟨F', hd, .inr (.whileB ha)⟩

theorem vs_expr_iff (F : Flags) (e : Expr) : VS F (.expr e) ↔ BadE F e := by
  unfold VS
  constructor
  · rintro (⟨F', e', hs, hb⟩ | ⟨F', hd, (hl | ha)⟩)
    · cases hs; exact hb
    · cases hl
    · cases ha
  · intro h; exact .inl ⟨F, e, .expr, h⟩

theorem vs_assign_iff (F : Flags) (t : Expr) (v : Option Expr) :
    VS F (.assign t v) ↔ F.dagger = true ∨ (∃ e, v = some e ∧ BadE F e) ∨ BadE F t := by
  unfold VS
  constructor
  · rintro (⟨F', e', hs, hb⟩ | ⟨F', hd, (hl | ha)⟩)
    · cases hs with
      | assign => exact .inr (.inl ⟨e', rfl, hb⟩)
      | assignT => exact .inr (.inr hb)
    · cases hl
    · cases ha; exact .inl hd
  · rintro (hd | ⟨e, rfl, hb⟩ | hb)
    · exact .inr ⟨F, hd, .inr .here⟩
    · exact .inl ⟨F, e, .assign, hb⟩
    · exact .inl ⟨F, t, .assignT, hb⟩

theorem violates_nil (F : Flags) : ¬ Violates F .nil := by
  rintro (⟨F', e, hs, _⟩ | ⟨F', _, (h | h)⟩)
  · cases hs
  · cases h
  · cases h

theorem violates_cons_iff (F : Flags) (s : Stmt) (r : Block) :
    Violates F (.cons s r) ↔ VS F s ∨ Violates F r := by
  unfold VS Violates
  constructor
  · rintro (⟨F', e, hs, hb⟩ | ⟨F', hd, (hl | ha)⟩)
    · cases hs with
      | head h => exact .inl (.inl ⟨F', e, h, hb⟩)
      | tail h => exact .inr (.inl ⟨F', e, h, hb⟩)
    · cases hl with
      | head h => exact .inl (.inr ⟨F', hd, .inl h⟩)
      | tail h => exact .inr (.inr ⟨F', hd, .inl h⟩)
    · cases ha with
      | head h => exact .inl (.inr ⟨F', hd, .inr h⟩)
      | tail h => exact .inr (.inr ⟨F', hd, .inr h⟩)
  · rintro ((⟨F', e, hs, hb⟩ | ⟨F', hd, (hl | ha)⟩) | (⟨F', e, hs, hb⟩ | ⟨F', hd, (hl | ha)⟩))
    · exact .inl ⟨F', e, .head hs, hb⟩
    · exact .inr ⟨F', hd, .inl (.head hl)⟩
    · exact .inr ⟨F', hd, .inr (.head ha)⟩
    · exact .inl ⟨F', e, .tail hs, hb⟩
    · exact .inr ⟨F', hd, .inl (.tail hl)⟩
    · exact .inr ⟨F', hd, .inr (.tail ha)⟩

/-- what rejects a block, on the checker's side: below a dagger a loop occurs, or the block visit reports -/
def Rejects (F : Flags) (b : Block) : Prop := (F.dagger = true ∧ b.hasLoop = true) ∨ errsBlock F b ≠ []

mutual
/-- `Rejects`, spelled out for a statement, is exactly the specification predicate -/
theorem mainS : (F : Flags) → (s : Stmt) →
    (((F.dagger = true ∧ s.hasLoop = true) ∨ errsStmt F s ≠ []) ↔ VS F s)
  | F, .expr e => by
    rw [vs_expr_iff, errsStmt, errsExpr_ne_nil]
    simp [Stmt.hasLoop]
  | F, .assign t v => by
    rw [vs_assign_iff]
    simp only [Stmt.hasLoop, Bool.false_eq_true, and_false, false_or, errsStmt]
    cases hd : F.dagger
    · cases v with
      | none => simp [errsExpr_ne_nil]
      | some e =>
        simp only [Bool.false_eq_true, ↓reduceIte, false_or, Option.some.injEq, exists_eq_left']
        rw [List.append_ne_nil_iff, errsExpr_ne_nil, errsExpr_ne_nil]
    · simp
  | F, .ite c t f => by
    rw [vs_ite_iff, ← mainB F t, ← mainB F f, Rejects, Rejects, errsStmt, List.append_ne_nil_iff, List.append_ne_nil_iff,
      errsExpr_ne_nil]
    simp only [Stmt.hasLoop, Bool.or_eq_true]
    grind
  | F, .while c b => by
    rw [vs_while_iff, ← mainB F b, Rejects, errsStmt, List.append_ne_nil_iff, errsExpr_ne_nil]
    simp only [Stmt.hasLoop, and_true]
    grind
  | F, .withBlock cargs G b => by
    rw [vs_with_iff, ← mainB (F.or G) b, Rejects, errsStmt, List.append_ne_nil_iff, List.append_ne_nil_iff,
      errsArgs_ne_nil, prepassWith_ne_none, or_dagger]
    simp only [Stmt.hasLoop]
    constructor
    · rintro (⟨hd, h⟩ | ((h | ⟨hg, (h | h)⟩) | h))
      · exact .inr (.inl ⟨.inl hd, h⟩)
      · exact .inl h
      · exact .inr (.inl ⟨.inr hg, h⟩)
      · exact .inr (.inr (assign_errsB (F.or G) ((or_dagger F G).mpr (.inr hg)) b (shallow_deepB b h)))
      · exact .inr (.inr h)
    · rintro (h | (⟨(hd | hg), h⟩ | h))
      · exact .inr (.inl (.inl h))
      · exact .inl ⟨hd, h⟩
      · exact .inr (.inl (.inr ⟨hg, .inl h⟩))
      · exact .inr (.inr h)
theorem mainB : (F : Flags) → (b : Block) → (Rejects F b ↔ Violates F b)
  | F, .nil => by
    simp only [Rejects, Block.hasLoop, Bool.false_eq_true, and_false, errsBlock, ne_eq, not_true_eq_false,
      or_self, false_iff]
    exact violates_nil F
  | F, .cons s r => by
    rw [violates_cons_iff, ← mainS F s, ← mainB F r, Rejects, Rejects, errsBlock, List.append_ne_nil_iff]
    simp only [Block.hasLoop, Bool.or_eq_true]
    grind
end

mutual
theorem loopAt_of_hasLoopS : (F : Flags) → (s : Stmt) → s.hasLoop = true → ∃ F', LoopAtS F s F'
  | F, .expr _, h => by simp [Stmt.hasLoop] at h
  | F, .assign _ _, h => by simp [Stmt.hasLoop] at h
  | F, .ite c t f, h => by
    simp only [Stmt.hasLoop, Bool.or_eq_true] at h
    rcases h with h | h
    · obtain ⟨F', h'⟩ := loopAt_of_hasLoopB F t h; exact ⟨F', .iteT h'⟩
    · obtain ⟨F', h'⟩ := loopAt_of_hasLoopB F f h; exact ⟨F', .iteF h'⟩
  | F, .while c b, _ => ⟨F, .here⟩
  | F, .withBlock cargs G b, h => by
    simp only [Stmt.hasLoop] at h
    obtain ⟨F', h'⟩ := loopAt_of_hasLoopB (F.or G) b h; exact ⟨F', .withBody h'⟩
theorem loopAt_of_hasLoopB : (F : Flags) → (b : Block) → b.hasLoop = true → ∃ F', LoopAtB F b F'
  | F, .nil, h => by simp [Block.hasLoop] at h
  | F, .cons s r, h => by
    simp only [Block.hasLoop, Bool.or_eq_true] at h
    rcases h with h | h
    · obtain ⟨F', h'⟩ := loopAt_of_hasLoopS F s h; exact ⟨F', .head h'⟩
    · obtain ⟨F', h'⟩ := loopAt_of_hasLoopB F r h; exact ⟨F', .tail h'⟩
end

mutual
theorem assignAt_of_hasAssignS : (F : Flags) → (s : Stmt) → s.hasAssign = true → ∃ F', AssignAtS F s F'
  | F, .expr _, h => by simp [Stmt.hasAssign] at h
  | F, .assign _ _, _ => ⟨F, .here⟩
  | F, .ite c t f, h => by
    simp only [Stmt.hasAssign, Bool.or_eq_true] at h
    rcases h with h | h
    · obtain ⟨F', h'⟩ := assignAt_of_hasAssignB F t h; exact ⟨F', .iteT h'⟩
    · obtain ⟨F', h'⟩ := assignAt_of_hasAssignB F f h; exact ⟨F', .iteF h'⟩
  | F, .while c b, h => by
    simp only [Stmt.hasAssign] at h
    obtain ⟨F', h'⟩ := assignAt_of_hasAssignB F b h; exact ⟨F', .whileB h'⟩
  | F, .withBlock cargs G b, h => by
    simp only [Stmt.hasAssign] at h
    obtain ⟨F', h'⟩ := assignAt_of_hasAssignB (F.or G) b h; exact ⟨F', .withBody h'⟩
theorem assignAt_of_hasAssignB : (F : Flags) → (b : Block) → b.hasAssign = true → ∃ F', AssignAtB F b F'
  | F, .nil, h => by simp [Block.hasAssign] at h
  | F, .cons s r, h => by
    simp only [Block.hasAssign, Bool.or_eq_true] at h
    rcases h with h | h
    · obtain ⟨F', h'⟩ := assignAt_of_hasAssignS F s h; exact ⟨F', .head h'⟩
    · obtain ⟨F', h'⟩ := assignAt_of_hasAssignB F r h; exact ⟨F', .tail h'⟩
end

theorem prepassFn_go_ne_none :
    (b : Block) → (prepassFn.go b ≠ none ↔ (b.hasLoop = true ∨ b.hasAssign = true))
  | .nil => by simp [prepassFn.go, Block.hasLoop, Block.hasAssign]
  | .cons s r => by
    have ih := prepassFn_go_ne_none r
    unfold prepassFn.go
    simp only [Block.hasLoop, Block.hasAssign, Bool.or_eq_true]
    cases s.hasLoop <;> cases s.hasAssign <;> simp [ih]

theorem prepassFn_go_some (e : Err) : (b : Block) → prepassFn.go b = some e →
    (e = .loop ∧ b.hasLoop = true) ∨ (e = .assign ∧ b.hasAssign = true)
  | .nil => by simp [prepassFn.go]
  | .cons s r => by
    have ih := prepassFn_go_some e r
    unfold prepassFn.go
    simp only [Block.hasLoop, Block.hasAssign, Bool.or_eq_true]
    intro h
    split at h
    · cases h; exact .inl ⟨rfl, .inl ‹_›⟩
    · split at h
      · cases h; exact .inr ⟨rfl, .inl ‹_›⟩
      · exact (ih h).imp (fun x => ⟨x.1, .inr x.2⟩) (fun x => ⟨x.1, .inr x.2⟩)

theorem prepass_ne_none (k : Kind) (F : Flags) (b : Block) :
    prepass k F b ≠ none ↔
      (F.dagger = true ∧ (b.hasLoop = true ∨
        (match k with | .fn => b.hasAssign | .withBlock => b.hasAssignShallow) = true)) := by
  cases k
  · simp only [prepass, prepassFn]
    cases hd : F.dagger
    · simp
    · simp only [Bool.not_true, Bool.false_eq_true, ↓reduceIte, prepassFn_go_ne_none, true_and]
  · have := prepassWith_ne_none F b
    simp only [prepass]
    rw [← this]
    cases prepassWith F b <;> simp

theorem check_ne_ok_iff (k : Kind) (F : Flags) (b : Block) :
    check k F b ≠ .ok ↔ (prepass k F b ≠ none ∨ errsBlock F b ≠ []) := by
  unfold check
  cases prepass k F b with
  | some e => simp
  | none => cases errsBlock F b <;> simp

/-- the pre-pass adds nothing to the block visit but the loops: an assignment it finds under dagger is
    reported by the visit as well (`assign_errsB`) -/
theorem check_ne_ok_iff_rejects (k : Kind) (F : Flags) (b : Block) : check k F b ≠ .ok ↔ Rejects F b := by
  rw [check_ne_ok_iff, prepass_ne_none, Rejects]
  constructor
  · rintro (⟨hd, (h | h)⟩ | h)
    · exact .inl ⟨hd, h⟩
    · refine .inr (assign_errsB F hd b ?_)
      cases k
      · exact h
      · exact shallow_deepB b h
    · exact .inr h
  · rintro (⟨hd, h⟩ | h)
    · exact .inl ⟨hd, .inl h⟩
    · exact .inr h

theorem check_ok_iff (k : Kind) (F : Flags) (b : Block) : check k F b = .ok ↔ ¬ Violates F b := by
  rw [← mainB, ← check_ne_ok_iff_rejects, ne_eq, Decidable.not_not]

/-- The flags named in a `UnitaryCallError` are exactly the required flags the callee lacks
    (a Boolean identity; bookkeeping, not evidence for the property). -/
theorem missing_has (F g : Flags) (k : FlagKind) :
    (F.and g.compl).has k = (F.has k && !g.has k) := by
  cases k <;> rfl

end GuppyVerif.Unitary
