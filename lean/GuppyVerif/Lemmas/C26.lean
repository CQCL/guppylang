import GuppyVerif.Lemmas.Basic
import GuppyVerif.Spec.C26
import Mathlib.Data.String.Basic
/-! A successful `loadPytket` is characterised once per mode (`FlatLoaded`, `ArraysLoaded`); the
    property theorems read wires off these by position (`flatPos`) and by rank
    (`List.countP_lt_getElem`). -/
namespace GuppyVerif.Pytket

/-! ### rank in a strictly increasing list -/

theorem UnitLt.asymm (a b : UnitId) : UnitLt a b → ¬ UnitLt b a := by
  rintro (h | ⟨e, h⟩) (h' | ⟨e', h'⟩)
  · exact lt_asymm h h'
  · rw [e'] at h; exact lt_irrefl _ h
  · rw [e] at h'; exact lt_irrefl _ h'
  · exact lt_asymm h h'

theorem unitRank_getElem (l : List UnitId) (hp : l.Pairwise UnitLt) (i : Nat) (h : i < l.length) :
    unitRank l l[i] = i :=
  List.countP_lt_getElem UnitLt UnitLt.asymm l hp i h

theorem lexRank_lt_length {l : List String} {x : String} (hx : x ∈ l) : lexRank l x < l.length :=
  Nat.lt_of_le_of_ne List.countP_le_length fun e =>
    lt_irrefl x (of_decide_eq_true (List.countP_eq_length.mp e x hx))

/-! ### the executable order check -/

theorem natListLt_iff (a b : List Nat) : natListLt a b = true ↔ a < b := by
  induction a generalizing b with
  | nil => cases b <;> simp [natListLt]
  | cons x xs ih =>
    cases b with
    | nil => simp [natListLt]
    | cons y ys =>
      rw [natListLt, List.cons_lt_cons_iff]
      rcases Nat.lt_trichotomy x y with h | h | h
      · simp [h]
      · simp [h, ih]
      · simp [h, Nat.lt_asymm h, Nat.ne_of_gt h]

theorem UnitId.lt_iff (a b : UnitId) : a.lt b = true ↔ UnitLt a b := by
  unfold UnitId.lt UnitLt
  rcases lt_trichotomy a.name b.name with h | h | h
  · simp [h]
  · simp [h, natListLt_iff]
  · simp [h, lt_asymm h, ne_of_gt h]

theorem strictlyIncreasing_pairwise : ∀ (l : List UnitId), strictlyIncreasing l = true → l.Pairwise UnitLt
  | [], _ => List.Pairwise.nil
  | a :: t, h => by
    simp only [strictlyIncreasing, Bool.and_eq_true, List.all_eq_true] at h
    exact List.Pairwise.cons (fun b hb => (UnitId.lt_iff a b).mp (h.1 b hb))
      (strictlyIncreasing_pairwise t h.2)

theorem isSubseq_sublist (xs ys : List UnitId) (h : isSubseq xs ys = true) : xs.Sublist ys := by
  induction ys generalizing xs with
  | nil =>
    cases xs with
    | nil => exact .slnil
    | cons _ _ => cases h
  | cons y ys ih =>
    cases xs with
    | nil => exact List.nil_sublist _
    | cons x xs =>
      unfold isSubseq at h
      split at h
      · next e => exact e ▸ (ih xs h).cons_cons x
      · exact (ih (x :: xs) h).cons y

/-! ### Python's `sorted` on names, and the `name_to_param` dictionary -/

theorem insertSorted_perm {α} (lt : α → α → Bool) (x : α) (l : List α) :
    (insertSorted lt x l).Perm (x :: l) := by
  induction l with
  | nil => exact .refl _
  | cons y ys ih =>
    unfold insertSorted
    split
    · exact (ih.cons y).trans (.swap x y ys)
    · exact .refl _

theorem sorted_perm {α} (lt : α → α → Bool) : ∀ l : List α, (sorted lt l).Perm l
  | [] => .refl _
  | x :: xs => (insertSorted_perm lt x _).trans ((sorted_perm lt xs).cons x)

theorem insertSorted_pairwise (x : String) (l : List String) (hp : l.Pairwise (· < ·)) (hx : x ∉ l) :
    (insertSorted strLt x l).Pairwise (· < ·) := by
  induction l with
  | nil => exact List.pairwise_singleton _ _
  | cons y ys ih =>
    rw [List.pairwise_cons] at hp
    rw [List.mem_cons, not_or] at hx
    unfold insertSorted strLt
    split
    · next h =>
      refine .cons (fun z hz => ?_) (ih hp.2 hx.2)
      rcases List.mem_cons.mp ((insertSorted_perm _ x ys).mem_iff.mp hz) with e | hz
      · exact e ▸ of_decide_eq_true h
      · exact hp.1 z hz
    · next h =>
      -- `x` is neither above nor equal to `y`, so it is below `y` and hence below all of `ys`
      have hlt : x < y := (lt_trichotomy x y).resolve_right (not_or.mpr ⟨hx.1, by simpa using h⟩)
      exact .cons (List.forall_mem_cons.mpr ⟨hlt, fun z hz => lt_trans hlt (hp.1 z hz)⟩)
        (.cons hp.1 hp.2)

theorem sorted_pairwise (l : List String) (hn : l.Nodup) : (sorted strLt l).Pairwise (· < ·) := by
  induction l with
  | nil => exact .nil
  | cons x xs ih =>
    rw [List.nodup_cons] at hn
    exact insertSorted_pairwise x _ (ih hn.2) fun h => hn.1 ((sorted_perm strLt xs).mem_iff.mp h)

theorem sorted_getElem?_lexRank (l : List String) (hn : l.Nodup) (x : String) (hx : x ∈ l) :
    (sorted strLt l)[lexRank l x]? = some x := by
  obtain ⟨i, hi, e⟩ := List.getElem_of_mem ((sorted_perm strLt l).mem_iff.mpr hx)
  have hc := List.countP_lt_getElem (· < ·) (fun _ _ => lt_asymm) _ (sorted_pairwise l hn) i hi
  rw [e, (sorted_perm strLt l).countP_eq] at hc
  rw [lexRank, hc, List.getElem?_eq_getElem hi, e]

theorem dictGet_not_mem {β} (key : String) (l : List (String × β)) (h : key ∉ l.map Prod.fst) :
    dictGet l key = none := by
  induction l with
  | nil => rfl
  | cons kv l ih =>
    rw [List.map_cons, List.mem_cons, not_or] at h
    rw [dictGet, ih h.2, if_neg (Ne.symm h.1)]

theorem dictGet_of_mem {β} {key : String} {v : β} (l : List (String × β))
    (hn : (l.map Prod.fst).Nodup) (hm : (key, v) ∈ l) : dictGet l key = some v := by
  induction l with
  | nil => cases hm
  | cons kv l ih =>
    obtain ⟨k, v'⟩ := kv
    rw [List.map_cons, List.nodup_cons] at hn
    rw [dictGet]
    rcases List.mem_cons.mp hm with e | hm
    · cases e
      rw [dictGet_not_mem key l hn.1, if_pos rfl]
    · rw [ih hn.2 hm]

/-- `P` and `m` are variables because both modes use this, with `P := passedParam c ua` -/
theorem wireParams_ok (po : List String) (hn : po.Nodup) (P : Nat → Port) (m : Nat)
    (ps : List Src) (h : wireParams po ((List.range m).map P) = .ok ps) :
    po.length = m ∧ ps = po.map fun name => Src.untuple (P (lexRank po name)) := by
  simp only [wireParams, List.length_map, List.length_range, (sorted_perm strLt po).length_eq] at h
  split at h
  · cases h
  · next hl =>
    have hlen : po.length = m := Decidable.not_not.mp hl
    refine ⟨hlen, Except.ok.inj (h.symm.trans (List.mapM_ok_of_forall fun name hname => ?_))⟩
    have hlt : lexRank po name < m := hlen ▸ lexRank_lt_length hname
    have hzip : (name, P (lexRank po name)) ∈ (sorted strLt po).zip ((List.range m).map P) :=
      List.mem_of_getElem? (List.getElem?_zip_eq_some.mpr
        ⟨sorted_getElem?_lexRank po hn name hname, by simp [hlt]⟩)
    have hkeys : (((sorted strLt po).zip ((List.range m).map P)).map Prod.fst).Nodup := by
      rw [List.map_fst_zip (by simp [(sorted_perm strLt po).length_eq, hlen])]
      exact (sorted_perm strLt po).nodup_iff.mpr hn
    rw [bindParam, dictGet_of_mem _ hkeys hzip]

/-! ### positions in concatenated registers -/

theorem total_cons (r : Reg) (rs : List Reg) : total (r :: rs) = r.size + total rs :=
  List.sum_cons

theorem flatPos_zero (szs : List Nat) (e : Nat) : flatPos szs 0 e = e := Nat.zero_add e

theorem flatPos_succ (r0 : Reg) (rs : List Reg) (r e : Nat) :
    flatPos (sizes (r0 :: rs)) (r + 1) e = r0.size + flatPos (sizes rs) r e := by
  rw [flatPos, sizes, List.map_cons, List.take_succ_cons, List.sum_cons, Nat.add_assoc]
  rfl

theorem regUnits_length (rs : List Reg) : (regUnits rs).length = total rs := by
  induction rs with
  | nil => rfl
  | cons r rs ih =>
    rw [regUnits, List.length_append, ih, total_cons, List.length_map, List.length_range]

theorem unpackAll_length (i : Nat) (rs : List Reg) : (unpackAll i rs).length = total rs := by
  induction rs generalizing i with
  | nil => rfl
  | cons r rs ih =>
    rw [unpackAll, List.length_append, ih, total_cons, List.length_map, List.length_range]

theorem regUnits_getElem? (rs : List Reg) (r : Nat) (hr : r < rs.length) (e : Nat)
    (he : e < rs[r].size) : (regUnits rs)[flatPos (sizes rs) r e]? = some ⟨rs[r].name, [e]⟩ := by
  induction rs generalizing r with
  | nil => exact absurd hr (Nat.not_lt_zero r)
  | cons r0 rs ih =>
    cases r with
    | zero =>
      rw [flatPos_zero]
      exact List.getElem?_map_range_append _ he _
    | succ r =>
      rw [flatPos_succ, regUnits, List.getElem?_map_range_append_add]
      exact ih r (Nat.lt_of_succ_lt_succ hr) he

theorem unpackAll_getElem? (rs : List Reg) (i r : Nat) (hr : r < rs.length) (e : Nat)
    (he : e < rs[r].size) :
    (unpackAll i rs)[flatPos (sizes rs) r e]? = some (.port (.unpack .qubit rs[r].size (i + r) e)) := by
  induction rs generalizing i r with
  | nil => exact absurd hr (Nat.not_lt_zero r)
  | cons r0 rs ih =>
    cases r with
    | zero =>
      rw [flatPos_zero]
      exact List.getElem?_map_range_append _ he _
    | succ r =>
      rw [flatPos_succ, unpackAll, List.getElem?_map_range_append_add, ← Nat.add_assoc,
        Nat.add_right_comm]
      exact ih (i + 1) r (Nat.lt_of_succ_lt_succ hr) he

theorem exists_flatPos (rs : List Reg) (i : Nat) (h : i < total rs) :
    ∃ (r : Nat) (hr : r < rs.length) (e : Nat), e < rs[r].size ∧ flatPos (sizes rs) r e = i := by
  induction rs generalizing i with
  | nil => exact absurd h (Nat.not_lt_zero i)
  | cons r0 rs ih =>
    rw [total_cons] at h
    by_cases hi : i < r0.size
    · exact ⟨0, Nat.zero_lt_succ _, i, hi, flatPos_zero _ _⟩
    · have hi := Nat.le_of_not_lt hi
      obtain ⟨r, hr, e, he, hp⟩ := ih (i - r0.size) (Nat.sub_lt_left_of_lt_add hi h)
      exact ⟨r + 1, Nat.succ_lt_succ hr, e, he, by
        rw [flatPos_succ, hp, Nat.add_sub_cancel' hi]⟩

theorem regUnits_eq_iff {rs : List Reg} {us : List UnitId} (hsub : (regUnits rs).Sublist us) :
    regUnits rs = us ↔ total rs = us.length :=
  ⟨fun h => by rw [← regUnits_length, h], fun h => hsub.eq_of_length (by rw [regUnits_length, h])⟩

theorem unit_at_flatPos {rs : List Reg} {us : List UnitId} (hsub : (regUnits rs).Sublist us)
    (hp : us.Pairwise UnitLt) (ht : total rs = us.length) (r : Nat) (hr : r < rs.length) (e : Nat)
    (he : e < rs[r].size) :
    ∃ h : flatPos (sizes rs) r e < us.length,
      us[flatPos (sizes rs) r e] = ⟨rs[r].name, [e]⟩ ∧
      unitRank us ⟨rs[r].name, [e]⟩ = flatPos (sizes rs) r e := by
  have hu := regUnits_getElem? rs r hr e he
  rw [(regUnits_eq_iff hsub).mpr ht] at hu
  obtain ⟨h, hu⟩ := List.getElem?_eq_some_iff.mp hu
  exact ⟨h, hu, hu ▸ unitRank_getElem us hp _ h⟩

theorem packFrom_length (elem : Elem) (wires : List OutLeaf) (idx : Nat) (rs : List Reg) :
    (packFrom elem wires idx rs).length = rs.length := by
  induction rs generalizing idx with
  | nil => rfl
  | cons r rs ih => exact congrArg (· + 1) (ih (idx + r.size))

theorem packFrom_getElem? (elem : Elem) (wires : List OutLeaf) (rs : List Reg) (idx r : Nat)
    (hr : r < rs.length) :
    (packFrom elem wires idx rs)[r]? =
      some (.newArray elem rs[r].size ((wires.drop (idx + flatPos (sizes rs) r 0)).take rs[r].size)) := by
  induction rs generalizing idx r with
  | nil => exact absurd hr (Nat.not_lt_zero r)
  | cons r0 rs ih =>
    cases r with
    | zero => rfl
    | succ r =>
      rw [packFrom, List.getElem?_cons_succ, ih (idx + r0.size) r (Nat.lt_of_succ_lt_succ hr),
        flatPos_succ, Nat.add_assoc]
      rfl

theorem packFrom_elem (elem : Elem) (wires : List OutLeaf) (rs : List Reg) (idx r : Nat)
    (hr : r < rs.length) :
    ∃ ls, (packFrom elem wires idx rs)[r]? = some (.newArray elem rs[r].size ls) ∧
      ∀ e, e < rs[r].size → ls[e]? = wires[idx + flatPos (sizes rs) r e]? :=
  ⟨_, packFrom_getElem? elem wires rs idx r hr, fun e he => by
    rw [List.getElem?_take_of_lt he, List.getElem?_drop, Nat.add_assoc]
    rfl⟩

/-! ### the output rotation -/

theorem outWires_ok (c : Circ) (outs : List PortTy) (h : InnerOutsOk c outs) :
    outWires c outs =
      (List.range c.nBits).map (fun b => OutLeaf.opaque (c.nQubits + b)) ++
        (List.range c.nQubits).map OutLeaf.call := by
  obtain ⟨hl, hq, hb⟩ := (List.replicate_append_replicate_eq_iff ..).mp h.symm
  rw [outWires, hl, List.range_add_drop, List.take_range, Nat.min_eq_left (Nat.le_add_right ..),
    List.map_append, List.map_map]
  congr 1 <;> refine List.map_congr_left fun i hi => ?_
  · exact if_pos (hb i (List.mem_range.mp hi))
  · exact if_neg (hq i (List.mem_range.mp hi) ▸ by decide)

variable {c : Circ} {ua : Bool} {md : Option (List String)} {outs : List PortTy} {sig : Sig}
  {w : Wiring}

theorem outWires_bit (h : InnerOutsOk c outs) {b : Nat} (hb : b < c.nBits) :
    (outWires c outs)[b]? = some (.opaque (c.nQubits + b)) :=
  outWires_ok c outs h ▸ List.getElem?_map_range_append _ hb _

theorem outWires_qubit (h : InnerOutsOk c outs) {i : Nat} (hi : i < c.nQubits) :
    (outWires c outs)[c.nBits + i]? = some (.call i) := by
  rw [outWires_ok c outs h, List.getElem?_map_range_append_add, List.getElem?_map, List.getElem?_range hi]
  rfl

theorem outWires_length (h : InnerOutsOk c outs) :
    (outWires c outs).length = c.nBits + c.nQubits := by
  simp [outWires_ok c outs h]

/-! ### what a successful `loadPytket` looks like -/

theorem loadPytket_ok (h : loadPytket c ua md outs = .ok (sig, w)) :
    signatureFromCircuit c ua = .ok sig ∧ compileOuter c ua sig.inputs.length md outs = .ok w := by
  unfold loadPytket at h
  split at h
  · cases h
  · next sig' hs =>
    split at h
    · cases h
    · next w' hw => cases h; exact ⟨hs, hw⟩

theorem loadPytket_sig_error {e : SigErr} :
    loadPytket c ua md outs = .error (.sig e) ↔ signatureFromCircuit c ua = .error e := by
  unfold loadPytket
  split
  · next e' hs => simp [hs]
  · next sig hs =>
    rw [hs]
    split <;> simp

theorem signatureFromCircuit_arrays (c : Circ) :
    signatureFromCircuit c true =
      if total c.qregs = c.nQubits ∧ total c.cregs = c.nBits then
        .ok ⟨(c.qregs.map fun r => ⟨.array .qubit r.size, .inout⟩) ++
              (if c.nSyms ≠ 0 then [⟨.array .angle c.nSyms, .noFlags⟩] else []),
            rowToType (c.cregs.map fun r => Leaf.array .bool r.size)⟩
      else .error .unitsOutsideRegisters := by
  unfold signatureFromCircuit
  by_cases h : total c.qregs = c.nQubits ∧ total c.cregs = c.nBits
  · by_cases hs : c.nSyms = 0 <;> simp [h, hs]
  · rw [if_neg h]
    simpa [← not_and_or] using h

structure FlatLoaded (c : Circ) (md : Option (List String)) (outs : List PortTy) (sig : Sig)
    (w : Wiring) : Prop where
  sig_eq : sig = signatureFlat c
  callArgs : ∃ ps, paramArgs c false (c.nQubits + c.nSyms) md = .ok ps ∧
    w.callArgs = (List.range c.nQubits).map (fun k => Src.port (.input k)) ++
      List.replicate c.nBits Src.falseConst ++ ps
  outputs : w.outputs = (outWires c outs).map Out.wire

theorem loadPytket_flat (h : loadPytket c false md outs = .ok (sig, w)) :
    FlatLoaded c md outs sig w := by
  obtain ⟨hs, hw⟩ := loadPytket_ok h
  cases Except.ok.inj hs
  have hlen : (signatureFlat c).inputs.length = c.nQubits + c.nSyms := by simp [signatureFlat]
  simp only [compileOuter, hlen, List.take_range, Nat.min_eq_left (Nat.le_add_right ..),
    Bool.false_and, Bool.false_eq_true, ↓reduceIte] at hw
  split at hw
  · cases hw
  · next ps hps =>
    cases hw
    exact ⟨rfl, ⟨ps, hps, rfl⟩, rfl⟩

structure ArraysLoaded (c : Circ) (md : Option (List String)) (outs : List PortTy) (sig : Sig)
    (w : Wiring) : Prop where
  qubits_total : total c.qregs = c.nQubits
  bits_total : total c.cregs = c.nBits
  inputs : sig.inputs = (c.qregs.map fun r => (⟨.array .qubit r.size, .inout⟩ : FuncInput)) ++
    (if c.nSyms ≠ 0 then [⟨.array .angle c.nSyms, .noFlags⟩] else [])
  callArgs : ∃ ps, paramArgs c true sig.inputs.length md = .ok ps ∧
    w.callArgs = unpackAll 0 c.qregs ++ List.replicate c.nBits Src.falseConst ++ ps
  outputs : w.outputs = packFrom .bool (outWires c outs) 0 c.cregs ++
    packFrom .qubit (outWires c outs) (total c.cregs) c.qregs

theorem loadPytket_arrays (h : loadPytket c true md outs = .ok (sig, w)) :
    ArraysLoaded c md outs sig w := by
  obtain ⟨hs, hw⟩ := loadPytket_ok h
  rw [signatureFromCircuit_arrays] at hs
  simp only [compileOuter, Bool.true_and, ↓reduceIte] at hw
  split at hw
  · cases hw
  · split at hw
    · cases hw
    · next ps hps =>
      cases hw
      split at hs
      · next ht =>
        cases Except.ok.inj hs
        exact ⟨ht.1, ht.2, rfl, ⟨ps, hps, rfl⟩, rfl⟩
      · cases hs

theorem lexParamPorts_flat (c : Circ) (m : Nat) :
    lexParamPorts c false (c.nQubits + m) =
      .ok ((List.range m).map fun k => Port.input (c.nQubits + k)) := by
  simp [lexParamPorts, List.range_add_drop]

theorem lexParamPorts_arrays (c : Circ) :
    lexParamPorts c true (c.qregs.length + 1) =
      .ok ((List.range c.nSyms).map fun e => Port.unpack .angle c.nSyms c.qregs.length e) := by
  simp [lexParamPorts, List.range_add_drop]

theorem loadPytket_params {po : List String} (hs : c.nSyms ≠ 0)
    (h : loadPytket c ua (some po) outs = .ok (sig, w)) :
    ∃ qs ps, qs.length = c.nQubits + c.nBits ∧ w.callArgs = qs ++ ps ∧
      wireParams po ((List.range c.nSyms).map (passedParam c ua)) = .ok ps := by
  cases ua with
  | false =>
    obtain ⟨ps, hps, hargs⟩ := (loadPytket_flat h).callArgs
    simp only [paramArgs, hs, ↓reduceIte, lexParamPorts_flat] at hps
    exact ⟨_, ps, by simp, hargs, hps⟩
  | true =>
    have l := loadPytket_arrays h
    obtain ⟨ps, hps, hargs⟩ := l.callArgs
    have hlen : sig.inputs.length = c.qregs.length + 1 := by simp [l.inputs, hs]
    simp only [hlen, paramArgs, hs, ↓reduceIte, lexParamPorts_arrays] at hps
    exact ⟨_, ps, by simp [unpackAll_length, l.qubits_total], hargs, hps⟩

/-! ### flattening the outputs -/

theorem outLeaves_append (a b : List Out) : outLeaves (a ++ b) = outLeaves a ++ outLeaves b := by
  induction a with
  | nil => rfl
  | cons o a ih =>
    cases o with
    | wire l => exact congrArg (l :: ·) ih
    | newArray _ _ ls => rw [List.cons_append, outLeaves, outLeaves, ih, List.append_assoc]

theorem outLeaves_map_wire : ∀ (ls : List OutLeaf), outLeaves (ls.map Out.wire) = ls
  | [] => rfl
  | l :: ls => congrArg (l :: ·) (outLeaves_map_wire ls)

theorem outLeaves_packFrom (elem : Elem) (wires : List OutLeaf) (idx : Nat) (rs : List Reg) :
    outLeaves (packFrom elem wires idx rs) = (wires.drop idx).take (total rs) := by
  induction rs generalizing idx with
  | nil => exact List.take_zero.symm
  | cons r rs ih =>
    rw [packFrom, outLeaves, ih, total_cons, List.take_add, List.drop_drop]

theorem loadPytket_outLeaves (ho : InnerOutsOk c outs) (h : loadPytket c ua md outs = .ok (sig, w)) :
    outLeaves w.outputs = outWires c outs := by
  cases ua with
  | false =>
    rw [(loadPytket_flat h).outputs, outLeaves_map_wire]
  | true =>
    have l := loadPytket_arrays h
    rw [l.outputs, outLeaves_append, outLeaves_packFrom, outLeaves_packFrom, List.drop_zero,
      ← List.take_add, l.bits_total, l.qubits_total]
    exact List.take_of_length_le (outWires_length ho).le

/-! ### stubs -/

theorem outputMatches_iff :
    ∀ n t, OutputMatches n t ↔ t = rowToType (List.replicate n (.scalar .bool))
  | 0, _ => Iff.rfl
  | 1, _ => Iff.rfl
  | n + 2, t =>
    ⟨fun ⟨ls, ht, hl, hall⟩ => by rw [ht, List.eq_replicate_iff.mpr ⟨hl, hall⟩]; rfl,
     fun h => ⟨List.replicate (n + 2) (.scalar .bool), h, List.length_replicate,
       fun _ hl => (List.mem_replicate.mp hl).2⟩⟩

theorem stubMatches_iff (c : Circ) (s : Sig) :
    StubMatches c s ↔ (signatureFlat c).inputs = s.inputs ∧ (signatureFlat c).output = s.output :=
  ⟨fun h => ⟨(List.replicate_append_replicate_eq_iff ..).mpr ⟨h.arity, h.qubits, h.angles⟩,
      ((outputMatches_iff _ _).mp h.output).symm⟩,
   fun ⟨hi, ho⟩ =>
    let ⟨ha, hq, hg⟩ := (List.replicate_append_replicate_eq_iff ..).mp hi
    ⟨ha, hq, hg, (outputMatches_iff _ _).mpr ho.symm⟩⟩

theorem stubMatches_signatureFlat (c : Circ) : StubMatches c (signatureFlat c) :=
  (stubMatches_iff c _).mpr ⟨rfl, rfl⟩

theorem parseStub_some {c : Circ} {s : Stub} {ty : Sig} (hb : hasEmptyBody s.body = true)
    (hs : s.sig = some ty) :
    (StubMatches c ty → parseStub c s = .accepted ty) ∧
      (¬ StubMatches c ty → parseStub c s = .mismatch (signatureFlat c)) := by
  have key : StubMatches c ty ↔
      ((signatureFlat c).inputs == ty.inputs && (signatureFlat c).output == ty.output) = true := by
    rw [stubMatches_iff, Bool.and_eq_true, beq_iff_eq, beq_iff_eq]
  rw [key]
  cases hm : (signatureFlat c).inputs == ty.inputs && (signatureFlat c).output == ty.output <;>
    simp [parseStub, hb, hs, hm]

/-! ### sessions -/

/-- what an event contributes to a session that converts every circuit afresh -/
def loadResult : Event → Option Loaded
  | .load _ s => some (compileSnapshot s)
  | .other => none

theorem runSession_false : ∀ (cache : ConvCache) (evs : List Event),
    runSession false cache evs = evs.filterMap loadResult
  | _, [] => rfl
  | cache, .other :: evs => runSession_false cache evs
  | cache, .load _ s :: evs => congrArg (compileSnapshot s :: ·) (runSession_false cache evs)

theorem length_filterMap_loadResult : ∀ evs : List Event,
    (evs.filterMap loadResult).length = loadsIn evs
  | [] => rfl
  | .other :: evs => length_filterMap_loadResult evs
  | .load _ _ :: evs => congrArg (· + 1) (length_filterMap_loadResult evs)

end GuppyVerif.Pytket
