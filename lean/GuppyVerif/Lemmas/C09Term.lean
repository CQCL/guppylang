import GuppyVerif.Lemmas.C09Live
import GuppyVerif.Lemmas.C09Assign
/-! Termination of both worklists under every scheduler (`IsWorklist.isSome`, `wlPot`).  Liveness: initially
    live variables only ever leave a block's live set, the others only enter.  Assignment (cached values):
    definite sets only shrink; maybe sets only shrink for variables maybe-assigned before the entry and only
    grow for the others. -/
namespace GuppyVerif.Dataflow

/-- universe of variables the analysis can ever mention -/
def liveUniv (g : Cfg) (init : List Var) : List Var := init ++ g.blocks.flatMap g.used

def livePairs (g : Cfg) (init : List Var) : List (Blk × Var) :=
  g.blocks.flatMap fun b => (liveUniv g init).map fun x => (b, x)

def livePot (g : Cfg) (init : List Var) (s : LSt) : Nat :=
  wlPot g.blocks ((livePairs g init).countP (pend init.contains s.vals)) s.queue

structure LTInv (g : Cfg) (init : List Var) (s : LSt) : Prop where
  qsub : ∀ c ∈ s.queue, c ∈ g.blocks
  univ : ∀ b x, x ∈ s.vals b → x ∈ liveUniv g init
  appr : Approaches init.contains g.blocks (liveF g) s.vals

/-- at the start every initially live variable is in every value and no other is, so the first can only leave and the
    second only enter -/
theorem ltinv_init (g : Cfg) (init : List Var) : LTInv g init (liveInit g init) :=
  ⟨fun _ hc => hc, fun _ _ hx => List.mem_append_left _ hx, fun _ _ =>
    ⟨fun _ hd _ => List.contains_iff_mem.mp hd,
     fun _ hd hx => nomatch hd.symm.trans (List.contains_iff_mem.mpr hx)⟩⟩

theorem liveF_mono_var {g : Cfg} (x : Var) (v w : Blk → List Var) (h : ∀ c, x ∈ v c → x ∈ w c)
    (b : Blk) (hx : x ∈ liveF g v b) : x ∈ liveF g w b := by
  rw [mem_liveF] at hx ⊢
  exact hx.imp_right fun ⟨c, he, hc⟩ => ⟨c, he, h c hc⟩

theorem liveF_sub_univ {g : Cfg} {init : List Var} {s : LSt} (hi : LTInv g init s) {b : Blk}
    (hb : b ∈ g.blocks) (x : Var) (hx : x ∈ liveF g s.vals b) : x ∈ liveUniv g init := by
  rw [mem_liveF] at hx
  rcases hx with hu | ⟨c, _, hc⟩
  · exact List.mem_append_right _ (List.mem_flatMap.mpr ⟨b, hb, hu⟩)
  · exact hi.univ c x hc

theorem ltinv_step (g : Cfg) (hg : g.WF) (init : List Var) (s : LSt) (b : Blk) (hi : LTInv g init s)
    (hbq : b ∈ s.queue) :
    LTInv g init (liveStep g s b) ∧ livePot g init (liveStep g s b) < livePot g init s := by
  have hb : b ∈ g.blocks := hi.qsub b hbq
  unfold livePot
  rw [liveStep_eq]
  by_cases e : sameSet (s.vals b) (liveF g s.vals b) = true
  · rw [if_pos e]
    exact ⟨⟨fun c hc => hi.qsub c (List.mem_filter_bne.mp hc).1, hi.univ, hi.appr⟩, wlPot_pop _ hb hbq⟩
  · rw [if_neg e]
    refine ⟨⟨fun c hc => ?_, fun c x => ?_, hi.appr.step liveF_mono_var hb⟩, ?_⟩
    · exact (List.mem_append.mp hc).elim (fun h => hi.qsub c (List.mem_filter_bne.mp h).1) (hg.pclosed b hb c)
    · exact upd_forall (p := fun _ l => x ∈ l → x ∈ liveUniv g init) (fun c => hi.univ c x)
        (liveF_sub_univ hi hb x) c
    · obtain ⟨x, hx⟩ := exists_of_not_sameSet e
      exact wlPot_flip _ _ _ ((countP_pend_upd (hi.appr b hb) _).2 x
        (mem_pairs hb (mem_of_not_iff (hi.univ b) (liveF_sub_univ hi hb) hx)) hx)

def assUniv (g : Cfg) (P : AParams) : List Var := allVars g P ++ P.entryMaybe

def assPairs (g : Cfg) (P : AParams) : List (Blk × Var) :=
  g.blocks.flatMap fun b => (assUniv g P).map fun x => (b, x)

def assPot (g : Cfg) (P : AParams) (s : ASt) : Nat :=
  wlPot g.blocks ((assPairs g P).countP (pend (fun _ => true) s.aftD) +
    (assPairs g P).countP (pend P.entryMaybe.contains s.aftM)) s.queue

structure ATInv (g : Cfg) (P : AParams) (s : ASt) : Prop where
  qsub : ∀ c ∈ s.queue, c ∈ g.blocks
  univD : ∀ b ∈ g.blocks, ∀ x, x ∈ s.aftD b → x ∈ assUniv g P
  univM : ∀ b ∈ g.blocks, ∀ x, x ∈ s.aftM b → x ∈ assUniv g P
  apprD : Approaches (fun _ => true) g.blocks (fun aD b => jD g P aD b ++ g.assigned b) s.aftD
  apprM : Approaches P.entryMaybe.contains g.blocks (fun aM b => jM g P aM b ++ g.assigned b) s.aftM

theorem allVars_sub_univ {g : Cfg} {P : AParams} {x : Var} (h : x ∈ allVars g P) : x ∈ assUniv g P :=
  List.mem_append_left _ h

theorem jD_mono_var {g : Cfg} {P : AParams} (x : Var) (v w : Blk → List Var)
    (h : ∀ c, x ∈ v c → x ∈ w c) (b : Blk) (hx : x ∈ jD g P v b ++ g.assigned b) :
    x ∈ jD g P w b ++ g.assigned b := by
  rw [List.mem_append, mem_jD] at hx ⊢
  exact hx.imp_left (Or.imp_right fun ⟨hp, hall⟩ => ⟨hp, fun p hpe => h p (hall p hpe)⟩)

theorem jM_mono_var {g : Cfg} {P : AParams} (x : Var) (v w : Blk → List Var)
    (h : ∀ c, x ∈ v c → x ∈ w c) (b : Blk) (hx : x ∈ jM g P v b ++ g.assigned b) :
    x ∈ jM g P w b ++ g.assigned b := by
  rw [List.mem_append, mem_jM] at hx ⊢
  exact hx.imp_left (Or.imp_right fun ⟨p, hpe, hp⟩ => ⟨p, hpe, h p hp⟩)

theorem atinv_init (g : Cfg) (hg : g.WF) (P : AParams) : ATInv g P (assInit g P) := by
  refine ⟨fun c hc => hc, fun b hb x hx => ?_, fun b hb x hx => ?_,
    fun b hb => ⟨fun x _ hx => ?_, fun _ hd => nomatch hd⟩,
    fun b _ => ⟨fun x hd _ => List.mem_append_left _ (List.contains_iff_mem.mp hd), fun x hd hx => ?_⟩⟩
  · exact allVars_sub_univ ((List.mem_append.mp hx).elim id (assigned_sub_allVars hb))
  · exact (List.mem_append.mp hx).elim (List.mem_append_right _)
      fun h => allVars_sub_univ (assigned_sub_allVars hb h)
  · exact (List.mem_append.mp hx).elim
      (fun h => List.mem_append_left _ (mem_allVars_of_mem_jD hg (ainv_init g P) hb h)) (List.mem_append_right _)
  · exact (List.mem_append.mp hx).elim
      (fun h => nomatch hd.symm.trans (List.contains_iff_mem.mpr h)) (List.mem_append_right _)

theorem atinv_step (g : Cfg) (hg : g.WF) (P : AParams) (s : ASt) (b : Blk) (hi : ATInv g P s)
    (hbq : b ∈ s.queue) :
    ATInv g P (assStep g P s b) ∧ assPot g P (assStep g P s b) < assPot g P s := by
  have hb : b ∈ g.blocks := hi.qsub b hbq
  unfold assPot
  rw [assStep_eq]
  split
  next e =>
    exact ⟨⟨fun c hc => hi.qsub c (List.mem_filter_bne.mp hc).1, hi.univD, hi.univM, hi.apprD, hi.apprM⟩,
      wlPot_pop _ hb hbq⟩
  next e =>
    have newD : ∀ x ∈ jD g P s.aftD b ++ g.assigned b, x ∈ assUniv g P :=
      fun x hx => hi.univD b hb x ((hi.apprD b hb).dec x rfl hx)
    have newM : ∀ x ∈ jM g P s.aftM b ++ g.assigned b, x ∈ assUniv g P := fun x hx =>
      (List.mem_append.mp hx).elim
        (fun h => (mem_jM.mp h).elim (fun h => List.mem_append_right _ h.2)
          fun ⟨p, hpe, hp⟩ => hi.univM p (hg.pclosed b hb p hpe) x hp)
        fun h => allVars_sub_univ (assigned_sub_allVars hb h)
    refine ⟨⟨fun c hc => ?_, fun c hc x => ?_, fun c hc x => ?_, hi.apprD.step jD_mono_var hb,
      hi.apprM.step jM_mono_var hb⟩, wlPot_flip _ _ _ ?_⟩
    · exact (List.mem_append.mp hc).elim (fun h => hi.qsub c (List.mem_filter_bne.mp h).1) (hg.closed b hb c)
    · exact upd_forall (p := fun c l => c ∈ g.blocks → x ∈ l → x ∈ assUniv g P)
        (fun c hc => hi.univD c hc x) (fun _ => newD x) c hc
    · exact upd_forall (p := fun c l => c ∈ g.blocks → x ∈ l → x ∈ assUniv g P)
        (fun c hc => hi.univM c hc x) (fun _ => newM x) c hc
    · -- one of the two cached values changes; neither count goes up
      dsimp only
      have cD := countP_pend_upd (nb := jD g P s.aftD b ++ g.assigned b) (hi.apprD b hb) (assPairs g P)
      have cM := countP_pend_upd (nb := jM g P s.aftM b ++ g.assigned b) (hi.apprM b hb) (assPairs g P)
      rw [Bool.and_eq_true, Classical.not_and_iff_not_or_not] at e
      rcases e with e | e <;> obtain ⟨x, hx⟩ := exists_of_not_sameSet e
      · have := cD.2 x (mem_pairs hb (mem_of_not_iff newD (hi.univD b hb) hx)) fun h => hx h.symm
        omega
      · have := cM.2 x (mem_pairs hb (mem_of_not_iff newM (hi.univM b hb) hx)) fun h => hx h.symm
        omega

end GuppyVerif.Dataflow
