import GuppyVerif.Lemmas.C03Grow
/-! # C03: the `for`-loop template `forTpl` is the old blocks followed by five literal blocks (`forTpl_blocks`); what each of
    them is (`ForTpl`, `forTpl_spec`), and that laying it out keeps `Grow` (`grow_forTpl`). -/
namespace GuppyVerif.Builder
open GuppyVerif.Surface

def eIterNext (it : Nat) : Expr := .un (.prim .iternext) (.var (.tmp it))
def eIsSome (rs : Nat) : Expr := .un (.prim .issome) (.var (.tmp rs))
def eUnwrapNothing (rs : Nat) : Expr := .un (.prim .unwrapnothing) (.var (.tmp rs))
def eUnwrap (rs : Nat) : Expr := .un (.prim .unwrap) (.var (.tmp rs))

/-- the template part of `visit_For` after `it = make_iter` was added to block `a` of state `s1`: loop head,
    body block with `res = iter_next` and the `is_some` branch, the `unwrap_nothing(); break` block, the tail,
    and the block `x, it = res.unwrap()` in which the user body starts -/
def forTpl (x : Var) (it rs a : Nat) (s1 : BState) : BState :=
  let hd := s1.len
  let σh := link a hd (newBB s1).2
  let σt := (newBB (newBB σh).2).2
  -- `branchE (.bool true)`: a constant condition gives the real edge and a dummy edge to the other target
  let σ2 := dummyLink hd (hd + 2) (link hd (hd + 1) σt)
  let σ3 := addStmt (hd + 1) (.assign (.tmp rs) (eIterNext it)) σ2
  let σe := (newBB (newBB σ3).2).2
  let σ4 := branchOn (hd + 1) (eIsSome rs) (hd + 4) (hd + 3) σe
  let σ5 := addStmt (hd + 3) (.expr (eUnwrapNothing rs)) σ4
  let σ6 := link (hd + 3) (hd + 2) σ5
  addStmt (hd + 4) (.assign2 x (.tmp it) (eUnwrap rs)) σ6

def forTplNew (x : Var) (it rs hd : Nat) : List Block :=
  [{ succs := [hd + 1], dsuccs := [hd + 2] },
   { stmts := [.assign (.tmp rs) (eIterNext it)], pred := some (eIsSome rs), succs := [hd + 3, hd + 4] },
   {},
   { stmts := [.expr (eUnwrapNothing rs)], succs := [hd + 2] },
   { stmts := [.assign2 x (.tmp it) (eUnwrap rs)] }]

theorem blkL_append_left {l : List Block} (r : List Block) {i : Nat} (h : i < l.length) :
    blkL (l ++ r) i = blkL l i := by
  simp only [blkL, List.getElem?_append_left h]

theorem blkL_append_right {l : List Block} (r : List Block) {n : Nat} (h : l.length = n) (k : Nat) :
    blkL (l ++ r) (n + k) = blkL r k := by
  subst h; simp only [blkL, List.getElem?_append_right (Nat.le_add_right _ _), Nat.add_sub_cancel_left]

theorem forTpl_blocks (x : Var) (it rs : Nat) {a : Nat} {s1 : BState} (ha : a < s1.len) :
    (forTpl x it rs a s1).blocks = (link a s1.len s1).blocks ++ forTplNew x it rs s1.len := by
  have ha' : a < s1.blocks.length := ha
  -- after the first `link` (`List.modify_append_left`) every index is `s1.len + k`: `List.modify_append_right`
  simp [forTpl, forTplNew, branchOn, link, dummyLink, addStmt, newBB, BState.upd, BState.len, List.modify_append_left,
    List.modify_append_right, ha']

structure ForTpl (x : Var) (it rs a : Nat) (s1 σ : BState) : Prop where
  len : σ.len = s1.len + 5
  tmp : σ.nextTmp = s1.nextTmp
  jump : σ.blk a = { s1.blk a with succs := [s1.len] }
  head : σ.blk s1.len = { succs := [s1.len + 1], dsuccs := [s1.len + 2] }
  next : σ.blk (s1.len + 1) =
    { stmts := [.assign (.tmp rs) (eIterNext it)], pred := some (eIsSome rs), succs := [s1.len + 3, s1.len + 4] }
  tail : σ.blk (s1.len + 2) = {}
  stop : σ.blk (s1.len + 3) = { stmts := [.expr (eUnwrapNothing rs)], succs := [s1.len + 2] }
  bind : σ.blk (s1.len + 4) = { stmts := [.assign2 x (.tmp it) (eUnwrap rs)] }
  frame : ∀ i, i < s1.len → i ≠ a → σ.blk i = s1.blk i

theorem forTpl_spec (x : Var) (it rs : Nat) {a : Nat} {s1 : BState} (ha : a < s1.len) (hao : (s1.blk a).succs = []) :
    ForTpl x it rs a s1 (forTpl x it rs a s1) := by
  have hb := forTpl_blocks x it rs ha
  have hl : (link a s1.len s1).blocks.length = s1.len := len_link ..
  have old : ∀ i, i < s1.len → (forTpl x it rs a s1).blk i = (link a s1.len s1).blk i := fun i hi => by
    unfold BState.blk; rw [hb, blkL_append_left _ (by rw [hl]; exact hi)]
  have new : ∀ k, (forTpl x it rs a s1).blk (s1.len + k) = blkL (forTplNew x it rs s1.len) k := fun k => by
    unfold BState.blk; rw [hb, blkL_append_right _ hl]
  refine ⟨by rw [BState.len, hb, List.length_append, hl]; rfl, ?_, ?_, new 0, new 1, new 2, new 3, new 4,
    fun i hi hne => by rw [old i hi, blk_link_other _ _ _ _ hne]⟩
  · simp only [forTpl, tmp_addStmt, tmp_link, tmp_dummyLink, tmp_branchOn, tmp_newBB]
  · rw [old a ha, blk_link_same _ _ _ ha, hao]; rfl

theorem grow_forTpl (x : Var) (it rs : Nat) {a : Nat} {s1 : BState} (ha : a < s1.len) (hao : (s1.blk a).succs = []) :
    Grow s1 (forTpl x it rs a s1) := by
  have T := forTpl_spec x it rs ha hao
  have hnew : ∀ i, s1.len ≤ i → i < s1.len + 5 →
      i = s1.len ∨ i = s1.len + 1 ∨ i = s1.len + 2 ∨ i = s1.len + 3 ∨ i = s1.len + 4 := fun i _ _ => by omega
  refine ⟨?_, ?_, ?_⟩
  · exact (emono_newBB _).trans <| (emono_link _ _ _).trans <| (emono_newBB _).trans <| (emono_newBB _).trans <|
      (emono_link _ _ _).trans <| (emono_dummyLink _ _ _).trans <| (emono_addStmt _ _ _).trans <|
      (emono_newBB _).trans <| (emono_newBB _).trans <| (emono_branchOn _ _ _ _ _).trans <|
      (emono_addStmt _ _ _).trans <| (emono_link _ _ _).trans (emono_addStmt _ _ _)
  · intro i h1 h2
    rw [T.len] at h2
    rcases hnew i h1 h2 with rfl | rfl | rfl | rfl | rfl
    · exact ⟨a, Or.inl (by rw [T.jump]; simp)⟩
    · exact ⟨s1.len, Or.inl (by rw [T.head]; simp)⟩
    · exact ⟨s1.len, Or.inr (by rw [T.head]; simp)⟩
    · exact ⟨s1.len + 1, Or.inl (by rw [T.next]; simp)⟩
    · exact ⟨s1.len + 1, Or.inl (by rw [T.next]; simp)⟩
  · intro h i
    by_cases h0 : i = a
    · rw [h0, T.jump]; exact okB_le_one (by simp)
    by_cases h1 : i < s1.len
    · rw [T.frame i h1 h0]; exact h i
    by_cases h2 : i < s1.len + 5
    · rcases hnew i (by omega) h2 with rfl | rfl | rfl | rfl | rfl
      · rw [T.head]; exact okB_le_one (by simp)
      · rw [T.next]; exact ⟨by simp, by intro _; simp⟩
      · rw [T.tail]; exact okB_empty
      · rw [T.stop]; exact okB_le_one (by simp)
      · rw [T.bind]; exact okB_le_one (by simp)
    · rw [empty_of_ge _ (by rw [T.len]; omega)]; exact okB_empty

end GuppyVerif.Builder
