import GuppyVerif.Lemmas.NumEval
import GuppyVerif.Gen.C04NumTable
/-! What the regenerated dunder table says, as far as `Props/C04.lean` reads it: the single op an operator or builtin reaches on
    operands of one numeric type (`none`: a `@guppy` body, or no such row).  `table_rows` evaluates every `int` / `nat` / `float`
    single-op row the theorems read, once; `int_pow_eval` evaluates the body of `int.__pow__` once for both power theorems (the
    `bool` theorems, the other bodies and the examples of `Props/C04.lean` evaluate the table themselves).  Operators and types
    are enumerations whose `sym` / `name` unfold to the strings of the statements, so a theorem takes its row by
    `left_row .add .int rfl` without evaluating anything. -/
namespace GuppyVerif.C04
open GuppyVerif.IntSem GuppyVerif.NumEval
open GuppyVerif.C04Gen (table)

inductive Num | int | nat | float | bool
  deriving DecidableEq

def Num.name : Num → String
  | .int => "int" | .nat => "nat" | .float => "float" | .bool => "bool"

def Num.all : List Num := [.int, .nat, .float, .bool]

theorem Num.mem_all (k : Num) : k ∈ Num.all := by cases k <;> decide

inductive Bin | add | sub | mul | truediv | floordiv | mod | pow | and | or | xor | shl | shr | lt | le | gt | ge | eq | ne
  deriving DecidableEq

def Bin.sym : Bin → String
  | .add => "+" | .sub => "-" | .mul => "*" | .truediv => "/" | .floordiv => "//" | .mod => "%" | .pow => "**"
  | .and => "&" | .or => "|" | .xor => "^" | .shl => "<<" | .shr => ">>"
  | .lt => "<" | .le => "<=" | .gt => ">" | .ge => ">=" | .eq => "==" | .ne => "!="

def Bin.all : List Bin :=
  [.add, .sub, .mul, .truediv, .floordiv, .mod, .pow, .and, .or, .xor, .shl, .shr, .lt, .le, .gt, .ge, .eq, .ne]

theorem Bin.mem_all (o : Bin) : o ∈ Bin.all := by cases o <;> decide

/-- the HUGR op of `l op r` on two `int`s, on two `nat`s (both `arithmetic.int`) and on two `float`s (`arithmetic.float`);
    `none`: a `@guppy` body (`/`, `int ** int`, float `//` and `%`) or no such operator -/
def Bin.ops : Bin → Option String × Option String × Option String
  | .add      => ("iadd",   "iadd",   "fadd")
  | .sub      => ("isub",   "isub",   "fsub")
  | .mul      => ("imul",   "imul",   "fmul")
  | .truediv  => (none,     none,     "fdiv")
  | .floordiv => ("idiv_s", "idiv_u", none)
  | .mod      => ("imod_s", "imod_u", none)
  | .pow      => (none,     "ipow",   "fpow")
  | .and      => ("iand",   "iand",   none)
  | .or       => ("ior",    "ior",    none)
  | .xor      => ("ixor",   "ixor",   none)
  | .shl      => ("ishl",   "ishl",   none)
  | .shr      => ("ishr",   "ishr",   none)
  | .lt       => ("ilt_s",  "ilt_u",  "flt")
  | .le       => ("ile_s",  "ile_u",  "fle")
  | .gt       => ("igt_s",  "igt_u",  "fgt")
  | .ge       => ("ige_s",  "ige_u",  "fge")
  | .eq       => ("ieq",    "ieq",    "feq")
  | .ne       => ("ine",    "ine",    "fne")

def Bin.isCmp : Bin → Bool
  | .lt | .le | .gt | .ge | .eq | .ne => true
  | _ => false

/-- the left dunder of `op` on type `k`: a comparison row (`BoolOpCompiler`) or an op `(k, k) → k` -/
def leftRow (o : Bin) (k : Num) : Option Prim :=
  let row (ext ty : String) (h : String) : Prim := if o.isCmp then .cmp ext ty h else .op2 ext ty h
  match k with
  | .int => o.ops.1.map (row "arithmetic.int" "int")
  | .nat => o.ops.2.1.map (row "arithmetic.int" "nat")
  | .float => o.ops.2.2.map (row "arithmetic.float" "float")
  | .bool => none

inductive Un | neg | pos | invert
  deriving DecidableEq

def Un.sym : Un → String
  | .neg => "-" | .pos => "+" | .invert => "~"

def Un.all : List Un := [.neg, .pos, .invert]

theorem Un.mem_all (u : Un) : u ∈ Un.all := by cases u <;> decide

def unaryRow : Un → Num → Option Prim
  | .neg,    .int   => Prim.op1 "arithmetic.int" "int" "ineg"
  | .neg,    .float => Prim.op1 "arithmetic.float" "float" "fneg"
  | .invert, .int   => Prim.op1 "arithmetic.int" "int" "inot"
  | .invert, .nat   => Prim.op1 "arithmetic.int" "nat" "inot"
  | .pos,    .int   => Prim.same "int"
  | .pos,    .nat   => Prim.same "nat"
  | .pos,    .float => Prim.same "float"
  | _,       _      => none

inductive Fn | abs | divmod | int | nat | float
  deriving DecidableEq

def Fn.name : Fn → String
  | .abs => "abs" | .divmod => "divmod" | .int => "int" | .nat => "nat" | .float => "float"

def Fn.all : List Fn := [.abs, .divmod, .int, .nat, .float]

theorem Fn.mem_all (f : Fn) : f ∈ Fn.all := by cases f <;> decide

def builtinRow : Fn → Num → Option Prim
  | .abs,    .int   => Prim.op1 "arithmetic.int" "int" "iabs"
  | .abs,    .nat   => Prim.same "nat"
  | .abs,    .float => Prim.op1 "arithmetic.float" "float" "fabs"
  | .divmod, .int   => Prim.op2 "arithmetic.int" "int" "idivmod_s" "tuple[int, int]"
  | .divmod, .nat   => Prim.op2 "arithmetic.int" "nat" "idivmod_u" "tuple[nat, nat]"
  | .int,    .int   => Prim.same "int"
  | .int,    .nat   => Prim.same "nat" "int"
  | .nat,    .int   => Prim.op1 "arithmetic.int" "int" "is_to_u" "nat"
  | .nat,    .nat   => Prim.same "nat"
  | .float,  .int   => Prim.op1 "arithmetic.conversions" "int" "convert_s" "float"
  | .float,  .nat   => Prim.op1 "arithmetic.conversions" "nat" "convert_u" "float"
  | .float,  .float => Prim.same "float"
  | _,       _      => none

/-- the reflected dunder of `op` on the right operand's type `k` (a `ReversingChecker` row), followed to the un-reflected
    dunder of `k` it calls; only the forms the theorems use -/
def reflectedRow : Bin → Num → Option Prim
  | .add, .int   => Prim.op2 "arithmetic.int" "int" "iadd"
  | .add, .float => Prim.op2 "arithmetic.float" "float" "fadd"
  | .sub, .float => Prim.op2 "arithmetic.float" "float" "fsub"
  | _,    _      => none

/-- One evaluation, because the kernel decodes the table's strings once per declaration. -/
theorem table_rows :
    (∀ o ∈ Bin.all, ∀ k ∈ Num.all, ∀ p ∈ leftRow o k, table.leftOp? o.sym k.name = some p) ∧
    (∀ o ∈ Bin.all, ∀ k ∈ Num.all, ∀ p ∈ reflectedRow o k, table.reflectedOp? o.sym k.name = some p) ∧
    (∀ u ∈ Un.all, ∀ k ∈ Num.all, ∀ p ∈ unaryRow u k, table.unaryOp? u.sym k.name = some p) ∧
    (∀ f ∈ Fn.all, ∀ k ∈ Num.all, ∀ p ∈ builtinRow f k, table.builtinOp? f.name k.name = some p) ∧
    table.reversedMeth? "__rsub__" "int" = some (.op2 "arithmetic.int" "int" "isub") ∧
    table.reversedMeth? "__radd__" "int" = some (.op2 "arithmetic.int" "int" "iadd") := by
  decide +kernel

theorem left_row (o : Bin) (k : Num) {p : Prim} (h : leftRow o k = some p) : table.leftOp? o.sym k.name = some p :=
  table_rows.1 o o.mem_all k k.mem_all p h

theorem reflected_row (o : Bin) (k : Num) {p : Prim} (h : reflectedRow o k = some p) :
    table.reflectedOp? o.sym k.name = some p :=
  table_rows.2.1 o o.mem_all k k.mem_all p h

theorem unary_row (u : Un) (k : Num) {p : Prim} (h : unaryRow u k = some p) : table.unaryOp? u.sym k.name = some p :=
  table_rows.2.2.1 u u.mem_all k k.mem_all p h

theorem builtin_row (f : Fn) (k : Num) {p : Prim} (h : builtinRow f k = some p) :
    table.builtinOp? f.name k.name = some p :=
  table_rows.2.2.2.1 f f.mem_all k k.mem_all p h

theorem rsub_row : table.reversedMeth? "__rsub__" "int" = some (.op2 "arithmetic.int" "int" "isub") :=
  table_rows.2.2.2.2.1

theorem radd_row : table.reversedMeth? "__radd__" "int" = some (.op2 "arithmetic.int" "int" "iadd") :=
  table_rows.2.2.2.2.2

theorem int_pow_eval (a b : W) :
    evalBin table "**" (.int a) (.int b) = guarded (ilt_s b (BitVec.ofInt 64 0)) (.ok (.int (ipow a b))) := by
  rfl  -- the tactic: a proof that is the bare term `rfl` is evaluated twice (once more when the command is elaborated)

end GuppyVerif.C04
