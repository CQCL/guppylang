import GuppyVerif.Lemmas.Basic
import GuppyVerif.Spec.C06
/-! C06: the checker's `Scope` bookkeeping for a single leaf, as an automaton (`cstep`/`crun`) over
    the leaf's events, on the four bits kept of a leaf (in `vars`? kind of the stored place? in
    `used_local`? in `used_parent`?).  On well-kinded events the bits determine kind and ownership
    (`LeafSt.kind`, `LeafSt.held`), so a run of the automaton is a run of `runEvs`; where it stops
    (`Stuck`, `Stuck.crash_head`) on a user error the semantics stops (`stuck_sem`). -/
namespace GuppyVerif.Linearity

structure LeafSt where
  inVars : Bool
  kLoc : Bool
  usedLocal : Bool
  usedParent : Bool

/-- the checker's bookkeeping for one leaf under one event; `none` = some error -/
def cstep (inPar : Bool) (c : LeafSt) (e : Ev) : Option LeafSt :=
  match e.op with
  | .use =>
    if c.inVars then (if c.usedLocal && e.lin then none else some { c with usedLocal := true })
    else if inPar then (if c.usedParent && e.lin then none else some { c with usedParent := true })
    else none
  | .give => some { c with inVars := true, kLoc := e.lin, usedLocal := false }
  | .asg =>
    if c.inVars && !c.usedLocal && c.kLoc then none
    else some { c with inVars := true, kLoc := e.lin, usedLocal := false }

def crun (inPar : Bool) (c : LeafSt) (es : List Ev) : Option LeafSt := es.foldlM (cstep inPar) c

theorem runEvs_eq_foldlM (o : Bool) (es : List Ev) : runEvs o es = es.foldlM Ev.step o := by
  induction es generalizing o with
  | nil => rfl
  | cons e es ih =>
    rw [List.foldlM_cons, runEvs]
    cases Ev.step o e <;> simp [ih]

theorem krun_eq_foldlM (k : Option Bool) (es : List Ev) : krun k es = es.foldlM Ev.kstep k := by
  induction es generalizing k with
  | nil => rfl
  | cons e es ih =>
    rw [List.foldlM_cons, krun]
    cases Ev.kstep k e <;> simp [ih]

theorem crun_append (inPar : Bool) (c : LeafSt) (es fs : List Ev) :
    crun inPar c (es ++ fs) = (crun inPar c es).bind fun c' => crun inPar c' fs :=
  List.foldlM_append ..

theorem runEvs_append (o : Bool) (es fs : List Ev) :
    runEvs o (es ++ fs) = (runEvs o es).bind fun o' => runEvs o' fs := by
  simp only [runEvs_eq_foldlM]
  exact List.foldlM_append ..

theorem krun_append (k : Option Bool) (es fs : List Ev) :
    krun k (es ++ fs) = (krun k es).bind fun k' => krun k' fs := by
  simp only [krun_eq_foldlM]
  exact List.foldlM_append ..

theorem crun_cons_some {inPar : Bool} {c c1 : LeafSt} {e : Ev} {es : List Ev} :
    crun inPar c (e :: es) = some c1 ↔ ∃ c', cstep inPar c e = some c' ∧ crun inPar c' es = some c1 :=
  List.foldlM_cons_eq_some

theorem runEvs_cons_some {o o1 : Bool} {e : Ev} {es : List Ev} :
    runEvs o (e :: es) = some o1 ↔ ∃ o', Ev.step o e = some o' ∧ runEvs o' es = some o1 := by
  simp only [runEvs_eq_foldlM]
  exact List.foldlM_cons_eq_some

theorem krun_cons_some {k k1 : Option Bool} {e : Ev} {es : List Ev} :
    krun k (e :: es) = some k1 ↔ ∃ k', Ev.kstep k e = some k' ∧ krun k' es = some k1 := by
  simp only [krun_eq_foldlM]
  exact List.foldlM_cons_eq_some

@[simp] theorem mem_ins (x y : Leaf) (l : List Leaf) : y ∈ ins x l ↔ y ∈ l ∨ y = x :=
  List.mem_addNew

@[simp] theorem mem_filter_ne (x y : Leaf) (l : List Leaf) : y ∈ l.filter (· != x) ↔ y ∈ l ∧ y ≠ x :=
  List.mem_filter_bne

theorem Ev.step_use (o k : Bool) : Ev.step o ⟨.use, k⟩ = if k && !o then none else some (o && !k) := by
  cases k <;> cases o <;> rfl

theorem Ev.step_give (o k : Bool) : Ev.step o ⟨.give, k⟩ = some (o || k) := by
  cases k <;> cases o <;> rfl

theorem Ev.step_asg (o k : Bool) : Ev.step o ⟨.asg, k⟩ = if o then none else some k := rfl

theorem Ev.kstep_use {k k' : Option Bool} {el : Bool} (h : Ev.kstep k ⟨.use, el⟩ = some k') :
    k = some el ∧ k' = k := by
  simp only [Ev.kstep] at h
  split at h <;> cases h
  exact ⟨‹_›, rfl⟩

theorem Ev.kstep_give {k k' : Option Bool} {el : Bool} (h : Ev.kstep k ⟨.give, el⟩ = some k') :
    (k = some el ∨ k = none) ∧ k' = some el := by
  simp only [Ev.kstep] at h
  split at h <;> cases h
  exact ⟨‹_›, rfl⟩

theorem Ev.kstep_asg {k k' : Option Bool} {el : Bool} (h : Ev.kstep k ⟨.asg, el⟩ = some k') : k' = some el :=
  (Option.some.inj h).symm

theorem Ev.step_linear {o o' : Bool} {k k' : Option Bool} {e : Ev} (hs : Ev.step o e = some o')
    (hk : Ev.kstep k e = some k') (h : o = true → k = some true) : o' = true → k' = some true := by
  rcases e with ⟨op, el⟩
  rintro rfl
  cases op <;> cases el <;> cases o <;> simp [Ev.step] at hs <;> simp_all [Ev.kstep]

theorem runEvs_linear {es : List Ev} {o o' : Bool} {k k' : Option Bool} (hs : runEvs o es = some o')
    (hk : krun k es = some k') (h : o = true → k = some true) : o' = true → k' = some true := by
  induction es generalizing o k with
  | nil => cases hs; cases hk; exact h
  | cons e es ih =>
    obtain ⟨_, hs1, hs⟩ := runEvs_cons_some.mp hs
    obtain ⟨_, hk1, hk⟩ := krun_cons_some.mp hk
    exact ih hs hk (Ev.step_linear hs1 hk1 h)

/-- the three ways a step of the bookkeeping succeeds: a (re)binding by `give`/`asg`, a read of a
    binding of the block, a read through the parent scope -/
theorem cstep_eq {inPar : Bool} {c c' : LeafSt} {e : Ev} (h : cstep inPar c e = some c') :
    (e.op ≠ .use ∧ (e.op = .asg → c.inVars = true → (c.kLoc && !c.usedLocal) = false) ∧
      c' = ⟨true, e.lin, false, c.usedParent⟩) ∨
    (e.op = .use ∧ c.inVars = true ∧ (c.usedLocal && e.lin) = false ∧ c' = { c with usedLocal := true }) ∨
    (e.op = .use ∧ c.inVars = false ∧ inPar = true ∧ (c.usedParent && e.lin) = false ∧
      c' = { c with usedParent := true }) := by
  rcases e with ⟨op, el⟩
  cases op <;> simp only [cstep] at h
  · right
    split at h
    · rename_i ha
      split at h <;> cases h
      rename_i hb
      exact Or.inl ⟨rfl, ha, by simpa using hb, rfl⟩
    · rename_i ha
      split at h
      · rename_i hp
        split at h <;> cases h
        rename_i hd
        exact Or.inr ⟨rfl, by simpa using ha, hp, by simpa using hd, rfl⟩
      · cases h
  · cases h; exact Or.inl ⟨by simp, by simp, rfl⟩
  · split at h <;> cases h
    rename_i hc
    refine Or.inl ⟨by simp, fun _ ha => ?_, rfl⟩
    cases hb : c.usedLocal <;> cases hk : c.kLoc <;> simp_all

/-- what a run of the bookkeeping never undoes: a leaf stays bound in the block and stays read from
    the parent; once bound, or with no parent, reads no longer reach the parent -/
structure LeafSt.Ext (inPar : Bool) (c c' : LeafSt) : Prop where
  inVars : c.inVars = true → c'.inVars = true
  usedParent : c.usedParent = true → c'.usedParent = true
  frozen_of_inVars : c.inVars = true → c'.usedParent = c.usedParent
  frozen_of_not_par : inPar = false → c'.usedParent = c.usedParent

theorem LeafSt.Ext.refl (inPar : Bool) (c : LeafSt) : LeafSt.Ext inPar c c := ⟨id, id, fun _ => rfl, fun _ => rfl⟩

theorem LeafSt.Ext.trans {inPar : Bool} {c c' c'' : LeafSt} (h : LeafSt.Ext inPar c c') (h' : LeafSt.Ext inPar c' c'') :
    LeafSt.Ext inPar c c'' :=
  ⟨fun x => h'.inVars (h.inVars x), fun x => h'.usedParent (h.usedParent x),
    fun x => (h'.frozen_of_inVars (h.inVars x)).trans (h.frozen_of_inVars x),
    fun x => (h'.frozen_of_not_par x).trans (h.frozen_of_not_par x)⟩

theorem cstep_mono {inPar : Bool} {c c' : LeafSt} {e : Ev} (h : cstep inPar c e = some c') : LeafSt.Ext inPar c c' := by
  rcases cstep_eq h with ⟨-, -, rfl⟩ | ⟨-, -, -, rfl⟩ | ⟨-, ha, hp, -, rfl⟩
  · exact ⟨fun _ => rfl, id, fun _ => rfl, fun _ => rfl⟩
  · exact ⟨id, id, fun _ => rfl, fun _ => rfl⟩
  · refine ⟨id, fun _ => rfl, fun h => ?_, fun h => ?_⟩
    · rw [ha] at h; cases h
    · rw [hp] at h; cases h

theorem crun_mono {inPar : Bool} {es : List Ev} {c c1 : LeafSt} (h : crun inPar c es = some c1) :
    LeafSt.Ext inPar c c1 := by
  induction es generalizing c with
  | nil => cases h; exact .refl _ _
  | cons e es ih =>
    obtain ⟨c', h1, h⟩ := crun_cons_some.mp h
    exact (cstep_mono h1).trans (ih h)

/-- the kind of the binding in force, read off the bookkeeping; `k0` = kind in the input row -/
def LeafSt.kind (k0 : Option Bool) (c : LeafSt) : Option Bool := if c.inVars then some c.kLoc else k0

/-- whether a linear value is held, read off the bookkeeping; `o0` = held on entering the block -/
def LeafSt.held (o0 : Bool) (c : LeafSt) : Bool :=
  if c.inVars then c.kLoc && !c.usedLocal else !c.usedParent && o0

theorem LeafSt.held_linear {o0 : Bool} {k0 : Option Bool} (hK : k0 ≠ some true → o0 = false) (c : LeafSt) :
    c.held o0 = true → c.kind k0 = some true := by
  rcases c with ⟨a, kl, b, d⟩
  cases a <;> simp [LeafSt.held, LeafSt.kind]
  · intro _ h; exact Decidable.by_contra fun hn => by simp [hK hn] at h
  · intro h _; exact h

theorem cstep_sound {inPar : Bool} {c c' : LeafSt} {e : Ev} {o0 o' : Bool} {k0 k' : Option Bool}
    (hK : k0 ≠ some true → o0 = false) (h : cstep inPar c e = some c')
    (hk : Ev.kstep (c.kind k0) e = some k') (hs : Ev.step (c.held o0) e = some o') :
    k' = c'.kind k0 ∧ o' = c'.held o0 := by
  have hl := c.held_linear hK
  rcases e with ⟨op, el⟩
  rcases cstep_eq h with ⟨hop, -, rfl⟩ | ⟨hop, ha, -, rfl⟩ | ⟨hop, ha, -, -, rfl⟩
  · -- the new binding has the kind of the event, and holds a value iff that kind is linear
    cases op
    · exact absurd rfl hop
    · obtain ⟨hkd, rfl⟩ := Ev.kstep_give hk
      simp only [Ev.step_give, Option.some.injEq] at hs
      subst hs
      refine ⟨rfl, ?_⟩
      cases el
      · cases ho : c.held o0
        · rfl
        · rw [hl ho] at hkd; simp at hkd
      · simp [LeafSt.held]
    · simp only [Ev.step_asg] at hs
      split at hs <;> cases hs
      exact ⟨Ev.kstep_asg hk, by simp [LeafSt.held]⟩
  all_goals
    -- `use`: the binding stays, and nothing is held afterwards: an occurrence at a copyable
    -- kind refers to a copyable binding, under which nothing was held
    subst hop
    obtain ⟨hkd, rfl⟩ := Ev.kstep_use hk
    simp only [Ev.step_use] at hs
    split at hs <;> cases hs
    have ho : (c.held o0 && !el) = false := by
      cases el
      · cases ho : c.held o0
        · rfl
        · rw [hl ho] at hkd; simp at hkd
      · simp
    rw [ho]
  · simp [LeafSt.kind, LeafSt.held, ha]
  · simp only [LeafSt.kind, ha, Bool.false_eq_true, if_false] at hkd
    subst hkd
    cases el <;> simp [LeafSt.held, LeafSt.kind, ha, hK]

theorem crun_sound {inPar : Bool} {o0 : Bool} {k0 : Option Bool} (hK : k0 ≠ some true → o0 = false)
    {es : List Ev} {c c1 : LeafSt} {o1 : Bool} {k1 : Option Bool} (h : crun inPar c es = some c1)
    (hk : krun (c.kind k0) es = some k1) (hs : runEvs (c.held o0) es = some o1) :
    k1 = c1.kind k0 ∧ o1 = c1.held o0 := by
  induction es generalizing c with
  | nil => cases h; cases hk; cases hs; exact ⟨rfl, rfl⟩
  | cons e es ih =>
    obtain ⟨c', h1, h⟩ := crun_cons_some.mp h
    obtain ⟨k', hk1, hk⟩ := krun_cons_some.mp hk
    obtain ⟨o', hs1, hs⟩ := runEvs_cons_some.mp hs
    obtain ⟨rfl, rfl⟩ := cstep_sound hK h1 hk1 hs1
    exact ih h hk hs

/-- `hA`: a first read at a linear kind finds a value held on entering the block; `hB`: a first
    assignment finds none -/
theorem cstep_step_isSome {inPar : Bool} {c c' : LeafSt} {e : Ev} {o0 : Bool} {k0 k' : Option Bool}
    (h : cstep inPar c e = some c')
    (hk : Ev.kstep (c.kind k0) e = some k')
    (hA : c'.usedParent = true → c.usedParent = false → k0 = some true → o0 = true)
    (hB : c'.inVars = true → c'.usedParent = false → c.inVars = false → e.op = Op.asg → o0 = false) :
    ∃ o', Ev.step (c.held o0) e = some o' := by
  rcases e with ⟨op, el⟩
  rcases cstep_eq h with ⟨hop, hasg, rfl⟩ | ⟨hop, ha, hu, rfl⟩ | ⟨hop, ha, -, hu, rfl⟩
  · cases op
    · exact absurd rfl hop
    · exact ⟨_, Ev.step_give _ _⟩
    · -- under a local binding the bookkeeping has checked that nothing is held
      have : c.held o0 = false := by
        cases ha : c.inVars
        · simp only [LeafSt.held, ha, Bool.false_eq_true, if_false]
          cases hd : c.usedParent
          · simpa using hB rfl hd ha rfl
          · rfl
        · simpa [LeafSt.held, ha] using hasg rfl ha
      exact ⟨el, by rw [Ev.step_asg, this]; rfl⟩
  all_goals
    subst hop
    obtain ⟨hkd, -⟩ := Ev.kstep_use hk
    rw [Ev.step_use]
    cases el
    · exact ⟨_, rfl⟩
    simp only [Bool.and_true] at hu
    simp only [LeafSt.kind, ha, Bool.false_eq_true, if_true, if_false, Option.some.injEq] at hkd
  · exact ⟨false, by simp [LeafSt.held, ha, hkd, hu]⟩
  · exact ⟨false, by simp [LeafSt.held, ha, hu, hA rfl hu hkd]⟩

/-- `hA`, `hB` as in `cstep_step_isSome` -/
theorem crun_sim {inPar : Bool} {o0 : Bool} {k0 : Option Bool} (hK : k0 ≠ some true → o0 = false)
    {es : List Ev} {c c1 : LeafSt} {k1 : Option Bool} (h : crun inPar c es = some c1)
    (hk : krun (c.kind k0) es = some k1)
    (hA : c1.usedParent = true → c.usedParent = false → k0 = some true → o0 = true)
    (hB : c1.inVars = true → c1.usedParent = false → c.inVars = false → o0 = false) :
    runEvs (c.held o0) es = some (c1.held o0) ∧ k1 = c1.kind k0 := by
  induction es generalizing c with
  | nil => cases h; cases hk; exact ⟨rfl, rfl⟩
  | cons e es ih =>
    obtain ⟨c', h1, h⟩ := crun_cons_some.mp h
    obtain ⟨k', hk1, hk⟩ := krun_cons_some.mp hk
    have a := cstep_mono h1
    have b := crun_mono h
    obtain ⟨o', hs1⟩ := cstep_step_isSome h1 hk1 (fun x y z => hA (b.usedParent x) y z)
      (fun x y z _ => hB (b.inVars x) ((b.frozen_of_inVars x).trans y) z)
    obtain ⟨rfl, rfl⟩ := cstep_sound hK h1 hk1 hs1
    have := ih h hk
      (fun x y z => hA x (by
        cases hc : c.usedParent with
        | false => rfl
        | true => rw [a.usedParent hc] at y; cases y) z)
      (fun x y z => hB x y (by
        cases hc : c.inVars with
        | false => rfl
        | true => rw [a.inVars hc] at z; cases z))
    exact ⟨runEvs_cons_some.mpr ⟨_, hs1, this.1⟩, this.2⟩

def Ev.isUse' (e : Ev) : Prop := e.op = Op.use

theorem head_isUse_iff {es : List Ev} : es.head?.map Ev.isUse = some true ↔ ∃ k r, es = ⟨.use, k⟩ :: r := by
  cases es with
  | nil => simp
  | cons e es =>
    rcases e with ⟨op, el⟩
    cases op <;> simp [Ev.isUse]

theorem crun_usedParent_head {inPar : Bool} {es : List Ev} {c c1 : LeafSt} (h : crun inPar c es = some c1)
    (hu : c.usedParent = false) (h1 : c1.usedParent = true) :
    es.head?.map Ev.isUse = some true := by
  cases es with
  | nil => cases h; rw [hu] at h1; cases h1
  | cons e es =>
    obtain ⟨c', hc, h⟩ := crun_cons_some.mp h
    rcases cstep_eq hc with ⟨-, -, rfl⟩ | ⟨hop, -⟩ | ⟨hop, -⟩
    · rw [(crun_mono h).frozen_of_inVars rfl, hu] at h1; cases h1
    all_goals simp [Ev.isUse, hop]

theorem crun_use_first {inPar : Bool} {es : List Ev} {c1 : LeafSt} {k : Bool}
    (h : crun inPar ⟨false, false, false, false⟩ (⟨Op.use, k⟩ :: es) = some c1) : c1.usedParent = true := by
  obtain ⟨c', hc, h⟩ := crun_cons_some.mp h
  rcases cstep_eq hc with ⟨hop, -⟩ | ⟨-, ha, -⟩ | ⟨-, -, -, -, rfl⟩
  · exact absurd rfl hop
  · cases ha
  · exact (crun_mono h).usedParent rfl

theorem crun_untouched {inPar : Bool} {es : List Ev} {c c1 : LeafSt} (h : crun inPar c es = some c1)
    (hv1 : c1.inVars = false) (hu1 : c1.usedParent = false) (hv : c.inVars = false) : es = [] := by
  cases es with
  | nil => rfl
  | cons e es =>
    exfalso
    obtain ⟨c', hc, h⟩ := crun_cons_some.mp h
    have b := crun_mono h
    rcases cstep_eq hc with ⟨-, -, rfl⟩ | ⟨-, ha, -⟩ | ⟨-, -, -, -, rfl⟩
    · rw [b.inVars rfl] at hv1; cases hv1
    · rw [hv] at ha; cases ha
    · rw [b.usedParent rfl] at hu1; cases hu1

/-- the bookkeeping raises a user error at this event -/
def CFail (inPar : Bool) (c : LeafSt) (e : Ev) : Prop :=
  match e.op with
  | .use => e.lin = true ∧ ((c.inVars = true ∧ c.usedLocal = true) ∨
      (c.inVars = false ∧ inPar = true ∧ c.usedParent = true))
  | .give => False
  | .asg => c.inVars = true ∧ c.usedLocal = false ∧ c.kLoc = true

/-- the bookkeeping stops within `es`, where the checker reports `err`: `crash` for a read of a
    place that is in no scope, else a user error -/
def Stuck (inPar : Bool) (c : LeafSt) (es : List Ev) (err : Err) : Prop :=
  ∃ pre e post c', es = pre ++ e :: post ∧ crun inPar c pre = some c' ∧
    if err = .crash then e.op = .use ∧ c'.inVars = false ∧ inPar = false else CFail inPar c' e

theorem Stuck.append_right {inPar : Bool} {c : LeafSt} {es : List Ev} {err : Err} (more : List Ev)
    (h : Stuck inPar c es err) : Stuck inPar c (es ++ more) err := by
  obtain ⟨pre, e, post, c', h1, h2, h3⟩ := h
  exact ⟨pre, e, post ++ more, c', by simp [h1], h2, h3⟩

theorem Stuck.prepend {inPar : Bool} {c c1 : LeafSt} {es0 es : List Ev} {err : Err}
    (h0 : crun inPar c es0 = some c1) (h : Stuck inPar c1 es err) : Stuck inPar c (es0 ++ es) err := by
  obtain ⟨pre, e, post, c', h1, h2, h3⟩ := h
  exact ⟨es0 ++ pre, e, post, c', by simp [h1], by rw [crun_append, h0]; exact h2, h3⟩

/-- a place in no scope can only be met by the first event: afterwards the leaf is bound -/
theorem Stuck.crash_head {inPar : Bool} {c : LeafSt} {es : List Ev} (h : Stuck inPar c es .crash) :
    inPar = false ∧ c.inVars = false ∧ es.head?.map Ev.isUse = some true := by
  obtain ⟨pre, e, post, c', rfl, h2, h3⟩ := h
  obtain ⟨hop, hv, hp⟩ : e.op = .use ∧ c'.inVars = false ∧ inPar = false := by simpa using h3
  cases pre with
  | nil => cases h2; exact ⟨hp, hv, by simp [Ev.isUse, hop]⟩
  | cons e0 pre =>
    exfalso
    obtain ⟨c1, hc, h2⟩ := crun_cons_some.mp h2
    have hm := (crun_mono h2).inVars
    rcases cstep_eq hc with ⟨-, -, rfl⟩ | ⟨-, ha, -, rfl⟩ | ⟨-, -, hp', -⟩
    · rw [hm rfl] at hv; cases hv
    · rw [hm ha] at hv; cases hv
    · rw [hp] at hp'; cases hp'

theorem cfail_sem {inPar : Bool} {c : LeafSt} {e : Ev} {o0 : Bool} (hf : CFail inPar c e) :
    Ev.step (c.held o0) e = none := by
  rcases e with ⟨op, el⟩
  cases op <;> simp only [CFail] at hf
  · -- a linear binding that was already used holds nothing
    obtain ⟨rfl, hf⟩ := hf
    have : c.held o0 = false := by
      rcases hf with ⟨ha, hb⟩ | ⟨ha, -, hd⟩
      · simp [LeafSt.held, ha, hb]
      · simp [LeafSt.held, ha, hd]
    rw [Ev.step_use, this]; rfl
  · obtain ⟨ha, hb, hk⟩ := hf
    have : c.held o0 = true := by simp [LeafSt.held, ha, hb, hk]
    rw [Ev.step_asg, this]; rfl

theorem stuck_sem {inPar : Bool} {c : LeafSt} {es more : List Ev} {err : Err} {o0 : Bool} {k0 k1 : Option Bool}
    (hf : Stuck inPar c es err) (he : err ≠ .crash) (hK : k0 ≠ some true → o0 = false)
    (hk : krun (c.kind k0) (es ++ more) = some k1) : runEvs (c.held o0) (es ++ more) = none := by
  obtain ⟨pre, e, post, c', rfl, h2, h3⟩ := hf
  rw [if_neg he] at h3
  rw [List.append_assoc, krun_append] at hk
  rw [List.append_assoc, runEvs_append]
  cases hp : runEvs (c.held o0) pre with
  | none => rfl
  | some o' =>
    cases hkp : krun (c.kind k0) pre with
    | none => simp [hkp] at hk
    | some k' =>
      rw [hkp] at hk
      obtain ⟨-, rfl⟩ := crun_sound hK h2 hkp hp
      simp only [Option.bind, List.cons_append, runEvs, cfail_sem h3]

end GuppyVerif.Linearity
