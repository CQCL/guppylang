import GuppyVerif.Spec.C14
/-! What needs no induction over types: bounds, table rows, the model's list recursions as `map` / `all`, `opaqueEval`. -/
namespace GuppyVerif.CopyDrop
open GuppyVerif

theorem join_copyable_right (x : HBound) : x.join .copyable = x := by cases x <;> rfl
theorem join_copyable_left (x : HBound) : HBound.join .copyable x = x := by cases x <;> rfl
theorem join_eq_copyable {x y : HBound} : x.join y = .copyable ↔ x = .copyable ∧ y = .copyable := by
  cases x <;> cases y <;> simp [HBound.join]
theorem join_eq_linear {x y : HBound} : x.join y = .linear ↔ x = .linear ∨ y = .linear := by
  cases x <;> cases y <;> simp [HBound.join]
theorem bound_ne_copyable {x : HBound} : x ≠ .copyable ↔ x = .linear := by cases x <;> simp
theorem isCopyable_iff {x : HBound} : x.isCopyable = true ↔ x = .copyable := by
  cases x <;> simp [HBound.isCopyable]

theorem lookup_mem {D : List OpaqueDef} {n : String} {d : OpaqueDef} (hl : lookup D n = some d) : d ∈ D :=
  List.mem_of_find?_eq_some hl

theorem isJoin_eq {r : ExtRule} (h : r.isJoin = true) : r = .joinArgs := by
  cases r <;> simp_all [ExtRule.isJoin]
theorem isExplicitLinear_eq {r : ExtRule} (h : r.isExplicitLinear = true) : r = .explicit .linear := by
  cases r with
  | explicit b => cases b <;> simp_all [ExtRule.isExplicitLinear]
  | joinArgs => simp [ExtRule.isExplicitLinear] at h

theorem tableOk_iff {aff : List String} {D : List OpaqueDef} : tableOk aff D = true ↔ TableOk aff D := by
  simp [tableOk, TableOk, List.all_eq_true]

theorem rowOk_bound {aff : List String} {d : OpaqueDef} (hr : rowOk aff d = true) {b : HBound}
    (hb : d.bound = some b) : d.params = [] ∧ b.isCopyable = !d.neverCopyable := by
  simp only [rowOk, hb, Bool.and_eq_true, List.isEmpty_iff, beq_iff_eq] at hr
  exact hr.1

theorem rowOk_shape {aff : List String} {d : OpaqueDef} (hr : rowOk aff d = true) {sh : Shape}
    (hs : d.shape = sh) :
    match sh with
    | .static h => (typeBound h = .copyable ↔ d.neverCopyable = false) ∧
        (typeBound h = .linear → d.neverDroppable = false → requiresDrop aff h = true) ∧
        (typeBound h = .copyable → requiresDrop aff h = false)
    | .listOpt e r | .staticArray e r =>
        r = .joinArgs ∧ d.neverCopyable = false ∧ d.neverDroppable = false ∧ e ∉ aff
    | .array e r =>
        r = .explicit .linear ∧ d.neverCopyable = true ∧ d.neverDroppable = false ∧ e ∈ aff
    | .underlying | .option | .either => d.neverCopyable = false ∧ d.neverDroppable = false
    | .ext1 _ r => r = .explicit .linear ∧ d.neverCopyable = true ∧ d.neverDroppable = true
    | .unknown => False := by
  simp only [rowOk, hs, Bool.and_eq_true] at hr
  replace hr := hr.2
  cases sh <;> simp only [Bool.and_eq_true, Bool.not_eq_true', Bool.or_eq_true, beq_iff_eq] at hr
  case static h =>
    obtain ⟨⟨⟨_, h2⟩, h3⟩, h4⟩ := hr
    cases hb : typeBound h <;> simp_all [HBound.isCopyable]
    intro hd; simpa [hd] using h3
  case listOpt => exact ⟨isJoin_eq hr.1.1.1.1, hr.1.1.1.2, hr.1.1.2, by simpa using hr.1.2⟩
  case array => exact ⟨isExplicitLinear_eq hr.1.1.1.1, hr.1.1.1.2, hr.1.1.2, by simpa using hr.1.2⟩
  case staticArray => exact ⟨isJoin_eq hr.1.1.1.1.1, hr.1.1.1.1.2, hr.1.1.1.2, by simpa using hr.1.1.2⟩
  case underlying | option | either => exact ⟨hr.1.1, hr.1.2⟩
  case ext1 => exact ⟨isExplicitLinear_eq hr.1.1.1, hr.1.1.2, hr.1.2⟩
  case unknown => exact absurd hr (by simp)

theorem mem_typeArgs {as : List Arg} {t : Ty} : t ∈ typeArgs as ↔ Arg.ty t ∈ as := by
  induction as with
  | nil => simp [typeArgs]
  | cons a r ih => cases a <;> simp [typeArgs, ih]

theorem flagGList_eq_all (D : List OpaqueDef) (u : Bool) (s : Sel) (ρ : List Bool) (ts : List Ty) :
    flagGList D u s ρ ts = ts.all (flagG D u s ρ) := by
  induction ts with
  | nil => simp [flagGList]
  | cons t r ih => simp [flagGList, ih]

theorem flagGArgs_eq_all (D : List OpaqueDef) (u : Bool) (s : Sel) (ρ : List Bool) (as : List Arg) :
    flagGArgs D u s ρ as = (typeArgs as).all (flagG D u s ρ) := by
  induction as with
  | nil => simp [flagGArgs, typeArgs]
  | cons a r ih => cases a <;> simp [flagGArgs, typeArgs, ih]

def argFlag (D : List OpaqueDef) (u : Bool) (s : Sel) (ρ : List Bool) : Arg → Bool
  | .ty t => flagG D u s ρ t
  | .const _ => true

theorem flagEnvArgs_eq_map (D : List OpaqueDef) (u : Bool) (s : Sel) (ρ : List Bool) :
    ∀ as : List Arg, flagEnvArgs D u s ρ as = as.map (argFlag D u s ρ)
  | [] => rfl
  | .ty _ :: r | .const _ :: r => by simp only [flagEnvArgs, List.map, argFlag, flagEnvArgs_eq_map D u s ρ r]

theorem flagGArgs_eq_all_env (D : List OpaqueDef) (u : Bool) (s : Sel) (ρ : List Bool) :
    ∀ as : List Arg, flagGArgs D u s ρ as = (flagEnvArgs D u s ρ as).all id
  | [] => rfl
  | .ty _ :: r | .const _ :: r => by simp [flagGArgs, flagEnvArgs, flagGArgs_eq_all_env D u s ρ r]

def argEnv (D : List OpaqueDef) (ρ : List EnvE) : Arg → EnvE
  | .ty t => .ty (flagE D .copy (flagEnv .copy ρ) t) (flagE D .drop (flagEnv .drop ρ) t) (toHugrE D ρ t)
      (rowOf ρ t (toHugrE D ρ t))
  | .const c => .const (constArgE ρ c)

theorem envArgs_eq_map (D : List OpaqueDef) (ρ : List EnvE) :
    ∀ as : List Arg, envArgs D ρ as = as.map (argEnv D ρ)
  | [] => rfl
  | .ty _ :: r | .const _ :: r => by simp only [envArgs, List.map, argEnv, envArgs_eq_map D ρ r]

/-- `toHugrE` on an opaque type, as a function of the environment entries of its arguments -/
def opaqueEval (D : List OpaqueDef) (n : String) (xs : List EnvE) : Option HTy :=
  match lookup D n with
  | none => none
  | some d =>
    match d.shape, xs with
    | .static h, [] => some h
    | .listOpt e r, [.ty c dr ht _] => do
        let h ← ht
        some (.ext e r [.ty (if !c && !dr then optionOf h else h)])
    | .array e r, [.ty _ _ ht _, .const c] => do
        let h ← ht
        let a ← c
        some (.ext e r [a, .ty h])
    | .staticArray e r, [.ty _ _ ht _, .const _] => do
        let h ← ht
        if typeBound h = .copyable then some (.ext e r [.ty h]) else none
    | .underlying, [.ty _ _ ht _, .const _] => ht
    | .option, [.ty _ _ ht _] => do some (optionOf (← ht))
    | .either, [.ty _ _ _ lr, .ty _ _ _ rr] => do
        let ls ← lr
        let rs ← rr
        some (.sum [.mk ls, .mk rs])
    | .ext1 e r, [.ty _ _ ht _] => do some (.ext e r [.ty (← ht)])
    | _, _ => none

theorem toHugrE_opaque_eq (D : List OpaqueDef) (ρ : List EnvE) (n : String) (as : List Arg) :
    toHugrE D ρ (.opaque n as) = opaqueEval D n (envArgs D ρ as) := by
  simp only [toHugrE, opaqueEval, envArgs_eq_map]
  cases lookup D n with
  | none => rfl
  | some d =>
    -- every shape against every form of argument list of length ≤ 2: both sides compute
    obtain ⟨_, _, _, _, _, sh⟩ := d
    cases sh <;> rcases as with _ | ⟨_ | _, _ | ⟨_ | _, _ | _⟩⟩ <;> rfl

end GuppyVerif.CopyDrop
