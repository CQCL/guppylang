import GuppyVerif.Lemmas.Basic
import GuppyVerif.Model.Builder
/-! # C03: builder states, the extension order, execution steps
`Ext σ bl`: the block list `bl` (a later state of the CFG, or the final CFG) extends `σ`: every block of `σ` is
still there, its statements a prefix of the later ones, and a block that already has successors in `σ` (a *closed*
block) is unchanged up to dummy edges.  Executions transfer along `Ext`. -/
namespace GuppyVerif.Builder
open GuppyVerif.Surface

/-- block `i` of a block list; out of range, the empty block -/
def blkL (bl : List Block) (i : Nat) : Block := bl[i]?.getD {}
abbrev BState.blk (σ : BState) (i : Nat) : Block := blkL σ.blocks i
abbrev BState.len (σ : BState) : Nat := σ.blocks.length

theorem blkL_some {bl : List Block} {i : Nat} (h : i < bl.length) : bl[i]? = some (blkL bl i) := by
  simp [blkL, List.getElem?_eq_getElem h]

/-! Every operation that changes blocks is `BState.upd` of one block or `newBB`; out of range `blk` reads the empty
block, which is also what `newBB` appends, so `newBB` changes no `blk` at all. -/

@[simp] theorem len_upd (σ : BState) (i : Nat) (f : Block → Block) : (σ.upd i f).len = σ.len := by
  simp [BState.upd, BState.len]
@[simp] theorem tmp_upd (σ : BState) (i : Nat) (f : Block → Block) : (σ.upd i f).nextTmp = σ.nextTmp := rfl

theorem empty_of_ge (σ : BState) {i : Nat} (h : σ.len ≤ i) : σ.blk i = {} := by
  simp [BState.blk, blkL, List.getElem?_eq_none h]

theorem blk_upd (σ : BState) (i j : Nat) (f : Block → Block) :
    (σ.upd i f).blk j = if i = j ∧ j < σ.len then f (σ.blk j) else σ.blk j := by
  simp only [BState.upd, BState.blk, blkL, List.getElem?_modify]
  by_cases h : j < σ.blocks.length
  · rw [List.getElem?_eq_getElem h]; by_cases hij : i = j <;> simp [hij, h]
  · simp [h]

theorem blk_upd_same (σ : BState) (i : Nat) (f : Block → Block) (h : i < σ.len) :
    (σ.upd i f).blk i = f (σ.blk i) := by rw [blk_upd, if_pos ⟨rfl, h⟩]
theorem blk_upd_other (σ : BState) (i j : Nat) (f : Block → Block) (h : j ≠ i) :
    (σ.upd i f).blk j = σ.blk j := by rw [blk_upd, if_neg fun h' => h h'.1.symm]

theorem upd_upd (σ : BState) (i : Nat) (f g : Block → Block) : (σ.upd i f).upd i g = σ.upd i (g ∘ f) := by
  simp only [BState.upd, List.modify_modify_eq]

@[simp] theorem len_newBB (σ : BState) : (newBB σ).2.len = σ.len + 1 := by simp [newBB, BState.len]
@[simp] theorem fst_newBB (σ : BState) : (newBB σ).1 = σ.len := rfl
@[simp] theorem tmp_newBB (σ : BState) : (newBB σ).2.nextTmp = σ.nextTmp := rfl
theorem blk_newBB (σ : BState) (i : Nat) : (newBB σ).2.blk i = σ.blk i := by
  simp only [newBB, BState.blk, blkL, List.getElem?_append]
  split
  · rfl
  · next h =>
    rw [List.getElem?_eq_none (Nat.le_of_not_lt h)]
    cases i - σ.blocks.length <;> rfl
theorem blk_newBB_new (σ : BState) : (newBB σ).2.blk σ.len = {} := by
  rw [blk_newBB, empty_of_ge σ (Nat.le_refl _)]

theorem branchOn_eq_upd (b : Nat) (p : Expr) (t f : Nat) (σ : BState) :
    branchOn b p t f σ = σ.upd b fun B => { B with pred := some p, succs := B.succs ++ [f] ++ [t] } := by
  simp only [branchOn, link, upd_upd]; rfl

@[simp] theorem len_link (a b : Nat) (σ : BState) : (link a b σ).len = σ.len := len_upd ..
@[simp] theorem len_dummyLink (a b : Nat) (σ : BState) : (dummyLink a b σ).len = σ.len := len_upd ..
@[simp] theorem len_addStmt (b : Nat) (s : BStmt) (σ : BState) : (addStmt b s σ).len = σ.len := len_upd ..
@[simp] theorem tmp_link (a b : Nat) (σ : BState) : (link a b σ).nextTmp = σ.nextTmp := rfl
@[simp] theorem tmp_dummyLink (a b : Nat) (σ : BState) : (dummyLink a b σ).nextTmp = σ.nextTmp := rfl
@[simp] theorem tmp_addStmt (b : Nat) (s : BStmt) (σ : BState) : (addStmt b s σ).nextTmp = σ.nextTmp := rfl
@[simp] theorem len_branchOn (b : Nat) (p : Expr) (t f : Nat) (σ : BState) : (branchOn b p t f σ).len = σ.len := by
  rw [branchOn_eq_upd, len_upd]
@[simp] theorem tmp_branchOn (b : Nat) (p : Expr) (t f : Nat) (σ : BState) :
    (branchOn b p t f σ).nextTmp = σ.nextTmp := rfl
@[simp] theorem len_freshTmp (σ : BState) : (freshTmp σ).2.len = σ.len := rfl
@[simp] theorem blk_freshTmp (σ : BState) (i : Nat) : (freshTmp σ).2.blk i = σ.blk i := rfl
@[simp] theorem tmp_freshTmp (σ : BState) : (freshTmp σ).2.nextTmp = σ.nextTmp + 1 := rfl
theorem blk_bad (σ : BState) (v : Bool) (i : Nat) : ({ σ with bad := v } : BState).blk i = σ.blk i := rfl

@[simp] theorem fst_freshTmp (σ : BState) : (freshTmp σ).1 = σ.nextTmp := rfl

theorem blk_link_same (a b : Nat) (σ : BState) (h : a < σ.len) :
    (link a b σ).blk a = { σ.blk a with succs := (σ.blk a).succs ++ [b] } := blk_upd_same σ a _ h
theorem blk_link_other (a b j : Nat) (σ : BState) (h : j ≠ a) : (link a b σ).blk j = σ.blk j :=
  blk_upd_other σ a j _ h
@[simp] theorem fst_newBB2 (p q : Nat) (σ : BState) : (newBB2 p q σ).1 = σ.len := rfl
@[simp] theorem len_newBB2 (p q : Nat) (σ : BState) : (newBB2 p q σ).2.len = σ.len + 1 := by simp [newBB2]
theorem blk_newBB2 {σ : BState} {p q : Nat} (hp : p < σ.len) (hq : q < σ.len) (hpq : p ≠ q) :
    (newBB2 p q σ).2.blk p = { σ.blk p with succs := (σ.blk p).succs ++ [σ.len] } ∧
    (newBB2 p q σ).2.blk q = { σ.blk q with succs := (σ.blk q).succs ++ [σ.len] } ∧
    ∀ i, i ≠ p → i ≠ q → (newBB2 p q σ).2.blk i = σ.blk i := by
  refine ⟨?_, ?_, fun i hip hiq => ?_⟩ <;> simp only [newBB2, fst_newBB]
  · rw [blk_link_other _ _ _ _ hpq, blk_link_same _ _ _ (by simp; omega), blk_newBB]
  · rw [blk_link_same _ _ _ (by simp; omega), blk_link_other _ _ _ _ hpq.symm, blk_newBB]
  · rw [blk_link_other _ _ _ _ hiq, blk_link_other _ _ _ _ hip, blk_newBB]
theorem blk_dummyLink_same (a b : Nat) (σ : BState) (h : a < σ.len) :
    (dummyLink a b σ).blk a = { σ.blk a with dsuccs := (σ.blk a).dsuccs ++ [b] } := blk_upd_same σ a _ h
theorem blk_dummyLink_other (a b j : Nat) (σ : BState) (h : j ≠ a) : (dummyLink a b σ).blk j = σ.blk j :=
  blk_upd_other σ a j _ h
theorem blk_addStmt_same (b : Nat) (s : BStmt) (σ : BState) (h : b < σ.len) :
    (addStmt b s σ).blk b = { σ.blk b with stmts := (σ.blk b).stmts ++ [s] } := blk_upd_same σ b _ h
theorem blk_addStmt_other (b j : Nat) (s : BStmt) (σ : BState) (h : j ≠ b) : (addStmt b s σ).blk j = σ.blk j :=
  blk_upd_other σ b j _ h
theorem blk_branchOn_same (b : Nat) (p : Expr) (t f : Nat) (σ : BState) (h : b < σ.len) :
    (branchOn b p t f σ).blk b =
      { σ.blk b with pred := some p, succs := (σ.blk b).succs ++ [f] ++ [t] } := by
  rw [branchOn_eq_upd, blk_upd_same _ _ _ h]
theorem blk_branchOn_other (b j : Nat) (p : Expr) (t f : Nat) (σ : BState) (h : j ≠ b) :
    (branchOn b p t f σ).blk j = σ.blk j := by
  rw [branchOn_eq_upd, blk_upd_other _ _ _ _ h]

/-! ### `Touch`: a building step that only changes block `b` (by appending) and fresh blocks -/

structure Touch (σ : BState) (b : Nat) (σ' : BState) : Prop where
  len : σ.len ≤ σ'.len
  tmp : σ.nextTmp ≤ σ'.nextTmp
  frame : ∀ i, i < σ.len → i ≠ b → σ'.blk i = σ.blk i
  pre : (σ.blk b).stmts <+: (σ'.blk b).stmts

theorem Touch.refl (σ : BState) (b : Nat) : Touch σ b σ :=
  ⟨Nat.le_refl _, Nat.le_refl _, fun _ _ _ => rfl, List.prefix_refl _⟩

/-- compose: the second step touches the same block or one that is fresh for the first state -/
theorem Touch.trans {σ σ1 σ2 : BState} {b b1 : Nat} (h1 : Touch σ b σ1) (h2 : Touch σ1 b1 σ2)
    (hb : b < σ.len) (hb1 : b1 = b ∨ σ.len ≤ b1) : Touch σ b σ2 := by
  refine ⟨Nat.le_trans h1.len h2.len, Nat.le_trans h1.tmp h2.tmp, ?_, ?_⟩
  · intro i hi hne
    rw [h2.frame i (Nat.lt_of_lt_of_le hi h1.len) (by omega), h1.frame i hi hne]
  · rcases hb1 with rfl | hge
    · exact h1.pre.trans h2.pre
    · rw [h2.frame b (Nat.lt_of_lt_of_le hb h1.len) (by omega)]; exact h1.pre

theorem touch_upd (σ : BState) (b : Nat) (f : Block → Block) (hf : ∀ B, B.stmts <+: (f B).stmts) :
    Touch σ b (σ.upd b f) :=
  ⟨Nat.le_of_eq (len_upd ..).symm, Nat.le_refl _, fun i _ hne => blk_upd_other σ b i f hne, by
    rw [blk_upd]; split
    · exact hf _
    · exact List.prefix_refl _⟩

theorem touch_newBB (σ : BState) (b : Nat) : Touch σ b (newBB σ).2 :=
  ⟨by simp, Nat.le_refl _, fun i _ _ => blk_newBB σ i, by rw [blk_newBB]; exact List.prefix_refl _⟩
theorem touch_link (a b : Nat) (σ : BState) : Touch σ a (link a b σ) :=
  touch_upd σ a _ fun _ => List.prefix_refl _
theorem touch_dummyLink (a b : Nat) (σ : BState) : Touch σ a (dummyLink a b σ) :=
  touch_upd σ a _ fun _ => List.prefix_refl _
theorem touch_addStmt (b : Nat) (s : BStmt) (σ : BState) : Touch σ b (addStmt b s σ) :=
  touch_upd σ b _ fun _ => List.prefix_append _ _
theorem touch_branchOn (b : Nat) (p : Expr) (t f : Nat) (σ : BState) : Touch σ b (branchOn b p t f σ) := by
  rw [branchOn_eq_upd]; exact touch_upd σ b _ fun _ => List.prefix_refl _
theorem touch_freshTmp (σ : BState) (b : Nat) : Touch σ b (freshTmp σ).2 :=
  ⟨Nat.le_refl _, Nat.le_succ _, fun _ _ _ => rfl, List.prefix_refl _⟩
theorem touch_bad (σ : BState) (b : Nat) (v : Bool) : Touch σ b { σ with bad := v } :=
  ⟨Nat.le_refl _, Nat.le_refl _, fun _ _ _ => rfl, List.prefix_refl _⟩

structure Ext (σ : BState) (bl : List Block) : Prop where
  len : σ.len ≤ bl.length
  pre : ∀ i, i < σ.len → (σ.blk i).stmts <+: (blkL bl i).stmts
  closed : ∀ i, i < σ.len → (σ.blk i).succs ≠ [] →
    (blkL bl i).stmts = (σ.blk i).stmts ∧ (blkL bl i).succs = (σ.blk i).succs ∧ (blkL bl i).pred = (σ.blk i).pred

theorem Ext.refl (σ : BState) : Ext σ σ.blocks :=
  ⟨Nat.le_refl _, fun _ _ => List.prefix_refl _, fun _ _ _ => ⟨rfl, rfl, rfl⟩⟩

theorem Ext.trans {σ σ' : BState} {bl : List Block} (h1 : Ext σ σ'.blocks) (h2 : Ext σ' bl) : Ext σ bl := by
  refine ⟨Nat.le_trans h1.len h2.len, fun i hi => (h1.pre i hi).trans (h2.pre i (Nat.lt_of_lt_of_le hi h1.len)), ?_⟩
  intro i hi hc
  obtain ⟨a1, a2, a3⟩ := h1.closed i hi hc
  have hc' : (σ'.blk i).succs ≠ [] := by rw [show (σ'.blk i).succs = (σ.blk i).succs from a2]; exact hc
  obtain ⟨b1, b2, b3⟩ := h2.closed i (Nat.lt_of_lt_of_le hi h1.len) hc'
  exact ⟨b1.trans a1, b2.trans a2, b3.trans a3⟩

/-- an earlier state is extended too, if each of its blocks is unchanged, or was open and only grew -/
theorem Ext.of_le {σ σ' : BState} {bl : List Block} (hx : Ext σ' bl) (hl : σ.len ≤ σ'.len)
    (h : ∀ i, i < σ.len → σ'.blk i = σ.blk i ∨ ((σ.blk i).succs = [] ∧ (σ.blk i).stmts <+: (σ'.blk i).stmts)) :
    Ext σ bl := by
  refine ⟨Nat.le_trans hl hx.len, fun i hi => ?_, fun i hi hc => ?_⟩
  · rcases h i hi with h | h
    · rw [← h]; exact hx.pre i (Nat.lt_of_lt_of_le hi hl)
    · exact h.2.trans (hx.pre i (Nat.lt_of_lt_of_le hi hl))
  · rcases h i hi with h | h
    · rw [← h] at hc ⊢; exact hx.closed i (Nat.lt_of_lt_of_le hi hl) hc
    · exact absurd h.1 hc

/-- the part of a block that execution looks at (dummy edges and the reachability flag are not) -/
def Block.core (B : Block) : List BStmt × Option Expr × List Nat := (B.stmts, B.pred, B.succs)

/-- like `Touch`, but other blocks may have received dummy edges: after a statement that jumped, `ensure prev none` hangs
    the fresh block on a dummy edge out of `prev`, which may be any (even a closed) block -/
structure TouchS (σ : BState) (b : Nat) (σ' : BState) : Prop where
  len : σ.len ≤ σ'.len
  tmp : σ.nextTmp ≤ σ'.nextTmp
  frame : ∀ i, i < σ.len → i ≠ b → (σ'.blk i).core = (σ.blk i).core
  pre : (σ.blk b).stmts <+: (σ'.blk b).stmts

theorem Touch.toS {σ σ' : BState} {b : Nat} (h : Touch σ b σ') : TouchS σ b σ' :=
  ⟨h.len, h.tmp, fun i hi hne => by rw [h.frame i hi hne], h.pre⟩

theorem TouchS.refl (σ : BState) (b : Nat) : TouchS σ b σ := (Touch.refl σ b).toS

theorem core_stmts {A B : Block} (h : A.core = B.core) : A.stmts = B.stmts := congrArg (·.1) h

theorem core_pred {A B : Block} (h : A.core = B.core) : A.pred = B.pred := congrArg (·.2.1) h

theorem core_succs {A B : Block} (h : A.core = B.core) : A.succs = B.succs := congrArg (·.2.2) h

theorem TouchS.trans {σ σ1 σ2 : BState} {b b1 : Nat} (h1 : TouchS σ b σ1) (h2 : TouchS σ1 b1 σ2)
    (hb1 : b1 = b ∨ σ.len ≤ b1 ∧ b < σ.len) : TouchS σ b σ2 := by
  refine ⟨Nat.le_trans h1.len h2.len, Nat.le_trans h1.tmp h2.tmp, ?_, ?_⟩
  · intro i hi hne
    rw [h2.frame i (Nat.lt_of_lt_of_le hi h1.len) (by omega), h1.frame i hi hne]
  · rcases hb1 with rfl | ⟨hge, hb⟩
    · exact h1.pre.trans h2.pre
    · rw [core_stmts (h2.frame b (Nat.lt_of_lt_of_le hb h1.len) (by omega))]; exact h1.pre

theorem TouchS.fresh {σ σ1 σ2 : BState} {b b1 : Nat} (h1 : TouchS σ b σ1) (h2 : TouchS σ1 b1 σ2)
    (hb1 : σ.len ≤ b1) (hb : b < σ.len) : TouchS σ b σ2 := h1.trans h2 (.inr ⟨hb1, hb⟩)

theorem TouchS.ext {σ σ' : BState} {b : Nat} (h : TouchS σ b σ') (ho : (σ.blk b).succs = []) : Ext σ σ'.blocks := by
  refine ⟨h.len, ?_, ?_⟩
  · intro i hi
    by_cases hb : i = b
    · subst hb; exact h.pre
    · show _ <+: (σ'.blk i).stmts; rw [core_stmts (h.frame i hi hb)]; exact List.prefix_refl _
  · intro i hi hc
    by_cases hb : i = b
    · subst hb; exact absurd ho hc
    · have := h.frame i hi hb
      exact ⟨core_stmts this, core_succs this, core_pred this⟩

theorem Ext.stepS {σ σ' : BState} {b : Nat} {bl : List Block} (h : TouchS σ b σ') (ho : (σ.blk b).succs = [])
    (hx : Ext σ' bl) : Ext σ bl := (h.ext ho).trans hx

theorem touchS_dummyLink (a n b : Nat) (σ : BState) : TouchS σ b (dummyLink a n σ) := by
  refine ⟨by simp, by simp, ?_, ?_⟩
  · intro i hi _
    by_cases h : i = a
    · subst h; rw [blk_dummyLink_same _ _ _ hi]; rfl
    · rw [blk_dummyLink_other _ _ _ _ h]
  · by_cases h : b = a
    · subst h
      by_cases hb : b < σ.len
      · rw [blk_dummyLink_same _ _ _ hb]; exact List.prefix_refl _
      · have := (touch_dummyLink b n σ).pre; exact this
    · rw [blk_dummyLink_other _ _ _ _ h]; exact List.prefix_refl _

theorem touchS_internal (σ : BState) (b : Nat) : TouchS σ b { σ with internal := true } :=
  ⟨Nat.le_refl _, Nat.le_refl _, fun _ _ _ => rfl, List.prefix_refl _⟩

theorem Touch.ext {σ σ' : BState} {b : Nat} (h : Touch σ b σ') (ho : (σ.blk b).succs = []) : Ext σ σ'.blocks :=
  h.toS.ext ho

theorem Ext.step {σ σ' : BState} {b : Nat} {bl : List Block} (h : Touch σ b σ') (ho : (σ.blk b).succs = [])
    (hx : Ext σ' bl) : Ext σ bl := (h.ext ho).trans hx

inductive Steps (env : Env) (bl : List Block) : Config → Config → Prop where
  | refl (c : Config) : Steps env bl c c
  | head {c c1 c2 : Config} : step env bl c = some c1 → Steps env bl c1 c2 → Steps env bl c c2

theorem Steps.trans {env : Env} {bl : List Block} {a b c : Config} (h1 : Steps env bl a b) (h2 : Steps env bl b c) :
    Steps env bl a c := by
  induction h1 with
  | refl _ => exact h2
  | head hs _ ih => exact .head hs (ih h2)

theorem Steps.single {env : Env} {bl : List Block} {a b : Config} (h : step env bl a = some b) : Steps env bl a b :=
  .head h (.refl _)

theorem step_stmt {env : Env} {σ : BState} {bl : List Block} (hx : Ext σ bl) {b k : Nat} (hb : b < σ.len)
    {st : BStmt} (hk : (σ.blk b).stmts[k]? = some st) (s : S) (r : Option Val) :
    step env bl ⟨b, k, s, r⟩ = some (execB env st ⟨b, k, s, r⟩) := by
  simp only [step, stepB, blkL_some (Nat.lt_of_lt_of_le hb hx.len), (hx.pre b hb).getElem?_of_some hk]

theorem step_added {env : Env} {bl : List Block} {σ0 : BState} {b : Nat} (st : BStmt) (hb : b < σ0.len)
    (hx : Ext (addStmt b st σ0) bl) (s : S) (rv : Option Val) :
    step env bl ⟨b, (σ0.blk b).stmts.length, s, rv⟩ = some (execB env st ⟨b, (σ0.blk b).stmts.length, s, rv⟩) ∧
    ((addStmt b st σ0).blk b).stmts.length = (σ0.blk b).stmts.length + 1 := by
  have hk : ((addStmt b st σ0).blk b).stmts[(σ0.blk b).stmts.length]? = some st := by
    rw [blk_addStmt_same _ _ _ hb]; simp
  exact ⟨step_stmt hx (by simpa using hb) hk s rv, by rw [blk_addStmt_same _ _ _ hb]; simp⟩

theorem step_goto {env : Env} {σ : BState} {bl : List Block} (hx : Ext σ bl) {b t : Nat} (hb : b < σ.len)
    (hs : (σ.blk b).succs = [t]) (s : S) (r : Option Val) :
    step env bl ⟨b, (σ.blk b).stmts.length, s, r⟩ = some ⟨t, 0, s, r⟩ := by
  have hlen : b < bl.length := Nat.lt_of_lt_of_le hb hx.len
  obtain ⟨c1, c2, _⟩ := hx.closed b hb (by rw [hs]; simp)
  simp only [step, stepB, blkL_some hlen, c1, c2, hs, List.getElem?_eq_none (Nat.le_refl _)]

theorem step_linked {env : Env} {bl : List Block} {σ0 : BState} {b t : Nat} (hb : b < σ0.len)
    (ho : (σ0.blk b).succs = []) (hx : Ext (link b t σ0) bl) (s : S) (rv : Option Val) :
    step env bl ⟨b, (σ0.blk b).stmts.length, s, rv⟩ = some ⟨t, 0, s, rv⟩ := by
  have hblk := blk_link_same b t σ0 hb
  have := step_goto (env := env) hx (b := b) (t := t) (by simpa using hb) (by rw [hblk, ho]; rfl) s rv
  rw [hblk] at this
  exact this

theorem steps_assign_goto {env : Env} {σ : BState} {bl : List Block} (hx : Ext σ bl) {p m : Nat} (hp : p < σ.len)
    {pre : List BStmt} {x : Var} {e : Expr} (hst : (σ.blk p).stmts = pre ++ [.assign x e]) (hsu : (σ.blk p).succs = [m])
    (s : S) (r : Option Val) :
    Steps env bl ⟨p, pre.length, s, r⟩ ⟨m, 0, ((eval env e s).2.1.set x (eval env e s).1, (eval env e s).2.2), r⟩ := by
  have h1 := step_stmt (env := env) hx hp (k := pre.length) (st := .assign x e) (by rw [hst]; simp) s r
  have h2 := step_goto (env := env) hx hp hsu ((eval env e s).2.1.set x (eval env e s).1, (eval env e s).2.2) r
  rw [hst, List.length_append] at h2
  exact .head h1 (.head h2 (.refl _))

theorem step_branch {env : Env} {σ : BState} {bl : List Block} (hx : Ext σ bl) {b t f : Nat} {p : Expr}
    (hb : b < σ.len) (hs : (σ.blk b).succs = [f, t]) (hp : (σ.blk b).pred = some p) (s : S) (r : Option Val) :
    step env bl ⟨b, (σ.blk b).stmts.length, s, r⟩ =
      some ⟨if (eval env p s).1.truthy then t else f, 0, (eval env p s).2, r⟩ := by
  have hlen : b < bl.length := Nat.lt_of_lt_of_le hb hx.len
  obtain ⟨c1, c2, c3⟩ := hx.closed b hb (by rw [hs]; simp)
  simp only [step, stepB, blkL_some hlen, c1, c2, c3, hs, hp, List.getElem?_eq_none (Nat.le_refl _)]

theorem step_branched {env : Env} {bl : List Block} {σ0 : BState} {b : Nat} (p : Expr) (t f : Nat) (hb : b < σ0.len)
    (ho : (σ0.blk b).succs = []) (hx : Ext (branchOn b p t f σ0) bl) (s : S) (rv : Option Val) :
    step env bl ⟨b, (σ0.blk b).stmts.length, s, rv⟩ =
      some ⟨if (eval env p s).1.truthy then t else f, 0, (eval env p s).2, rv⟩ := by
  have hblk := blk_branchOn_same b p t f σ0 hb
  have := step_branch (env := env) hx (b := b) (t := t) (f := f) (p := p) (by simpa using hb)
    (by rw [hblk, ho]; rfl) (by rw [hblk]) s rv
  rw [hblk] at this
  exact this

end GuppyVerif.Builder
