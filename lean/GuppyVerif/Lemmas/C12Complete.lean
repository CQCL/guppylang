import GuppyVerif.Lemmas.C12Unif

/-! Completeness and most-generality for well-sorted inputs, once for every reading of "identical" given
    by a normal form (`Reading`); instance: literal identity (flags included) in every environment. -/

namespace GuppyVerif.Unify

theorem sizeList_eq (as : List Tm) : sizeList as = (as.map Tm.size).sum := by
  induction as with
  | nil => rfl
  | cons a as ih => simp [sizeList, ih]

theorem size_inst_var {θ : V → Tm} {y : V} : ∀ t : Tm, y ∈ t.vars →
    (θ y).size ≤ (inst θ t).size ∧ ((∀ w, t ≠ .var w) → (θ y).size < (inst θ t).size) := by
  intro t
  induction t using Tm.induct with
  | var v => intro h; simp [Tm.vars] at h; subst h; exact ⟨by simp [inst], fun hw => absurd rfl (hw y)⟩
  | atom a => intro h; simp [Tm.vars] at h
  | node hd as ih =>
    intro h
    simp only [Tm.vars] at h
    obtain ⟨a, ha, hy⟩ := mem_varsList.mp h
    have h1 := (ih a ha hy).1
    have h2 : (inst θ a).size ≤ sizeList (instList θ as) := by
      apply size_le_sizeList
      rw [instList_eq]
      exact List.mem_map.mpr ⟨a, ha, rfl⟩
    simp only [inst, Tm.size]
    exact ⟨by omega, fun _ => by omega⟩
  | targ t ih =>
    intro h
    have h1 := (ih (by simpa [Tm.vars] using h)).1
    simp only [inst, Tm.size]
    exact ⟨by omega, fun _ => by omega⟩
  | carg t ih =>
    intro h
    have h1 := (ih (by simpa [Tm.vars] using h)).1
    simp only [inst, Tm.size]
    exact ⟨by omega, fun _ => by omega⟩

theorem erase_not_var {t : Tm} (h : ∀ w, t ≠ .var w) : ∀ w, erase t ≠ .var w := by
  intro w
  cases t <;> simp [erase] <;> (rename_i v; exact fun e => h v (by rw [e]))

theorem esize_inst_var {θ : V → Tm} {y : V} (t : Tm) (hy : y ∈ t.vars) :
    (erase (θ y)).size ≤ (erase (inst θ t)).size ∧
    ((∀ w, t ≠ .var w) → (erase (θ y)).size < (erase (inst θ t)).size) := by
  rw [erase_inst]
  have := size_inst_var (θ := fun v => erase (θ v)) (y := y) (erase t) (by rw [vars_erase]; exact hy)
  exact ⟨this.1, fun h => this.2 (erase_not_var h)⟩

/-- for every solution, the image of a variable is embedded in the image of each variable it is reachable from -/
theorem Reach.size_le {θ : V → Tm} {σ : Subst} (hθ : Solves θ σ) {y v : V} (h : Reach σ y v) :
    (erase (θ v)).size ≤ (erase (θ y)).size := by
  induction h with
  | refl => exact Nat.le_refl _
  | step hl hy _ ih => rw [hθ _ _ hl]; exact Nat.le_trans ih (esize_inst_var _ hy).1

theorem shape_ne_fail {E : Env} {s t : Tm} {θ : V → Tm} (hs : s.wf = true) (ht : t.wf = true)
    (hf : FlagEq (inst θ s) (inst θ t))
    (hnode : ∀ h₁ h₂ as bs, s = .node h₁ as → t = .node h₂ bs → headsOk E h₁ h₂ as bs) :
    shape E s t ≠ .fail := by
  cases s <;> cases t <;> simp only [Tm.wf, Bool.false_eq_true] at hs ht <;>
    simp only [FlagEq, inst, erase, reduceCtorEq] at hf
  case var.var a b => simp only [shape]; split <;> nofun
  case atom.atom a b => rw [Tm.atom.injEq] at hf; simp [shape, atomEq_iff.mpr hf]
  case node.node h₁ as h₂ bs =>
    rcases shape_node E h₁ h₂ as bs with ⟨_, e⟩ | ⟨no, _⟩
    · rw [e]; nofun
    · exact absurd (hnode _ _ _ _ rfl rfl) no
  all_goals simp [shape]

/-- the converse of `Descends`, for a reading at least as fine as identity up to flags: instances by `θ` identical in it
    ⇒ the heads pass `unify`'s test and the arguments are identical in it -/
structure Reading (E : Env) (θ : V → Tm) (N : Tm → Tm) : Prop where
  hom : ∃ nh, Hom N nh
  flagEq : ∀ {a b}, N a = N b → FlagEq a b
  node : ∀ {h₁ h₂ as bs}, N (inst θ (.node h₁ as)) = N (inst θ (.node h₂ bs)) →
    headsOk E h₁ h₂ as bs ∧ as.map (fun a => N (inst θ a)) = bs.map (fun a => N (inst θ a))

structure Complete (N : Tm → Tm) (θ : V → Tm) (r : Res) : Prop where
  ne_fail : r ≠ .fail
  solves : ∀ {σ'}, r = .ok σ' → SolvesBy N θ σ'
  wf : ∀ {σ'}, r = .ok σ' → WfSubst σ'

theorem Complete.of_ok {N : Tm → Tm} {θ : V → Tm} {σ : Subst} (hθ : SolvesBy N θ σ) (hw : WfSubst σ) :
    Complete N θ (.ok σ) :=
  ⟨nofun, fun e => Res.ok.inj e ▸ hθ, fun e => Res.ok.inj e ▸ hw⟩

theorem SolvesBy.cons {N : Tm → Tm} {θ : V → Tm} {σ : Subst} {v : V} {t : Tm} (hθ : SolvesBy N θ σ)
    (hw : WfSubst σ) (h : N (θ v) = N (inst θ t)) (ht : t.wf = true) :
    SolvesBy N θ ((v, t) :: σ) ∧ WfSubst ((v, t) :: σ) := by
  constructor <;> intro x w hx <;> rcases lookup_cons_some hx with ⟨rfl, rfl⟩ | hx
  · exact h
  · exact hθ x w hx
  · exact ht
  · exact hw x w hx

theorem Unif.complete {E : Env} {θ : V → Tm} {N : Tm → Tm} (R : Reading E θ N) {s t : Tm} {σ : Subst} {r : Res}
    (h : Unif E s t σ r) : s.wf = true → t.wf = true → WfSubst σ → SolvesBy N θ σ →
      N (inst θ s) = N (inst θ t) → Complete N θ r := by
  obtain ⟨_, hN⟩ := R.hom
  have pay : ∀ {a b x y}, Payload a b x y → N (inst θ a) = N (inst θ b) → N (inst θ x) = N (inst θ y) :=
    fun hp => (hp.congr (hN.comp (.inst θ))).mp
  refine Unif.rec
    (motive_1 := fun s t σ r _ => s.wf = true → t.wf = true → WfSubst σ → SolvesBy N θ σ →
      N (inst θ s) = N (inst θ t) → Complete N θ r)
    (motive_2 := fun as bs σ r _ => wfArgs as = true → wfArgs bs = true → WfSubst σ → SolvesBy N θ σ →
      as.map (fun a => N (inst θ a)) = bs.map (fun a => N (inst θ a)) →
      Complete N θ r)
    ?same ?clash ?swap ?left ?right ?occurs ?bind ?arity ?args ?nil ?cons ?head ?sort h
  case same | nil => intros; exact .of_ok ‹_› ‹_›
  case clash =>
    intro s t σ hsh hs ht _ _ hu
    exact absurd hsh (shape_ne_fail hs ht (R.flagEq hu) fun _ _ _ _ es et => (R.node (es ▸ et ▸ hu)).1)
  case swap => exact fun _ ih hs ht hw hθ hu => ih ht hs hw hθ hu.symm
  case left => exact fun hv _ ih _ ht hw hθ hu => ih (hw _ _ hv) ht hw hθ ((hθ _ _ hv).symm.trans hu)
  case right => exact fun hw' _ ih hs _ hw hθ hu => ih hs (hw _ _ hw') hw hθ (hu.trans (hθ _ _ hw'))
  case occurs =>
    -- a solution would embed the image of `v` properly in itself
    intro v y t σ hne hfree hy hr _ _ _ hθ hu
    exfalso
    have hle := hr.size_le fun v u hl => R.flagEq (hθ v u hl)
    have hu' : erase (θ v) = erase (inst θ t) := R.flagEq hu
    by_cases hv : ∀ w, t ≠ .var w
    · have := (esize_inst_var (θ := θ) t hy).2 hv
      rw [hu'] at hle
      omega
    · obtain ⟨w, rfl⟩ : ∃ w, t = .var w := by
        cases t with
        | var w => exact ⟨w, rfl⟩
        | _ => exact absurd nofun hv
      simp only [Tm.vars, List.mem_singleton] at hy
      subst hy
      cases hr with
      | refl => exact hne rfl
      | step hl _ _ => rw [hfree y rfl] at hl; cases hl
  case bind =>
    intro v t σ _ _ _ ht hw hθ hu
    exact .of_ok (hθ.cons hw hu ht).1 (hθ.cons hw hu ht).2
  case arity =>
    intro h₁ h₂ as bs σ hl _ _ _ _ hu
    exact absurd (by simpa using congrArg List.length (R.node hu).2) hl
  case args =>
    intro h₁ h₂ as bs σ r _ _ ih hs ht hw hθ hu
    exact ih (by simpa [Tm.wf] using hs) (by simpa [Tm.wf] using ht) hw hθ (R.node hu).2
  case cons =>
    intro a b x y as bs σ σ₁ r hp _ _ ih₁ ih₂ ha hb hw hθ hu
    simp only [List.map_cons, List.cons.injEq] at hu
    obtain ⟨⟨hx, has⟩, hy, hbs⟩ := hp.wf ha hb
    have c := ih₁ hx hy hw hθ (pay hp hu.1)
    exact ih₂ has hbs (c.wf rfl) (c.solves rfl) hu.2
  case head =>
    intro a b x y as bs σ hp _ ih₁ ha hb hw hθ hu
    simp only [List.map_cons, List.cons.injEq] at hu
    obtain ⟨⟨hx, _⟩, hy, _⟩ := hp.wf ha hb
    exact absurd rfl (ih₁ hx hy hw hθ (pay hp hu.1)).ne_fail
  case sort =>
    intro a b as bs σ hno ha hb _ _ hu
    simp only [List.map_cons, List.cons.injEq] at hu
    obtain ⟨x, y, hp⟩ := Payload.of_wf ha hb (R.flagEq hu.1)
    exact absurd hp (hno x y)

theorem unify_complBy {E : Env} {θ : V → Tm} {N : Tm → Tm} (R : Reading E θ N) (n : Nat) (x y : Tm) (σ : Subst)
    (hx : x.wf = true) (hy : y.wf = true) (hw : WfSubst σ) (hθ : SolvesBy N θ σ) (hu : N (inst θ x) = N (inst θ y)) :
    Complete N θ (unify E n x y σ) := by
  by_cases h : unify E n x y σ = .oof
  · rw [h]; exact ⟨nofun, nofun, nofun⟩
  · exact (unify_run E n x y σ h).complete R hx hy hw hθ hu

/-! exact unifiers, every environment: when both sides become literally identical the flag rule cannot fire -/

theorem flagsClash_same (E : Env) : ∀ (f : List Nat) (as bs : List Tm), flagsClash E f f as bs = false
  | a :: f, x :: as, y :: bs => by simp [flagsClash, flagsClash_same E f as bs]
  | [], _, _ => by simp [flagsClash]
  | _ :: _, [], _ => by simp [flagsClash]
  | _ :: _, _ :: _, [] => by simp [flagsClash]

theorem Reading.exact (E : Env) (θ : V → Tm) : Reading E θ id where
  hom := ⟨_, .id⟩
  flagEq h := congrArg erase h
  node {h₁ _ _ _} h := by
    simp only [id, inst, instList_eq, Tm.node.injEq] at h
    obtain ⟨rfl, h2⟩ := h
    exact ⟨⟨rfl, by cases h₁ <;> simp [flagsClash_same]⟩, h2⟩

end GuppyVerif.Unify
