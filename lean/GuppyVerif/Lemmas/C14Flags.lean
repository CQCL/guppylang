import GuppyVerif.Lemmas.C14Basic
/-! The flags alone: without phantom parameters `flagG` does not depend on `u` (`np_flag`); `Type.hugr_bound` is Copyable
    exactly for copyable types (`hb_ty`). -/
namespace GuppyVerif.CopyDrop
open GuppyVerif

mutual
theorem np_flag (D : List OpaqueDef) (s : Sel) :
    ∀ (t : Ty) (ρ : List Bool), npE D s ρ t = true → flagG D true s ρ t = flagG D false s ρ t
  | .num _, _, _ | .none _, _, _ | .bvar _ _ _ _, _, _ | .evar _ _ _ _, _, _ | .func _ _ _ _, _, _ => rfl
  | .tuple ts p, ρ, h => by
      simp only [npE] at h
      simp only [flagG, np_flagList D s ts ρ h]
  | .opaque n as, ρ, h => by
      simp only [npE] at h
      simp only [flagG, (np_flagArgs D s as ρ h).1]
  | .struct n as fs, ρ, h => by
      simp only [npE, Bool.and_eq_true, Bool.or_eq_true, Bool.not_eq_true'] at h
      obtain ⟨⟨h1, h2⟩, h3⟩ := h
      -- with `u = false` the arguments are not counted; by `h1` they hold whenever the fields do
      simp only [flagG, ← (np_flagArgs D s as ρ h3).2, ← np_flagList D s fs _ h2]
      rcases h1 with h1 | h1 <;> simp [h1]
theorem np_flagList (D : List OpaqueDef) (s : Sel) :
    ∀ (ts : List Ty) (ρ : List Bool), npEList D s ρ ts = true →
      flagGList D true s ρ ts = flagGList D false s ρ ts
  | [], _, _ => rfl
  | t :: r, ρ, h => by
      simp only [npEList, Bool.and_eq_true] at h
      simp only [flagGList, np_flag D s t ρ h.1, np_flagList D s r ρ h.2]
theorem np_flagArgs (D : List OpaqueDef) (s : Sel) :
    ∀ (as : List Arg) (ρ : List Bool), npEArgs D s ρ as = true →
      flagGArgs D true s ρ as = flagGArgs D false s ρ as ∧
      flagEnvArgs D true s ρ as = flagEnvArgs D false s ρ as
  | [], _, _ => ⟨rfl, rfl⟩
  | .ty t :: r, ρ, h => by
      simp only [npEArgs, Bool.and_eq_true] at h
      simp only [flagGArgs, flagEnvArgs, np_flag D s t ρ h.1, np_flagArgs D s r ρ h.2, and_self]
  | .const c :: r, ρ, h => by
      simp only [npEArgs] at h
      simp only [flagGArgs, flagEnvArgs, np_flagArgs D s r ρ h, and_self]
end

theorem joinAll_eq_copyable (x : HBound) (bs : List HBound) :
    joinAll x bs = .copyable ↔ x = .copyable ∧ ∀ b ∈ bs, b = .copyable := by
  unfold joinAll
  induction bs generalizing x with
  | nil => simp
  | cons b r ih => simp only [List.foldl_cons, ih, join_eq_copyable, List.mem_cons, forall_eq_or_imp, and_assoc]

theorem flagB_eq_copyable (c : Bool) : flagB c = .copyable ↔ c = true := by
  cases c <;> simp [flagB]

theorem joinAll_flagB {c : Bool} {bs : List HBound} (h : c = true → ∀ b ∈ bs, b = .copyable) :
    joinAll (flagB c) bs = .copyable ↔ c = true := by
  rw [joinAll_eq_copyable, flagB_eq_copyable]
  exact ⟨And.left, fun hc => ⟨hc, h hc⟩⟩

-- `aff` and `hT` serve only the definitions with a declared bound (`rowOk_bound`)
mutual
theorem hb_ty (D : List OpaqueDef) (aff : List String) (hT : TableOk aff D) :
    ∀ (t : Ty) (b : HBound), known D t = true → hugrBound D t = some b →
      (b = .copyable ↔ copyable D t = true)
  | .num _, b, _, h | .none _, b, _, h | .func _ _ _ _, b, _, h => by cases h; exact ⟨fun _ => rfl, fun _ => rfl⟩
  | .bvar _ _ c _, b, _, h => by cases h; exact flagB_eq_copyable c
  | .evar _ _ _ _, b, _, h => by cases h
  | .tuple ts p, b, hk, h => by
      simp only [hugrBound] at h
      obtain ⟨bs, hbs, ⟨⟩⟩ := Option.bind_eq_some_iff.mp h
      exact joinAll_flagB fun hc => hb_list D aff hT ts bs hk hbs hc
  | .struct n as fs, b, hk, h => by
      simp only [hugrBound] at h
      obtain ⟨bs, hbs, ⟨⟩⟩ := Option.bind_eq_some_iff.mp h
      simp only [known, Bool.and_eq_true] at hk
      refine joinAll_flagB fun hc => hb_args D aff hT as bs hk.1 hbs ?_
      simp only [copyable, flagG, Bool.and_eq_true, Bool.not_true, Bool.false_or] at hc
      exact hc.2
  | .opaque n as, b, hk, h => by
      simp only [known, Bool.and_eq_true] at hk
      obtain ⟨hk1, hk2⟩ := hk
      cases hl : lookup D n with
      | none => simp [hl] at hk1
      | some d =>
        simp only [hl, beq_iff_eq] at hk1
        simp only [hugrBound, hl, Option.bind_some] at h
        cases hdb : d.bound with
        | some b0 =>
          simp only [hdb, Option.some.injEq] at h
          subst h
          obtain ⟨hp, hbc⟩ := rowOk_bound (hT d (lookup_mem hl)) hdb
          rw [hp] at hk1
          cases List.map_eq_nil_iff.mp hk1
          simp only [copyable, flagG, intrinsic, hl, OpaqueDef.never, flagGArgs, Bool.and_true]
          rw [← hbc, isCopyable_iff]
        | none =>
          simp only [hdb] at h
          obtain ⟨bs, hbs, ⟨⟩⟩ := Option.bind_eq_some_iff.mp h
          refine joinAll_flagB fun hc => hb_args D aff hT as bs hk2 hbs ?_
          simp only [copyable, flagG, Bool.and_eq_true] at hc
          exact hc.2
theorem hb_list (D : List OpaqueDef) (aff : List String) (hT : TableOk aff D) :
    ∀ (ts : List Ty) (bs : List HBound), knownList D ts = true → hugrBoundList D ts = some bs →
      flagGList D true .copy [] ts = true → ∀ b ∈ bs, b = .copyable
  | [], bs, _, h, _ => by cases h; nofun
  | t :: r, bs, hk, h, hc => by
      simp only [hugrBoundList] at h
      obtain ⟨b, hb, h⟩ := Option.bind_eq_some_iff.mp h
      obtain ⟨bs', hbs, ⟨⟩⟩ := Option.bind_eq_some_iff.mp h
      simp only [knownList, Bool.and_eq_true] at hk
      simp only [flagGList, Bool.and_eq_true] at hc
      exact List.forall_mem_cons.mpr ⟨(hb_ty D aff hT t b hk.1 hb).mpr hc.1, hb_list D aff hT r bs' hk.2 hbs hc.2⟩
theorem hb_args (D : List OpaqueDef) (aff : List String) (hT : TableOk aff D) :
    ∀ (as : List Arg) (bs : List HBound), knownArgs D as = true → hugrBoundArgs D as = some bs →
      flagGArgs D true .copy [] as = true → ∀ b ∈ bs, b = .copyable
  | [], bs, _, h, _ => by cases h; nofun
  | .ty t :: r, bs, hk, h, hc => by
      simp only [hugrBoundArgs] at h
      obtain ⟨b, hb, h⟩ := Option.bind_eq_some_iff.mp h
      obtain ⟨bs', hbs, ⟨⟩⟩ := Option.bind_eq_some_iff.mp h
      simp only [knownArgs, Bool.and_eq_true] at hk
      simp only [flagGArgs, Bool.and_eq_true] at hc
      exact List.forall_mem_cons.mpr ⟨(hb_ty D aff hT t b hk.1 hb).mpr hc.1, hb_args D aff hT r bs' hk.2 hbs hc.2⟩
  | .const c :: r, bs, hk, h, hc => hb_args D aff hT r bs hk h hc
end

end GuppyVerif.CopyDrop
