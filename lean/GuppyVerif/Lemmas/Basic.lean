/-! What core lacks about `List` and `Except` and the development needs: facts whose statement mentions no
    definition of the development, used by one property or by several. Facts about the models stay with them. -/

namespace Except
variable {ε α β : Type _}

/- `simp` uses these rules after it has simplified the continuation `f`, and simplifies `f a` again.
   Where a long block is evaluated, `simp [.., bind, Except.bind]` is cheaper: it unfolds `>>=` to its
   `match`, which `simp` reduces before it looks at the branches. -/
@[simp] theorem ok_bind (a : α) (f : α → Except ε β) : (ok a >>= f) = f a := rfl
@[simp] theorem error_bind (e : ε) (f : α → Except ε β) : (error e >>= f) = error e := rfl
@[simp] theorem pure_eq_ok (a : α) : (pure a : Except ε α) = ok a := rfl
@[simp] theorem throw_eq_error (e : ε) : (throw e : Except ε α) = error e := rfl
@[simp] theorem map_ok_eq (f : α → β) (a : α) : (ok a : Except ε α).map f = ok (f a) := rfl
@[simp] theorem map_error_eq (f : α → β) (e : ε) : (error e : Except ε α).map f = error e := rfl

theorem bind_eq_ok {x : Except ε α} {f : α → Except ε β} {b : β} :
    (x >>= f) = ok b ↔ ∃ a, x = ok a ∧ f a = ok b := by
  cases x <;> simp

theorem map_eq_ok {x : Except ε α} {f : α → β} {b : β} : x.map f = ok b ↔ ∃ a, x = ok a ∧ f a = b := by
  cases x <;> simp

theorem map_eq_error {x : Except ε α} {f : α → β} {e : ε} : x.map f = error e ↔ x = error e := by
  cases x <;> simp

def okD [Inhabited α] : Except ε α → α
  | .ok b => b
  | .error _ => default

theorem exists_error_iff {x : Except ε β} {P : Prop} {e₀ : ε} (herr : P → x = .error e₀)
    (hok : ¬ P → ∃ r, x = .ok r) : (∃ e, x = .error e) ↔ P := by
  refine ⟨fun ⟨e, he⟩ => Classical.byContradiction fun hn => ?_, fun hp => ⟨_, herr hp⟩⟩
  obtain ⟨r, hr⟩ := hok hn
  rw [hr] at he; cases he

end Except

namespace List
variable {ε α β σ : Type _}

theorem mapM_ok_of_forall {f : α → Except ε β} {g : α → β} {l : List α} (h : ∀ a ∈ l, f a = .ok (g a)) :
    l.mapM f = .ok (l.map g) := by
  induction l with
  | nil => rfl
  | cons a l ih => simp [h a mem_cons_self, ih fun b hb => h b (mem_cons_of_mem _ hb)]

theorem foldlM_cons_eq_some {f : σ → α → Option σ} {s t : σ} {a : α} {as : List α} :
    (a :: as).foldlM f s = some t ↔ ∃ s', f s a = some s' ∧ as.foldlM f s' = some t := by
  rw [foldlM_cons]; exact Option.bind_eq_some_iff

theorem getElem?_append_of_some {l m : List α} {i : Nat} {v : α} (h : l[i]? = some v) :
    (l ++ m)[i]? = some v := by
  rw [getElem?_append_left (getElem?_eq_some_iff.mp h).1]; exact h

theorem IsPrefix.getElem?_of_some {l m : List α} {i : Nat} {v : α} (hp : l <+: m) (h : l[i]? = some v) :
    m[i]? = some v := by
  obtain ⟨d, rfl⟩ := hp; exact getElem?_append_of_some h

/-- the strict form of `countP_mono_left` -/
theorem countP_lt_countP {p q : α → Bool} {l : List α} (himp : ∀ a ∈ l, p a → q a)
    (hex : ∃ a ∈ l, q a ∧ p a = false) : l.countP p < l.countP q := by
  obtain ⟨a, ha, hq, hp⟩ := hex
  obtain ⟨s, t, rfl⟩ := append_of_mem ha
  have h1 : s.countP p ≤ s.countP q := countP_mono_left fun b hb => himp b (by simp [hb])
  have h2 : t.countP p ≤ t.countP q := countP_mono_left fun b hb => himp b (by simp [hb])
  simp only [countP_append, countP_cons, hq, hp]
  simp; omega

/-- a list kept as a set: adding `x` if it is new -/
theorem mem_addNew [BEq α] [LawfulBEq α] {x y : α} {u : List α} :
    y ∈ (if u.contains x then u else u ++ [x]) ↔ y ∈ u ∨ y = x := by
  split
  · exact ⟨.inl, fun h => h.elim id fun e => e ▸ contains_iff_mem.mp ‹_›⟩
  · simp

theorem mem_foldl_addNew [BEq α] [LawfulBEq α] {y : α} {ls u : List α} :
    y ∈ ls.foldl (fun u x => if u.contains x then u else u ++ [x]) u ↔ y ∈ u ∨ y ∈ ls := by
  induction ls generalizing u with
  | nil => simp
  | cons x ls ih => rw [foldl_cons, ih, mem_addNew, mem_cons, or_assoc]

theorem mem_filter_bne [BEq α] [LawfulBEq α] {q : List α} {b c : α} :
    c ∈ q.filter (· != b) ↔ c ∈ q ∧ c ≠ b := by
  simp

theorem mapM_cases [Inhabited β] (f : α → Except ε β) (l : List α) :
    (∃ e, l.mapM f = .error e ∧ ∃ a ∈ l, f a = .error e) ∨
      ((∀ a ∈ l, f a = .ok (Except.okD (f a))) ∧ l.mapM f = .ok (l.map fun a => Except.okD (f a))) := by
  induction l with
  | nil => exact Or.inr ⟨nofun, rfl⟩
  | cons a l ih =>
    rw [List.mapM_cons]
    cases hf : f a with
    | error e => exact Or.inl ⟨e, rfl, a, List.mem_cons_self, hf⟩
    | ok b =>
      rcases ih with ⟨e, h1, a', ha', hfa⟩ | ⟨h1, h2⟩
      · exact Or.inl ⟨e, by rw [h1]; rfl, a', List.mem_cons_of_mem _ ha', hfa⟩
      · refine Or.inr ⟨List.forall_mem_cons.mpr ⟨by rw [hf]; rfl, h1⟩, ?_⟩
        rw [h2, List.map_cons, hf]; rfl

theorem eq_dropLast_append_of_getLast? {l : List α} {a : α} (h : l.getLast? = some a) :
    l = l.dropLast ++ [a] := by
  obtain ⟨ys, rfl⟩ := List.getLast?_eq_some_iff.mp h
  rw [List.dropLast_concat]

theorem split_at_first (c : α) : ∀ (a b x y : List α), c ∉ a → c ∉ b → a ++ c :: x = b ++ c :: y →
    a = b ∧ x = y
  | [], [], _, _, _, _, h => by simpa using h
  | [], e :: b, _, _, _, hb, h => by
      simp only [List.nil_append, List.cons_append, List.cons.injEq] at h
      exact absurd (by simp [h.1]) hb
  | e :: a, [], _, _, ha, _, h => by
      simp only [List.nil_append, List.cons_append, List.cons.injEq] at h
      exact absurd (by simp [h.1]) ha
  | e :: a, e' :: b, x, y, ha, hb, h => by
      simp only [List.cons_append, List.cons.injEq] at h
      have := split_at_first c a b x y (by simp_all) (by simp_all) h.2
      simp [h.1, this.1, this.2]

theorem nodup_map_inj (f : α → β) : ∀ (l : List α), (l.map f).Nodup → ∀ x ∈ l, ∀ y ∈ l, f x = f y → x = y
  | [], _, _, hx, _, _, _ => by simp at hx
  | a :: l, h, x, hx, y, hy, e => by
      simp only [List.map_cons, List.nodup_cons, List.mem_map, not_exists, not_and] at h
      rcases List.mem_cons.mp hx with rfl | hx' <;> rcases List.mem_cons.mp hy with rfl | hy'
      · rfl
      · exact absurd e.symm (h.1 y hy')
      · exact absurd e (h.1 x hx')
      · exact nodup_map_inj f l h.2 x hx' y hy' e

theorem flatten_sublist_map {f : List α → List α} (hf : ∀ x : List α, x.Sublist (f x)) :
    ∀ ls : List (List α), ls.flatten.Sublist (ls.map f).flatten
  | [] => .slnil
  | x :: xs => List.Sublist.append (hf x) (flatten_sublist_map hf xs)

theorem nil_or_snoc (b : List α) : b = [] ∨ ∃ b' x, b = b' ++ [x] := by
  rcases List.eq_nil_or_concat b with h | ⟨b', x, h⟩
  · exact Or.inl h
  · exact Or.inr ⟨b', x, by simpa using h⟩

theorem set_set_perm_of_getElem? {a : List β} {i j : Nat} {x y : β} (hx : a[i]? = some x) (hy : a[j]? = some y) :
    ((a.set i y).set j x).Perm a := by
  obtain ⟨hi, rfl⟩ := List.getElem?_eq_some_iff.mp hx
  obtain ⟨hj, rfl⟩ := List.getElem?_eq_some_iff.mp hy
  exact List.set_set_perm hi hj

theorem perm_cons_set_dropLast {a : List β} {r l : β} (hr : a[0]? = some r)
    (hl : a[a.length - 1]? = some l) (hn : a.length - 1 ≠ 0) : a.Perm (r :: a.dropLast.set 0 l) := by
  obtain ⟨hlt, rfl⟩ := List.getElem?_eq_some_iff.mp hl
  have hne : a ≠ [] := List.ne_nil_of_length_pos (by omega)
  have ha : a.dropLast ++ [a[a.length - 1]] = a := by
    rw [← List.getLast_eq_getElem hne]; exact List.dropLast_concat_getLast hne
  have hd : a.dropLast[0]? = some r := by rw [List.getElem?_dropLast, if_pos (by omega), hr]
  generalize a[a.length - 1] = l at ha ⊢
  generalize a.dropLast = b at ha hd ⊢
  subst ha
  match b, hd with
  | x :: tl, hd =>
    obtain rfl : x = r := by simpa using hd
    exact .cons _ (List.perm_append_singleton l tl)

theorem set_zipWith {γ δ} (f : β → γ → δ) : ∀ (as : List β) (bs : List γ) (k : Nat) (a : β) (b : γ),
    (List.zipWith f as bs).set k (f a b) = List.zipWith f (as.set k a) (bs.set k b)
  | [], _, _, _, _ => by simp
  | _ :: _, [], _, _, _ => by simp
  | _ :: _, _ :: _, 0, _, _ => by simp
  | x :: as, y :: bs, k + 1, a, b => by simp [set_zipWith f as bs k a b]

theorem map_getElem?_append_some {l m : List β} {ws : List Nat} {vs : List β}
    (h : ws.map (fun w => l[w]?) = vs.map some) :
    ws.map (fun w => (l ++ m)[w]?) = vs.map some := by
  rw [← h]
  refine List.map_congr_left fun w hw => ?_
  obtain ⟨v, _, hv⟩ := List.mem_map.mp (h ▸ List.mem_map_of_mem hw)
  rw [← hv]
  exact List.getElem?_append_of_some hv.symm

theorem countP_lt_getElem (r : α → α → Prop) [DecidableRel r] (asym : ∀ a b, r a b → ¬ r b a)
    (l : List α) (hp : l.Pairwise r) (i : Nat) (h : i < l.length) :
    l.countP (fun y => decide (r y l[i])) = i := by
  induction l generalizing i with
  | nil => exact absurd h (Nat.not_lt_zero i)
  | cons a t ih =>
    rw [List.pairwise_cons] at hp
    cases i with
    | zero =>
      rw [List.getElem_cons_zero, List.countP_eq_zero]
      exact List.forall_mem_cons.mpr ⟨fun h => asym a a (of_decide_eq_true h) (of_decide_eq_true h),
        fun y hy h => asym _ _ (hp.1 y hy) (of_decide_eq_true h)⟩
    | succ i =>
      have hi : i < t.length := Nat.lt_of_succ_lt_succ h
      rw [List.getElem_cons_succ,
        List.countP_cons_of_pos (by exact decide_eq_true (hp.1 _ (List.getElem_mem hi))),
        ih hp.2 i hi]

theorem getElem?_map_range_append (f : Nat → α) {n e : Nat} (he : e < n) (l : List α) :
    ((List.range n).map f ++ l)[e]? = some (f e) := by
  rw [List.getElem?_append_left (by rw [List.length_map, List.length_range]; exact he),
    List.getElem?_map, List.getElem?_range he]
  rfl

theorem getElem?_map_range_append_add (f : Nat → α) (n k : Nat) (l : List α) :
    ((List.range n).map f ++ l)[n + k]? = l[k]? := by
  rw [List.getElem?_append_right (by rw [List.length_map, List.length_range]; exact Nat.le_add_right n k),
    List.length_map, List.length_range, Nat.add_sub_cancel_left]

theorem replicate_append_replicate_eq_iff (a b : Nat) (x y : α) (l : List α) :
    List.replicate a x ++ List.replicate b y = l ↔
      l.length = a + b ∧ (∀ i, i < a → l[i]? = some x) ∧ (∀ k, k < b → l[a + k]? = some y) := by
  constructor
  · rintro rfl
    refine ⟨by rw [List.length_append, List.length_replicate, List.length_replicate],
      fun i hi => ?_, fun k hk => ?_⟩
    · rw [List.getElem?_append_left (by rw [List.length_replicate]; exact hi),
        List.getElem?_replicate, if_pos hi]
    · rw [List.getElem?_append_right (by rw [List.length_replicate]; exact Nat.le_add_right a k),
        List.length_replicate, Nat.add_sub_cancel_left, List.getElem?_replicate, if_pos hk]
  · rintro ⟨hl, hx, hy⟩
    refine List.ext_getElem? fun n => ?_
    by_cases h1 : n < a
    · rw [hx n h1, List.getElem?_append_left (by rw [List.length_replicate]; exact h1),
        List.getElem?_replicate, if_pos h1]
    · obtain ⟨k, rfl⟩ := Nat.exists_eq_add_of_le (Nat.le_of_not_lt h1)
      rw [List.getElem?_append_right (by rw [List.length_replicate]; exact Nat.le_add_right a k),
        List.length_replicate, Nat.add_sub_cancel_left, List.getElem?_replicate]
      by_cases h2 : k < b
      · rw [if_pos h2, hy k h2]
      · rw [if_neg h2, List.getElem?_eq_none (hl ▸ Nat.add_le_add_left (Nat.le_of_not_lt h2) a)]

theorem range_add_drop (a m : Nat) : (List.range (a + m)).drop a = (List.range m).map (a + ·) := by
  rw [List.range_add, List.drop_append_of_le_length (by simp)]
  simp

theorem length_pairs (u : List β) : ∀ l : List α,
    (l.flatMap fun b => u.map fun x => (b, x)).length = l.length * u.length := by
  intro l
  induction l with
  | nil => simp
  | cons a l ih => simp [List.flatMap_cons, ih, Nat.add_mul, Nat.add_comm]

theorem le_sum_map (r : α → Nat) : ∀ (l : List α) (y : α), y ∈ l → r y ≤ (l.map r).sum := by
  intro l
  induction l with
  | nil => intro y h; cases h
  | cons a l ih =>
    intro y h
    simp only [List.map, List.sum_cons]
    cases h with
    | head => omega
    | tail _ h => have := ih y h; omega

theorem modify_append_left (f : α → α) {l : List α} (r : List α) {i : Nat} (h : i < l.length) :
    (l ++ r).modify i f = l.modify i f ++ r := by
  induction l generalizing i with
  | nil => simp at h
  | cons a l ih => cases i <;> simp_all

theorem modify_append_right (f : α → α) {l : List α} (r : List α) {i : Nat} (h : l.length ≤ i) :
    (l ++ r).modify i f = l ++ r.modify (i - l.length) f := by
  induction l generalizing i with
  | nil => simp
  | cons a l ih => cases i <;> simp_all

theorem getElem?_map_append_of_some (f : α → β) {σ : List α} (ρ : List β) {i : Nat} {a : α}
    (h : σ[i]? = some a) : (σ.map f ++ ρ)[i]? = some (f a) :=
  List.getElem?_append_of_some (by rw [List.getElem?_map, h, Option.map_some])

theorem getElem?_map_append_of_ge (f : α → β) (σ : List α) (ρ : List β) {i : Nat}
    (h : ¬ i < σ.length) : (σ.map f ++ ρ)[i]? = ρ[i - σ.length]? := by
  rw [List.getElem?_append_right (by simpa using h), List.length_map]

theorem getElem?_shift (t : α) (ts : List α) {i j : Nat} (h : i + 1 ≤ j) :
    (t :: ts)[j - i]? = ts[j - (i + 1)]? := by
  rw [show j - i = (j - (i + 1)) + 1 by omega, List.getElem?_cons_succ]

/-- the children of a place are numbered `i, i+1, …` and looked up at `j - i` -/
theorem forall_children_cons {P : Nat → α → Prop} (i : Nat) (t : α) (ts : List α) :
    (∀ j x, i ≤ j → (t :: ts)[j - i]? = some x → P j x) ↔
      P i t ∧ ∀ j x, i + 1 ≤ j → ts[j - (i + 1)]? = some x → P j x := by
  constructor
  · intro h
    exact ⟨h i t (Nat.le_refl i) (by simp),
      fun j x hj hx => h j x (by omega) (by rw [getElem?_shift t ts hj]; exact hx)⟩
  · rintro ⟨h0, h⟩ j x hj hx
    by_cases hji : j = i
    · subst hji; simp at hx; exact hx ▸ h0
    · exact h j x (by omega) (by rw [← getElem?_shift t ts (by omega)]; exact hx)

/-- Relations between two lists that are defined by the four equations of a position-indexed zip
    (`UnpackedL`, `ConfL`, `GoodList`, `HoldsList`, …) are pointwise. -/
theorem zipPred_iff {P : Nat → List α → List β → Prop} {R : Nat → α → β → Prop}
    (nil : ∀ k, P k [] [])
    (cons : ∀ k a as b bs, P k (a :: as) (b :: bs) ↔ R k a b ∧ P (k + 1) as bs)
    (nc : ∀ k b bs, ¬ P k [] (b :: bs)) (cn : ∀ k a as, ¬ P k (a :: as) []) :
    ∀ (as : List α) (k : Nat) (bs : List β), P k as bs ↔
      as.length = bs.length ∧ ∀ i a, as[i]? = some a → ∃ b, bs[i]? = some b ∧ R (k + i) a b
  | [], k, [] => by simp [nil]
  | [], k, b :: bs => by simp [nc]
  | a :: as, k, [] => by simp [cn]
  | a :: as, k, b :: bs => by
    rw [cons, zipPred_iff nil cons nc cn as (k + 1) bs]
    constructor
    · rintro ⟨h0, hl, h⟩
      refine ⟨by simp [hl], fun i a' hi => ?_⟩
      cases i with
      | zero => simp at hi; subst hi; exact ⟨b, rfl, h0⟩
      | succ i => simpa [Nat.add_assoc, Nat.add_comm 1 i] using h i a' (by simpa using hi)
    · rintro ⟨hl, h⟩
      refine ⟨by simpa using h 0 a rfl, by simpa using hl, fun i a' hi => ?_⟩
      simpa [Nat.add_assoc, Nat.add_comm 1 i] using h (i + 1) a' (by simpa using hi)

theorem prefix_snoc_inj {p q : List β} {a b : β} (h1 : (p ++ [a]) <+: q) (h2 : (p ++ [b]) <+: q) :
    a = b := by
  obtain ⟨r1, rfl⟩ := h1
  obtain ⟨r2, h⟩ := h2
  have := congrArg (fun l => l[p.length]?) h
  simp at this
  exact this.symm

theorem ne_of_not_prefix {p q : List β} (h : ¬ p <+: q) : q ≠ p :=
  fun e => h (e ▸ List.prefix_refl _)

theorem not_snoc_prefix_self (p : List β) (a : β) (r : List β) : ¬ (p ++ a :: r) <+: p := fun h => by
  have := h.length_le; simp at this; omega

theorem all_map_congr {p : α → Bool} {f : α → α} : ∀ {as : List α}, (∀ a ∈ as, p (f a) = p a) →
    (as.map f).all p = as.all p
  | [], _ => rfl
  | a :: as, h => by
    rw [List.map_cons, List.all_cons, List.all_cons, h a (by simp), all_map_congr fun b hb => h b (by simp [hb])]

theorem append_ne_nil_iff (a b : List α) : a ++ b ≠ [] ↔ a ≠ [] ∨ b ≠ [] := by
  cases a <;> simp

theorem foldl_prepend (f : α → β) (l : List α) (base : List β) :
    l.foldl (fun acc c => f c :: acc) base = l.reverse.map f ++ base := by
  rw [foldl_flip_cons_eq_append, map_reverse]

theorem zip_diag_iff : ∀ (a b : List α), b.length = a.length →
    ((∀ p, p ∈ a.zip b → p.1 = p.2) ↔ b = a)
  | [], b, hb => by cases b <;> simp_all
  | x :: xs, [], hb => by simp at hb
  | x :: xs, y :: ys, hb => by
    simp only [List.zip_cons_cons, List.mem_cons, forall_eq_or_imp, List.cons.injEq,
      zip_diag_iff xs ys (by simpa using hb)]
    exact and_congr_left' eq_comm

theorem mapM_flatten_map {f g : α → Option (List β)} {h : β → β} {l : List α}
    (hfg : ∀ a ∈ l, g a = (f a).map (List.map h)) :
    (l.mapM g).map List.flatten = ((l.mapM f).map List.flatten).map (List.map h) := by
  induction l with
  | nil => rfl
  | cons a l ih =>
    have ih := ih fun b hb => hfg b (List.mem_cons_of_mem _ hb)
    simp only [List.mapM_cons, hfg a List.mem_cons_self]
    cases f a <;> simp only [Option.map_none, Option.map_some, Option.bind_eq_bind, Option.bind_none, Option.bind_some]
    revert ih
    cases l.mapM f <;> cases l.mapM g <;> simp

theorem nodup_snoc {α : Type _} {l : List α} {x : α} (hn : l.Nodup) (hx : x ∉ l) : (l ++ [x]).Nodup :=
  nodup_append.mpr ⟨hn, by simp, fun a ha b hb hab => by
    rw [mem_singleton.mp hb] at hab; exact hx (hab ▸ ha)⟩

theorem mem_of_lookup_eq_some [BEq α] [LawfulBEq α] {l : List (α × β)} {k : α} {b : β}
    (h : l.lookup k = some b) : (k, b) ∈ l := by
  obtain ⟨l₁, l₂, rfl, -⟩ := lookup_eq_some_iff.1 h
  simp

end List
