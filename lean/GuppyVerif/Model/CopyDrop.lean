import GuppyVerif.Model.Ty
/-! Model for C14: copy/drop classification of Guppy types (`tys/ty.py`), their lowering to HUGR types
  (`to_hugr`, `tys/builtin.py`, `std/_internal/compiler/{either,futures}.py`), the HUGR-side bound
  (`hugr.tys.*.type_bound`, assumed semantics of the hugr package) and `requires_drop`
  (`compiler/core.py`).

  Evaluation strategy.  Python computes `StructType.fields` by instantiating the definition's fields
  with the arguments (`Instantiator(self.args)`) and then recurses into the instantiated types.  The
  model recurses into the *definition's* field types under an environment that holds, per struct
  parameter, what the recursion would have computed for the argument (flags, HUGR type, HUGR row);
  this is structurally recursive.  `Lemmas/C14Subst.lean` proves the substitution lemmas which show that it
  computes exactly Python's recursion equations (`flagGList_subst`, `toHugrEList_subst`). -/
namespace GuppyVerif.CopyDrop
open GuppyVerif

/-! ## HUGR types (the fragment `to_hugr` can produce) -/

inductive HBound where
  | copyable | linear
  deriving DecidableEq, Repr, Inhabited

/-- `TypeBound.join` of two bounds (least upper bound, `Copyable < Linear`) -/
def HBound.join : HBound → HBound → HBound
  | .copyable, .copyable => .copyable
  | _, _ => .linear

/-- how `ExtType.type_bound()` is determined: `ExplicitBound(b)`, or the join of the bounds of the
    type arguments (`FromParamsBound` over every type parameter; also the `type_bound` overrides of
    `hugr.std.collections.{list.List, static_array.StaticArray}`) -/
inductive ExtRule where
  | explicit (b : HBound)
  | joinArgs
  deriving DecidableEq, Repr, Inhabited

mutual
inductive HTy where
  /-- `ht.ExtType(type_def, args)`; `name` = qualified name of the type definition -/
  | ext (name : String) (rule : ExtRule) (args : List HArg)
  /-- `ht.Sum(variant_rows)` (also `Tuple`, `Option`, `Either`) -/
  | sum (rows : List HRow)
  | var (idx : Nat) (b : HBound)
  | func (ins outs : List HTy)
  | qubit
inductive HRow where
  | mk (ts : List HTy)
inductive HArg where
  | ty (t : HTy)
  | nat (n : Nat)
  | natVar (idx : Nat)
end

instance : Inhabited HTy := ⟨.qubit⟩

mutual
/-- `Type.type_bound()` of the hugr package -/
def typeBound : HTy → HBound
  | .ext _ (.explicit b) _ => b
  | .ext _ .joinArgs args => typeBoundArgs args
  | .sum rows => typeBoundRows rows
  | .var _ b => b
  | .func _ _ => .copyable
  | .qubit => .linear
def typeBoundArgs : List HArg → HBound
  | [] => .copyable
  | .ty t :: r => (typeBound t).join (typeBoundArgs r)
  | .nat _ :: r => typeBoundArgs r
  | .natVar _ :: r => typeBoundArgs r
def typeBoundRows : List HRow → HBound
  | [] => .copyable
  | .mk ts :: r => (typeBoundList ts).join (typeBoundRows r)
def typeBoundList : List HTy → HBound
  | [] => .copyable
  | t :: r => (typeBound t).join (typeBoundList r)
end

mutual
/-- `compiler/core.py::requires_drop`; `aff` = `AFFINE_EXTENSION_TYS` -/
def requiresDrop (aff : List String) : HTy → Bool
  | .ext name _ args => aff.contains name || requiresDropArgs aff args
  | .sum rows => requiresDropRows aff rows
  | .var _ b => b == .linear
  | .func _ _ => false
  | .qubit => false
def requiresDropArgs (aff : List String) : List HArg → Bool
  | [] => false
  | .ty t :: r => requiresDrop aff t || requiresDropArgs aff r
  | .nat _ :: r => requiresDropArgs aff r
  | .natVar _ :: r => requiresDropArgs aff r
def requiresDropRows (aff : List String) : List HRow → Bool
  | [] => false
  | .mk ts :: r => requiresDropList aff ts || requiresDropRows aff r
def requiresDropList (aff : List String) : List HTy → Bool
  | [] => false
  | t :: r => requiresDrop aff t || requiresDropList aff r
end

/-- `ht.Option(t)` = `Sum([[], [t]])` -/
def optionOf (h : HTy) : HTy := .sum [.mk [], .mk [h]]
/-- `ht.Tuple(*ts)` = `Sum([ts])` -/
def tupleOf (hs : List HTy) : HTy := .sum [.mk hs]

def flagB (c : Bool) : HBound := if c then .copyable else .linear

/-- `NumericType.to_hugr`: `int_t(6)` for nat/int, `FLOAT_T` -/
def numT : NumKind → HTy
  | .float => .ext "arithmetic.float.types.float64" (.explicit .copyable) []
  | _ => .ext "arithmetic.int.types.int" (.explicit .copyable) [.nat 6]

/-! ## Opaque type definitions (`OpaqueTypeDef`), table regenerated into `Gen/C14TypeDefs.lean` -/

inductive PKind where
  | ty (cp dr : Bool)
  | const
  deriving DecidableEq, Repr, Inhabited

/-- which `to_hugr` function the definition uses -/
inductive Shape where
  /-- `lambda args, ctx: hugr_ty` (the definition has no parameters; `check_instantiate` guarantees
      an empty argument list, the model returns an error otherwise) -/
  | static (h : HTy)
  /-- `_list_to_hugr`: `List(Option(elem) if elem.linear else elem)` -/
  | listOpt (ext : String) (rule : ExtRule)
  /-- `_array_to_hugr`: `BorrowArray(elem, len)` (hugr args `[len, elem]`) -/
  | array (ext : String) (rule : ExtRule)
  /-- `_frozenarray_to_hugr`: `StaticArray(elem)`; the constructor raises unless elem is copyable -/
  | staticArray (ext : String) (rule : ExtRule)
  /-- `_sized_iter_to_hugr`: the underlying type -/
  | underlying
  /-- `_option_to_hugr` -/
  | option
  /-- `either_to_hugr`: `Either(type_to_row(L), type_to_row(R))` -/
  | either
  /-- `future_to_hugr`-like: `type_def.instantiate([TypeTypeArg(elem)])` -/
  | ext1 (ext : String) (rule : ExtRule)
  | unknown

structure OpaqueDef where
  name : String
  neverCopyable : Bool
  neverDroppable : Bool
  bound : Option HBound
  params : List PKind
  shape : Shape

def lookup (D : List OpaqueDef) (n : String) : Option OpaqueDef := D.find? (fun d => d.name == n)

inductive Sel where
  | copy | drop
  deriving DecidableEq, Repr

def OpaqueDef.never (d : OpaqueDef) : Sel → Bool
  | .copy => d.neverCopyable
  | .drop => d.neverDroppable

def selFlag : Sel → Bool → Bool → Bool
  | .copy, c, _ => c
  | .drop, _, d => d

/-- `not defn.never_copyable` / `not defn.never_droppable` (an unknown definition cannot occur in
    Python: the type object holds its definition; the driver reports it as an error) -/
def intrinsic (D : List OpaqueDef) (s : Sel) (n : String) : Bool :=
  match lookup D n with
  | some d => !d.never s
  | none => false

/-! ## `Type.copyable` / `Type.droppable`

  `flagG D u s ρ t`: `u = true` is Python's rule (`ParametrizedTypeBase.copyable`: intrinsic flag and all
  type arguments).  `u = false` ignores the *type arguments of struct types* (fields only); it is used
  only to state precisely what the HUGR bound of the lowered type reflects (`coreCopyable`). -/
mutual
/-- `ρ` holds the flag of the argument for each enclosing struct parameter (`true` at const positions) -/
def flagG (D : List OpaqueDef) (u : Bool) (s : Sel) (ρ : List Bool) : Ty → Bool
  | .num _ => true
  | .none _ => true
  | .bvar _ i c d => match ρ[i]? with
    | some b => b
    | none => selFlag s c d
  | .evar _ _ c d => selFlag s c d
  | .tuple ts _ => flagGList D u s ρ ts
  | .func _ _ _ _ => true
  | .opaque n as => intrinsic D s n && flagGArgs D u s ρ as
  | .struct _ as fs => flagGList D u s (flagEnvArgs D u s ρ as) fs && (!u || flagGArgs D u s ρ as)
def flagGList (D : List OpaqueDef) (u : Bool) (s : Sel) (ρ : List Bool) : List Ty → Bool
  | [] => true
  | t :: r => flagG D u s ρ t && flagGList D u s ρ r
def flagGArgs (D : List OpaqueDef) (u : Bool) (s : Sel) (ρ : List Bool) : List Arg → Bool
  | [] => true
  | .ty t :: r => flagG D u s ρ t && flagGArgs D u s ρ r
  | .const _ :: r => flagGArgs D u s ρ r
def flagEnvArgs (D : List OpaqueDef) (u : Bool) (s : Sel) (ρ : List Bool) : List Arg → List Bool
  | [] => []
  | .ty t :: r => flagG D u s ρ t :: flagEnvArgs D u s ρ r
  | .const _ :: r => true :: flagEnvArgs D u s ρ r
end

/-- Python's `Type.copyable` / `Type.droppable` under an environment -/
abbrev flagE (D : List OpaqueDef) (s : Sel) (ρ : List Bool) (t : Ty) : Bool := flagG D true s ρ t

def copyable (D : List OpaqueDef) (t : Ty) : Bool := flagG D true .copy [] t
def droppable (D : List OpaqueDef) (t : Ty) : Bool := flagG D true .drop [] t
/-- copyable / droppable when struct type arguments are not counted (fields only) -/
def coreCopyable (D : List OpaqueDef) (t : Ty) : Bool := flagG D false .copy [] t
def coreDroppable (D : List OpaqueDef) (t : Ty) : Bool := flagG D false .drop [] t

/-! "no phantom parameter": at every struct node (also inside definition fields, evaluated under the
  actual arguments) the type arguments carry the flag whenever all fields do -/
mutual
def npE (D : List OpaqueDef) (s : Sel) (ρ : List Bool) : Ty → Bool
  | .tuple ts _ => npEList D s ρ ts
  | .opaque _ as => npEArgs D s ρ as
  | .struct _ as fs =>
      (!flagGList D true s (flagEnvArgs D true s ρ as) fs || flagGArgs D true s ρ as) &&
      npEList D s (flagEnvArgs D true s ρ as) fs && npEArgs D s ρ as
  | _ => true
def npEList (D : List OpaqueDef) (s : Sel) (ρ : List Bool) : List Ty → Bool
  | [] => true
  | t :: r => npE D s ρ t && npEList D s ρ r
def npEArgs (D : List OpaqueDef) (s : Sel) (ρ : List Bool) : List Arg → Bool
  | [] => true
  | .ty t :: r => npE D s ρ t && npEArgs D s ρ r
  | .const _ :: r => npEArgs D s ρ r
end

def noPhantom (D : List OpaqueDef) (s : Sel) (t : Ty) : Bool := npE D s [] t

/-! ## `Type.hugr_bound` (Guppy's own computation of the bound) -/
def joinAll (b : HBound) (bs : List HBound) : HBound := bs.foldl HBound.join b

mutual
def hugrBound (D : List OpaqueDef) : Ty → Option HBound
  | .num _ => some .copyable
  | .none _ => some .copyable
  | .func _ _ _ _ => some .copyable
  | .bvar _ _ c _ => some (flagB c)
  | .evar _ _ _ _ => none
  | .tuple ts p => do some (joinAll (flagB (copyable D (.tuple ts p))) (← hugrBoundList D ts))
  | .opaque n as =>
      match (lookup D n).bind (·.bound) with
      | some b => some b
      | none => do some (joinAll (flagB (copyable D (.opaque n as))) (← hugrBoundArgs D as))
  | .struct n as fs => do some (joinAll (flagB (copyable D (.struct n as fs))) (← hugrBoundArgs D as))
def hugrBoundList (D : List OpaqueDef) : List Ty → Option (List HBound)
  | [] => some []
  | t :: r => do some ((← hugrBound D t) :: (← hugrBoundList D r))
def hugrBoundArgs (D : List OpaqueDef) : List Arg → Option (List HBound)
  | [] => some []
  | .ty t :: r => do some ((← hugrBound D t) :: (← hugrBoundArgs D r))
  | .const _ :: r => hugrBoundArgs D r
end

/-! ## `Type.to_hugr(ctx)` for a context without monomorphization -/

/-- what the recursion computed for the argument bound to a struct parameter -/
inductive EnvE where
  | ty (cp dr : Bool) (h : Option HTy) (row : Option (List HTy))
  | const (a : Option HArg)

def EnvE.flag (s : Sel) : EnvE → Bool
  | .ty c d _ _ => selFlag s c d
  | .const _ => true

def flagEnv (s : Sel) (ρ : List EnvE) : List Bool := ρ.map (EnvE.flag s)

/-- `ConstArg.to_hugr` / `const_var_to_hugr` (no monomorphization) -/
def constArgE (ρ : List EnvE) : Const → Option HArg
  | .val (.num .nat) (.int v) => if 0 ≤ v then some (.nat v.toNat) else none
  | .val _ _ => none
  | .bvar ty _ i =>
      match ρ[i]? with
      | some (.const a) => a
      | some (.ty _ _ _ _) => none
      | none => match ty with
        | .num .nat => some (.natVar (i - ρ.length))
        | _ => none
  | .evar _ _ _ => none

/-- HUGR type of a bound type variable -/
def varH (ρ : List EnvE) (i : Nat) (c : Bool) : Option HTy :=
  match ρ[i]? with
  | some (.ty _ _ h _) => h
  | some (.const _) => none
  | none => some (.var (i - ρ.length) (flagB c))

/-- `type_to_row` then `to_hugr` of a bound type variable -/
def varRow (ρ : List EnvE) (i : Nat) (c : Bool) : Option (List HTy) :=
  match ρ[i]? with
  | some (.ty _ _ _ r) => r
  | some (.const _) => none
  | none => some [.var (i - ρ.length) (flagB c)]

/-- the single row of a `Tuple` HUGR type -/
def unpackRow : HTy → Option (List HTy)
  | .sum [.mk hs] => some hs
  | _ => none

/-- `[x.to_hugr(ctx) for x in type_to_row(t)]`, given `h = t.to_hugr(ctx)`: a top-level tuple / `None`
    without the `preserve` flag is unpacked into its elements (the model unpacks the HUGR tuple that was
    just built; Python maps `to_hugr` over `element_types` — the same list) -/
def rowOf (ρ : List EnvE) (t : Ty) (h : Option HTy) : Option (List HTy) :=
  match t with
  | .none false => h.bind unpackRow
  | .tuple _ false => h.bind unpackRow
  | .bvar _ i c _ => varRow ρ i c
  | _ => h.map (fun x => [x])

mutual
def toHugrE (D : List OpaqueDef) (ρ : List EnvE) : Ty → Option HTy
  | .num k => some (numT k)
  | .none _ => some (tupleOf [])
  | .bvar _ i c _ => varH ρ i c
  | .evar _ _ _ _ => none
  | .tuple ts _ => do some (tupleOf (← toHugrEList D ρ ts))
  | .func ins o ps _ =>
      if ps.isEmpty then do
        let is ← funcInsE D ρ ins
        -- `type_to_row(self.output)`
        let os ← rowOf ρ o (toHugrE D ρ o)
        let bs ← funcInoutsE D ρ ins
        some (.func is (os ++ bs))
      else none
  | .opaque n as =>
      match lookup D n with
      | none => none
      | some d =>
        match d.shape, as with
        | .static h, [] => some h
        | .listOpt e r, [.ty t] => do
            let h ← toHugrE D ρ t
            let lin := !flagE D .copy (flagEnv .copy ρ) t && !flagE D .drop (flagEnv .drop ρ) t
            some (.ext e r [.ty (if lin then optionOf h else h)])
        | .array e r, [.ty t, .const c] => do
            let h ← toHugrE D ρ t
            let a ← constArgE ρ c
            some (.ext e r [a, .ty h])
        | .staticArray e r, [.ty t, .const _] => do
            let h ← toHugrE D ρ t
            if typeBound h = .copyable then some (.ext e r [.ty h]) else none
        | .underlying, [.ty t, .const _] => toHugrE D ρ t
        | .option, [.ty t] => do some (optionOf (← toHugrE D ρ t))
        | .either, [.ty l, .ty r] => do
            let ls ← rowOf ρ l (toHugrE D ρ l)
            let rs ← rowOf ρ r (toHugrE D ρ r)
            some (.sum [.mk ls, .mk rs])
        | .ext1 e r, [.ty t] => do some (.ext e r [.ty (← toHugrE D ρ t)])
        | _, _ => none
  | .struct _ as fs => do some (tupleOf (← toHugrEList D (envArgs D ρ as) fs))
def toHugrEList (D : List OpaqueDef) (ρ : List EnvE) : List Ty → Option (List HTy)
  | [] => some []
  | t :: r => do some ((← toHugrE D ρ t) :: (← toHugrEList D ρ r))
/-- inputs that are not `@comptime` -/
def funcInsE (D : List OpaqueDef) (ρ : List EnvE) : List FuncIn → Option (List HTy)
  | [] => some []
  | .mk t f :: r =>
      if f.comptime then funcInsE D ρ r
      else do some ((← toHugrE D ρ t) :: (← funcInsE D ρ r))
/-- borrowed inputs are returned as additional outputs -/
def funcInoutsE (D : List OpaqueDef) (ρ : List EnvE) : List FuncIn → Option (List HTy)
  | [] => some []
  | .mk t f :: r =>
      if f.inout then do some ((← toHugrE D ρ t) :: (← funcInoutsE D ρ r))
      else funcInoutsE D ρ r
def envArgs (D : List OpaqueDef) (ρ : List EnvE) : List Arg → List EnvE
  | [] => []
  | .ty t :: r =>
      .ty (flagE D .copy (flagEnv .copy ρ) t) (flagE D .drop (flagEnv .drop ρ) t) (toHugrE D ρ t)
        (rowOf ρ t (toHugrE D ρ t)) :: envArgs D ρ r
  | .const c :: r => .const (constArgE ρ c) :: envArgs D ρ r
end

/-- `[t.to_hugr(ctx) for t in type_to_row(ty)]` -/
def toRowE (D : List OpaqueDef) (ρ : List EnvE) (t : Ty) : Option (List HTy) :=
  rowOf ρ t (toHugrE D ρ t)

def toHugr (D : List OpaqueDef) (t : Ty) : Option HTy := toHugrE D [] t

def PKind.isTy : PKind → Bool
  | .ty _ _ => true
  | .const => false

def Arg.isTy : Arg → Bool
  | .ty _ => true
  | .const _ => false

/-! every opaque definition mentioned by the type (recursively, definition fields included) is in the
    table and is applied to arguments of the kinds of its parameters (what `check_instantiate` ensures) -/
mutual
def known (D : List OpaqueDef) : Ty → Bool
  | .tuple ts _ => knownList D ts
  | .func ins o _ _ => knownIns D ins && known D o
  | .opaque n as =>
      (match lookup D n with
        | some d => as.map Arg.isTy == d.params.map PKind.isTy
        | none => false) && knownArgs D as
  | .struct _ as fs => knownArgs D as && knownList D fs
  | _ => true
def knownList (D : List OpaqueDef) : List Ty → Bool
  | [] => true
  | t :: r => known D t && knownList D r
def knownIns (D : List OpaqueDef) : List FuncIn → Bool
  | [] => true
  | .mk t _ :: r => known D t && knownIns D r
def knownArgs (D : List OpaqueDef) : List Arg → Bool
  | [] => true
  | .ty t :: r => known D t && knownArgs D r
  | .const _ :: r => knownArgs D r
end

/-! ## Consistency of one table row (checked by `decide` on the regenerated table) -/
def HBound.isCopyable : HBound → Bool
  | .copyable => true
  | .linear => false

def ExtRule.isJoin : ExtRule → Bool
  | .joinArgs => true
  | _ => false

def ExtRule.isExplicitLinear : ExtRule → Bool
  | .explicit .linear => true
  | _ => false

def PKind.mustCopy : PKind → Bool
  | .ty c _ => c
  | .const => false

/-- parameter kinds are exactly `[type, …]` resp. `[type, const]` -/
def kindsAre (ps : List PKind) (ks : List Bool) : Bool := ps.map PKind.isTy == ks

def rowOk (aff : List String) (d : OpaqueDef) : Bool :=
  (match d.bound with
    | none => true
    | some b => d.params.isEmpty && (b.isCopyable == !d.neverCopyable)) &&
  (match d.shape with
    | .static h =>
        d.params.isEmpty && ((typeBound h).isCopyable == !d.neverCopyable) &&
        ((typeBound h).isCopyable || d.neverDroppable || requiresDrop aff h) &&
        (!(typeBound h).isCopyable || !requiresDrop aff h)
    | .listOpt e r =>
        r.isJoin && !d.neverCopyable && !d.neverDroppable && !aff.contains e && kindsAre d.params [true]
    | .array e r =>
        r.isExplicitLinear && d.neverCopyable && !d.neverDroppable && aff.contains e &&
        kindsAre d.params [true, false]
    | .staticArray e r =>
        r.isJoin && !d.neverCopyable && !d.neverDroppable && !aff.contains e &&
        kindsAre d.params [true, false] && (d.params.head?.map PKind.mustCopy == some true)
    | .underlying => !d.neverCopyable && !d.neverDroppable && kindsAre d.params [true, false]
    | .option => !d.neverCopyable && !d.neverDroppable && kindsAre d.params [true]
    | .either => !d.neverCopyable && !d.neverDroppable && kindsAre d.params [true, true]
    | .ext1 _ r => r.isExplicitLinear && d.neverCopyable && d.neverDroppable && kindsAre d.params [true]
    | .unknown => false)

/-- the HUGR types of `int`/`nat`/`float` are not in `AFFINE_EXTENSION_TYS` -/
def affOk (aff : List String) : Bool :=
  !aff.contains "arithmetic.int.types.int" && !aff.contains "arithmetic.float.types.float64"

def tableOk (aff : List String) (D : List OpaqueDef) : Bool := D.all (rowOk aff)

/-! ## Printing HUGR types (driver) -/
mutual
partial def showH : HTy → String
  | .ext n _ as => "(ext " ++ n ++ String.join (as.map fun a => " " ++ showHArg a) ++ ")"
  | .sum rows => "(sum" ++ String.join (rows.map fun r => " " ++ showHRow r) ++ ")"
  | .var i b => s!"(var {i} {showB b})"
  | .func is os => "(func (" ++ " ".intercalate (is.map showH) ++ ") (" ++ " ".intercalate (os.map showH) ++ "))"
  | .qubit => "qubit"
partial def showHRow : HRow → String
  | .mk ts => "(" ++ " ".intercalate (ts.map showH) ++ ")"
partial def showHArg : HArg → String
  | .ty t => "(t " ++ showH t ++ ")"
  | .nat n => s!"(n {n})"
  | .natVar i => s!"(nv {i})"
partial def showB : HBound → String
  | .copyable => "C"
  | .linear => "L"
end

end GuppyVerif.CopyDrop
