import GuppyVerif.Model.Dataflow
/-! Model of `guppylang_internals/checker/linearity_checker.py` on a core fragment.

    Input: the `CheckedCFG[Variable]` that `check_cfg_linearity` receives.  Places are given by
    their `leaf_places`: ids of the leaf projections (numbers) **together with the kind of the
    binding the occurrence refers to** (`true` = linear: not copyable, not droppable — qubit;
    `false` = copyable and droppable — int, bool).  The kind belongs to the binding, not to the
    name: a variable may be re-bound at a type of the other kind (`q = 3.25` after `measure(q)`),
    exactly as the real `Scope` stores `Place` objects with their types (fix 0c7baf7 is about
    keeping the two bindings of one name apart in pass 2).

    A statement is the sequence of place-level actions the visitor performs on it, in the
    visitor's order (so nested calls are covered, with their order of consumption):
    `use p borrow` = `visit_PlaceNode(p, use_kind)` (`borrow` ⇔ `BORROW`), `give p` =
    `_reassign_single_inout_arg(p)` (also the unconditional `scope.assign` of the fresh temporaries of
    a subscript place: `item`, `value_var`), `dropAfter` = a borrowed argument that is not a place
    and not droppable (`DropAfterCallError`), `moveOut` = a non-borrowing use of a subscript place
    with a non-copyable element type (`MoveOutOfSubscriptError`); then the assignment targets; `dropsLin` = an expression
    statement whose value is not droppable.

    The checker is modelled in its two passes:

    * pass 1, `BBLinearityChecker.check` per block: `Scope` (`vars` with the kind of each stored
      place, `used_local`, `used_parent`, parent = the `input_scope` built from
      `bb.sig.input_row`; the entry block uses the input scope itself), `visit_PlaceNode`,
      `visit_Assign` / `_check_assign_targets`, `_visit_call_args` / `_reassign_inout_args`,
      `visit_Return`, `visit_Expr`;
    * pass 2, `check_cfg_linearity`: implicit use of the borrowed leaves in the exit block,
      `live_default`, `LivenessAnalysis(scope.stats(), initial=live_default,
      include_unreachable=False)` (the worklist of `Model/Dataflow.lean`), then per block the
      "used but live in a successor" check (kind = that of the place flowing into the block) and
      the "unused, not droppable, not live in all successors" check (over the local places and
      the parent places the block does not reassign) with the
      `x ∉ live_before_bb ∧ x ∉ scope.vars` skip.

    Python exceptions that are not user errors (assertion / KeyError on a place that is in no
    scope) are the result `crash`.  Import-free apart from the C09 dataflow model. -/
namespace GuppyVerif.Linearity

abbrev Leaf := Nat
abbrev Var := Nat
abbrev Blk := Nat

/-- A place as the linearity checker sees it: `leaf_places(place)` (id and kind of each leaf),
    whether it is a whole `Variable` (and which), and whether the place is itself a leaf. -/
structure Place where
  leaves : List (Leaf × Bool)
  var : Option Var
  isLeaf : Bool
  deriving Repr, Inhabited

/-- what the visitor does with the places of a statement, in its order -/
inductive Act where
  | use (p : Place) (borrow : Bool)
  | give (p : Place)
  | dropAfter
  | moveOut
  deriving Repr, Inhabited

/-- a statement: `ast.Assign` (value, then targets), `ast.Expr` (`tgts = []`; `dropsLin` = the
    discarded value is not droppable), `ast.Return` / a branch predicate (`tgts = []`) -/
structure Stmt where
  acts : List Act
  tgts : List Place
  dropsLin : Bool
  deriving Repr, Inhabited

/-- the `CheckedCFG[Variable]` handed to `check_cfg_linearity` -/
structure Prog where
  /-- names of the parameters with `InputFlags.Inout` -/
  borrowedVars : List Var
  /-- `leaf_places` of those parameters -/
  borrowedLeaves : List Leaf
  /-- `cfg.bbs`, in order -/
  blocks : List Blk
  entry : Blk
  exit : Blk
  /-- `cfg.exit_bb.reachable` -/
  exitReachable : Bool
  /-- leaves of `bb.sig.input_row` (for the entry block: of the function inputs) -/
  row : Blk → List Leaf
  /-- those of them whose type is linear -/
  rowLin : Blk → List Leaf
  stmts : Blk → List Stmt
  succ : Blk → List Blk

inductive Err where
  | notOwned              -- NotOwnedError
  | alreadyUsed           -- AlreadyUsedError (pass 1)
  | placeNotUsed          -- PlaceNotUsedError (pass 1: overwrite; pass 2: leak)
  | borrowShadowed        -- BorrowShadowedError
  | unnamedExprNotUsed    -- UnnamedExprNotUsedError
  | dropAfterCall         -- DropAfterCallError
  | moveOutOfSubscript    -- MoveOutOfSubscriptError
  | usedThenLive (borrowedLeaf : Bool)  -- pass 2: AlreadyUsedError, or BorrowSubPlaceUsedError when
                                        -- the recorded later use is the implicit return of a borrowed leaf
  | crash                 -- AssertionError / KeyError: a place that is in no scope
  | fuel                  -- the liveness worklist did not finish within the model's fuel (impossible: `live_terminates`)
  deriving Repr, DecidableEq, Inhabited

abbrev R := Except Err

/-! ## `Scope` -/

structure Scope where
  vars : List Leaf          -- keys of `vars`, insertion order
  linVars : List Leaf       -- those whose stored place has a linear type
  usedLocal : List Leaf     -- keys of `used_local`
  usedParent : List Leaf    -- keys of `used_parent`
  parent : List Leaf        -- keys of `parent_scope.vars`; `[]` when there is no parent
  linParent : List Leaf     -- those whose stored place has a linear type
  deriving Repr, Inhabited

def ins (x : Leaf) (l : List Leaf) : List Leaf := if l.contains x then l else l ++ [x]

/-- `Scope.used(x) is not None`; `none` = assertion failure (x in no scope) -/
def Scope.used (s : Scope) (x : Leaf) : Option Bool :=
  if s.vars.contains x then some (s.usedLocal.contains x)
  else if s.parent.contains x then some (s.usedParent.contains x)
  else none

/-- `Scope.use(x, …)` -/
def Scope.use (s : Scope) (x : Leaf) : R Scope :=
  if s.vars.contains x then .ok { s with usedLocal := ins x s.usedLocal }
  else if s.parent.contains x then .ok { s with usedParent := ins x s.usedParent }
  else .error .crash

/-- `Scope.assign(place)`; `k` = the new place has a linear type -/
def Scope.assign (s : Scope) (xk : Leaf × Bool) : Scope :=
  { s with vars := ins xk.1 s.vars,
           linVars := if xk.2 then ins xk.1 s.linVars else s.linVars.filter (· != xk.1),
           usedLocal := s.usedLocal.filter (· != xk.1) }

/-! ## pass 1: `BBLinearityChecker` -/

/-- `is_inout_var(place)`: a whole variable that is a borrowed parameter -/
def isInoutVar (P : Prog) (p : Place) : Bool :=
  match p.var with
  | some v => P.borrowedVars.contains v
  | none => false

/-- the loop body of `visit_PlaceNode` for one leaf (kind of the occurrence: `place.ty.copyable`) -/
def useLeaf (s : Scope) (xk : Leaf × Bool) : R Scope :=
  match s.used xk.1 with
  | none => .error .crash
  | some u => if u && xk.2 then .error .alreadyUsed else s.use xk.1

/-- `visit_PlaceNode(node, use_kind)`; `borrow` = (`use_kind == BORROW`) -/
def visitPlace (P : Prog) (borrow : Bool) (s : Scope) (p : Place) : R Scope :=
  if isInoutVar P p && !borrow then .error .notOwned
  else p.leaves.foldlM useLeaf s

/-- `_reassign_single_inout_arg` -/
def givePlace (s : Scope) (p : Place) : Scope := p.leaves.foldl Scope.assign s

def doAct (P : Prog) (s : Scope) : Act → R Scope
  | .use p borrow => visitPlace P borrow s p
  | .give p => .ok (givePlace s p)
  | .dropAfter => .error .dropAfterCall
  | .moveOut => .error .moveOutOfSubscript

/-- the inner loop of `_check_assign_targets` for one leaf of a target: the place stored under
    the id so far must not be an unused linear one -/
def assignLeaf (s : Scope) (xk : Leaf × Bool) : R Scope :=
  if s.vars.contains xk.1 && !s.usedLocal.contains xk.1 && s.linVars.contains xk.1 then .error .placeNotUsed
  else .ok (s.assign xk)

/-- `_check_assign_targets` for one target place -/
def assignTarget (P : Prog) (s : Scope) (t : Place) : R Scope :=
  if t.isLeaf && isInoutVar P t && t.leaves.all (fun xk => s.vars.contains xk.1) then .error .borrowShadowed
  else t.leaves.foldlM assignLeaf s

/-- `_check_assign_targets`, then the shadowing loop at the end of `visit_Assign` -/
def assignTargets (P : Prog) (s : Scope) (tgts : List Place) : R Scope := do
  let s ← tgts.foldlM (assignTarget P) s
  if tgts.any (isInoutVar P) then .error .borrowShadowed else .ok s

def checkStmt (P : Prog) (s : Scope) (st : Stmt) : R Scope := do
  let s ← st.acts.foldlM (doAct P) s
  if st.dropsLin then .error .unnamedExprNotUsed else assignTargets P s st.tgts

/-- the scope `BBLinearityChecker.check` starts from: the entry block works directly in the
    input scope, every other block in a fresh child of it -/
def initScope (P : Prog) (b : Blk) : Scope :=
  if b = P.entry then ⟨P.row b, P.rowLin b, [], [], [], []⟩ else ⟨[], [], [], [], P.row b, P.rowLin b⟩

def checkBlock (P : Prog) (b : Blk) : R Scope :=
  (P.stmts b).foldlM (checkStmt P) (initScope P b)

/-! ## pass 2: `check_cfg_linearity` -/
/-- "Mark the borrowed variables as implicitly used in the exit BB" -/
def exitUse (P : Prog) (s : Scope) : R Scope := P.borrowedLeaves.foldlM Scope.use s

def lookup (tbl : List (Blk × Scope)) (b : Blk) : Scope :=
  match tbl.find? (·.1 == b) with
  | some p => p.2
  | none => default

/-- `scopes = {bb: bb_checker.check(bb, …) for bb in cfg.bbs}`: in `cfg.bbs` order, the first error wins -/
def pass1 (P : Prog) : R (List (Blk × Scope)) :=
  P.blocks.mapM fun b => (checkBlock P b).map fun s => (b, s)

/-- `exit_scope.use(leaf.id, InoutReturnSentinel(var), RETURN)` on the exit block's scope -/
def amendExit (P : Prog) (q : Blk × Scope) : R (Blk × Scope) :=
  if q.1 = P.exit then (exitUse P q.2).map fun s => (q.1, s) else .ok q

/-- scopes of all blocks, exit scope amended -/
def scopes (P : Prog) : R (List (Blk × Scope)) :=
  pass1 P >>= fun tbl => tbl.mapM (amendExit P)

/-- the CFG with `scope.stats()` the place-level liveness analysis runs on; predecessors are
    the converse of `succ` (the order of `bb.predecessors` only influences the visiting order) -/
def flowCfg (P : Prog) (sc : Blk → Scope) : Dataflow.Cfg where
  blocks := P.blocks
  succ := fun b => if P.blocks.contains b then P.succ b else []
  dsucc := fun _ => []
  pred := fun b => P.blocks.filter fun p => (P.succ p).contains b
  dpred := fun _ => []
  used := fun b => (sc b).usedParent
  assigned := fun b => (sc b).vars

/-- "used but live in a successor", for one live place of successor `c`; its kind is that of the
    place flowing into the block that uses it (`use_scope.parent_scope[x]`), which by the type
    checker's `check_rows_match` is its kind in the row of `c` -/
def checkLiveUsed (P : Prog) (c : Blk) (s : Scope) (x : Leaf) : R Unit :=
  if (P.rowLin c).contains x then
    match s.used x with
    | none => .error .crash
    | some true => .error (.usedThenLive (P.borrowedLeaves.contains x))
    | some false => .ok ()
  else .ok ()

/-- "unused, not droppable, not live in all successors", for one place of the scope -/
def checkLeak (P : Prog) (live : Blk → List Leaf) (b : Blk) (s : Scope) (lin : Bool) (x : Leaf) : R Unit :=
  if !(live b).contains x && !s.vars.contains x then .ok ()
  else
    let usedLater := (P.succ b).all fun c => (live c).contains x
    match s.used x with
    | none => .error .crash
    | some u => if lin && !u && !usedLater then .error .placeNotUsed else .ok ()

/-- `live_places_row(bb, bb.sig.input_row, scope.parent_scope)`: `pred_scope[x]` raises `KeyError`
    for a live place that is not in the parent scope (entry and exit keep their original rows) -/
def checkInRow (P : Prog) (live : Blk → List Leaf) (b : Blk) (s : Scope) : R Unit :=
  if b = P.entry ∨ b = P.exit then .ok ()
  else (live b).forM fun x => if s.parent.contains x then .ok () else .error .crash

/-- `live_places_row(succ, output_row, scope)` for every successor -/
def checkOutRows (P : Prog) (live : Blk → List Leaf) (b : Blk) (s : Scope) : R Unit :=
  (P.succ b).forM fun c =>
    if c = P.entry ∨ c = P.exit then .ok ()
    else (live c).forM fun x => if s.vars.contains x || s.parent.contains x then .ok () else .error .crash

/-- the body of `for bb, scope in scopes.items()`: the two checks, then the construction of the
    refined signature (which can only fail internally) -/
def checkEdges (P : Prog) (live : Blk → List Leaf) (b : Blk) (s : Scope) : R Unit := do
  (P.succ b).forM fun c => (live c).forM (checkLiveUsed P c s)
  -- the local places (kind of the stored place) …
  s.vars.forM (fun x => checkLeak P live b s (s.linVars.contains x) x)
  -- … then the places of the parent scope that this block does not reassign
  (s.parent.filter fun x => !s.vars.contains x).forM (fun x => checkLeak P live b s (s.linParent.contains x) x)
  checkInRow P live b s
  checkOutRows P live b s

/-- `live_default`: the borrowed leaves when the exit block is unreachable, else nothing -/
def liveDefault (P : Prog) : List Leaf := if P.exitReachable then [] else P.borrowedLeaves

/-- fuel for the worklist: `(|blocks|+1)² · (|init| + Σ|used b| + 1) + |blocks| + 1` pops always
    suffice (`liveRun_flow_isSome`, Lemmas/C06Flow.lean: the bound is above the one C09 proves
    sufficient, `liveBound`) -/
def liveFuel (g : Dataflow.Cfg) (init : List Leaf) : Nat :=
  let nb := g.blocks.length + 1
  let nl := (g.blocks.map fun b => (g.used b).length).sum + init.length + 1
  nb * nb * nl + nb

/-- the scheduler used by the executable model: pop the head of the list-queue (any choice
    gives the same result: `Dataflow.live_schedule_independent`) -/
def headSched : List Blk → Blk := fun q => q.headD 0

/-- `check_cfg_linearity`: `.ok ()` = accepted -/
def checkCfg (P : Prog) : R Unit := do
  let tbl ← scopes P
  let sc := lookup tbl
  let g := flowCfg P sc
  match Dataflow.liveRun g headSched (liveFuel g (liveDefault P)) (Dataflow.liveInit g (liveDefault P)) with
  | none => .error .fuel
  | some t => tbl.forM fun (b, s) => checkEdges P t.vals b s

/-- the place-level `live_before` that `checkCfg` computes on the way (for the correspondence:
    the real checker exposes it as the refined input rows of the result CFG) -/
def liveOf (P : Prog) : Option (List (Blk × List Leaf)) :=
  match scopes P with
  | .error _ => none
  | .ok tbl =>
    let g := flowCfg P (lookup tbl)
    match Dataflow.liveRun g headSched (liveFuel g (liveDefault P)) (Dataflow.liveInit g (liveDefault P)) with
    | none => none
    | some t => some (P.blocks.map fun b => (b, t.vals b))

/-- within a statement a leaf that occurs in some row (`rowIds`) is handed back only after it was
    lent; the fresh temporaries of subscript places occur in no row and are simply bound -/
def actsWf (rowIds : List Leaf) : List Leaf → List Act → Bool
  | _, [] => true
  | seen, .use p _ :: r => actsWf rowIds (seen ++ p.leaves.map (·.1)) r
  | seen, .give p :: r => p.leaves.all (fun xk => seen.contains xk.1 || !rowIds.contains xk.1) && actsWf rowIds seen r
  | seen, .dropAfter :: r => actsWf rowIds seen r
  | seen, .moveOut :: r => actsWf rowIds seen r

/-- the leaves that occur in a block signature or belong to a borrowed parameter -/
def Prog.rowIds (P : Prog) : List Leaf := P.borrowedLeaves ++ P.blocks.flatMap P.row

/-- executable form of `Prog.WF` (Spec/C06.lean): the shape of the CFGs the checker receives;
    the driver checks it on every extracted CFG -/
def Prog.wfb (P : Prog) : Bool :=
  -- a borrowed argument is handed back only after it was lent, within the same statement
  P.blocks.all (fun b => (P.stmts b).all fun st => actsWf P.rowIds [] st.acts) &&
  P.blocks.contains P.entry &&
  P.blocks.all (fun b => (P.succ b).all fun c => P.blocks.contains c) &&
  P.blocks.all (fun b => !(P.succ b).contains P.entry) &&
  (P.entry != P.exit) && (P.stmts P.exit).isEmpty && (P.succ P.exit).isEmpty &&
  P.blocks.all (fun b => b == P.exit || !(P.succ b).isEmpty)

/-- all leaf ids that occur in the program -/
def Prog.leafIds (P : Prog) : List Leaf :=
  let ofPlaces (ps : List Place) := ps.flatMap fun p => p.leaves.map (·.1)
  let ofAct : Act → List Leaf
    | .use p _ => p.leaves.map (·.1)
    | .give p => p.leaves.map (·.1)
    | .dropAfter => []
    | .moveOut => []
  P.borrowedLeaves ++ P.blocks.flatMap fun b =>
    P.row b ++ (P.stmts b).flatMap fun st => st.acts.flatMap ofAct ++ ofPlaces st.tgts

def accepts (P : Prog) : Bool :=
  match checkCfg P with
  | .ok _ => true
  | .error _ => false

end GuppyVerif.Linearity
