/-! Model of `guppylang_internals/diagnostic.py`: `wrap` (with the part of CPython's
    `textwrap.TextWrapper` that is reachable for the options the code passes:
    `break_long_words=False, break_on_hyphens=False`, everything else default),
    `DiagnosticsRenderer.render_snippet` / `render_diagnostic`, and the pieces of `span.py`
    they use (`Loc.shift_left`, `SourceMap.span_lines`, `to_span` with `_char_column`,
    `SourceMap.add_file` histories).

    Strings are `List Char`.  Character classes: the model distinguishes ASCII whitespace
    (`isWs`, the class of textwrap's regex and of `str.strip` on the generated alphabet) and the
    line boundaries of `str.splitlines` (`isBreak`).  Other Unicode whitespace (NBSP, U+2000…,
    `\x1f`) is outside the modelled alphabet (the tie never generates it).
    Import-free, executable, total. -/
namespace GuppyVerif.Render

abbrev Str := List Char

/-- textwrap's `_whitespace = '\t\n\x0b\x0c\r '` -/
def isWs (c : Char) : Bool :=
  c == ' ' || c == '\t' || c == '\n' || c == '\r' || c == '\x0b' || c == '\x0c'

/-- line boundaries of `str.splitlines()` -/
def isBreak (c : Char) : Bool :=
  c == '\n' || c == '\r' || c == '\x0b' || c == '\x0c' || c == '\x1c' || c == '\x1d' ||
  c == '\x1e' || c == '\u0085' || c == '\u2028' || c == '\u2029'

/-! ## `str.splitlines()` -/

/-- `cur` is the current line, reversed.  `\r\n` is one boundary; a trailing boundary does not
    open a new empty line. -/
def splitlinesAux : Str → Str → List Str
  | [], cur => if cur.isEmpty then [] else [cur.reverse]
  | [c], cur => if isBreak c then [cur.reverse] else [(c :: cur).reverse]
  | c :: d :: rest, cur =>
    if c == '\r' && d == '\n' then cur.reverse :: splitlinesAux rest []
    else if isBreak c then cur.reverse :: splitlinesAux (d :: rest) []
    else splitlinesAux (d :: rest) (c :: cur)

def splitlines (s : Str) : List Str := splitlinesAux s []

/-! ## `textwrap.wrap(paragraph, width, break_long_words=False, break_on_hyphens=False)` -/

/-- `str.expandtabs(8)`; `col` is the running column -/
def expandtabs : Str → Nat → Str
  | [], _ => []
  | c :: cs, col =>
    if c == '\t' then
      List.replicate (8 - col % 8) ' ' ++ expandtabs cs (col + (8 - col % 8))
    else if c == '\n' || c == '\r' then c :: expandtabs cs 0
    else c :: expandtabs cs (col + 1)

/-- `text.translate(unicode_whitespace_trans)` -/
def munge (s : Str) : Str := s.map fun c => if isWs c then ' ' else c

/-- `wordsep_simple_re.split(text)` without the empty strings: maximal runs of whitespace /
    non-whitespace characters, in order -/
def splitChunks : Str → List Str
  | [] => []
  | c :: cs =>
    match splitChunks cs with
    | (d :: ds) :: rest => if isWs c == isWs d then (c :: d :: ds) :: rest else [c] :: (d :: ds) :: rest
    | _ => [[c]]

/-- `chunk.strip() == ''` -/
def isBlank (c : Str) : Bool := c.all isWs

/-- inner `while chunks:` loop of `_wrap_chunks`: take chunks while they fit.
    Returns (chunks put on the line, remaining chunks). -/
def fill (width : Nat) : List Str → Nat → List Str × List Str
  | [], _ => ([], [])
  | c :: cs, curLen =>
    if curLen + c.length ≤ width then
      let r := fill width cs (curLen + c.length)
      (c :: r.1, r.2)
    else ([], c :: cs)

theorem fill_append (width : Nat) (cs : List Str) (n : Nat) :
    (fill width cs n).1 ++ (fill width cs n).2 = cs := by
  induction cs generalizing n with
  | nil => rfl
  | cons c cs ih =>
    unfold fill
    split
    · exact congrArg (c :: ·) (ih _)
    · rfl

/-- `if cur_line and cur_line[-1].strip() == '': del cur_line[-1]` -/
def dropLastBlank (cur : List Str) : List Str :=
  match cur.getLast? with
  | some l => if isBlank l then cur.dropLast else cur
  | none => cur

/-- inner loop plus `_handle_long_word` with break_long_words=False (a too-long chunk is
    put on the line only if nothing is on the line yet) -/
def stepCore (width : Nat) (chunks : List Str) : List Str × List Str :=
  let r := fill width chunks 0
  match r.2 with
  | x :: xs => if width < x.length ∧ r.1.isEmpty then ([x], xs) else r
  | [] => r

/-- one iteration of the outer `while chunks:` loop on a non-empty chunk list: returns the
    chunks of the finished line (possibly empty) and the remaining chunks.
    `haveLines` = `bool(lines)`. -/
def stepLine (width : Nat) (c : Str) (cs : List Str) (haveLines : Bool) : List Str × List Str :=
  -- drop_whitespace: first chunk on a line (not the first line) is whitespace
  let chunks := if isBlank c && haveLines then cs else c :: cs
  let r := stepCore width chunks
  (dropLastBlank r.1, r.2)

theorem stepCore_append (width : Nat) (ch : List Str) :
    (stepCore width ch).1 ++ (stepCore width ch).2 = ch := by
  unfold stepCore
  simp only
  have h := fill_append width ch 0
  split
  · rename_i x xs hx
    split
    · rename_i hc
      rwa [List.isEmpty_iff.mp hc.2, hx] at h
    · exact h
  · exact h

/-- a started line takes at least one chunk, a too-long one if need be -/
theorem stepCore_fst_ne_nil (width : Nat) (y : Str) (ys : List Str) :
    (stepCore width (y :: ys)).1 ≠ [] := by
  unfold stepCore
  by_cases hfit : y.length ≤ width
  · have e : fill width (y :: ys) 0 = (y :: (fill width ys y.length).1, (fill width ys y.length).2) := by
      simp [fill, hfit]
    rw [e]
    simp only
    split <;> simp
  · have e : fill width (y :: ys) 0 = ([], y :: ys) := by simp [fill, hfit]
    rw [e]
    simp [Nat.lt_of_not_le hfit]

theorem stepLine_decreases (width : Nat) (c : Str) (cs : List Str) (b : Bool) :
    (stepLine width c cs b).2.length < (c :: cs).length := by
  unfold stepLine
  simp only
  split
  · have := congrArg List.length (stepCore_append width cs)
    simp only [List.length_append] at this
    simp only [List.length_cons]
    omega
  · have := congrArg List.length (stepCore_append width (c :: cs))
    have := List.length_pos_iff.mpr (stepCore_fst_ne_nil width c cs)
    simp only [List.length_append] at *
    omega

/-- `_wrap_chunks` (drop_whitespace=True, max_lines=None, empty indents, width > 0) -/
def wrapChunks (width : Nat) (chunks : List Str) (haveLines : Bool) : List Str :=
  match chunks with
  | [] => []
  | c :: cs =>
    let r := stepLine width c cs haveLines
    if r.1.isEmpty then wrapChunks width r.2 haveLines
    else r.1.flatten :: wrapChunks width r.2 true
termination_by chunks.length
decreasing_by
  all_goals exact stepLine_decreases width c cs haveLines

/-- `textwrap.wrap(paragraph, width, break_long_words=False, break_on_hyphens=False)` -/
def textwrap (width : Nat) (para : Str) : List Str :=
  wrapChunks width (splitChunks (munge (expandtabs para 0))) false

/-- `xs or [""]` -/
def orEmptyLine : List Str → List Str
  | [] => [[]]
  | ls => ls

/-- the list comprehension of `diagnostic.wrap` (after the fixes: empty text and blank
    paragraphs yield one empty line) -/
def wrapLines (text : Str) (width : Nat) : List Str :=
  (orEmptyLine (splitlines text)).flatMap fun p => orEmptyLine (textwrap width p)

inductive Err where
  | assertion   -- AssertionError (Loc.shift_left)
  | internal    -- InternalGuppyError (Span.__post_init__)
  | value       -- ValueError (sequence unpacking, min() of an empty sequence)
  | key         -- KeyError (`SourceMap.sources[span.file]` for an unregistered file)
  deriving DecidableEq, Repr

/-- `diagnostic.wrap(text, width, initial_indent, subsequent_indent)` -/
def wrap (text : Str) (width : Nat) (initialIndent subsequentIndent : Str) : Except Err (List Str) :=
  match wrapLines text width with
  | [] => .error .value
  | first :: rest => .ok ((initialIndent ++ first) :: rest.map (subsequentIndent ++ ·))

/-! ## `render_snippet` -/

structure Loc where
  line : Nat
  col : Nat
  deriving DecidableEq, Repr

/-- a `Span` of one file; `Span.__post_init__` guarantees `start ≤ stop` (inputs are
    constructed spans, so this is an input invariant, see `Span.Valid` in the spec) -/
structure Span where
  start : Loc
  stop : Loc
  deriving DecidableEq, Repr

/-- `str(n)` for a non-negative int -/
def digits (n : Nat) : Str :=
  if h : n < 10 then [Char.ofNat (48 + n)]
  else digits (n / 10) ++ [Char.ofNat (48 + n % 10)]
termination_by n
decreasing_by omega

/-- `render_line`: `" " * (ll_length - len(ll)) + ll + " | " + line` -/
def renderLine (ll : Nat) (line : Str) (num : Option Nat) : Str :=
  let g := match num with
    | none => []
    | some n => digits n
  List.replicate (ll - g.length) ' ' ++ g ++ [' ', '|', ' '] ++ line

/-- `len(line) - len(line.lstrip())` -/
def leadingWs (l : Str) : Nat := (l.takeWhile isWs).length

/-- `xs[a:b]` for `0 ≤ a` -/
def pySlice (xs : List α) (a b : Nat) : List α := (xs.take b).drop a

/-- `min(...)` of a sequence; `none` = ValueError on the empty sequence -/
def minList : List Nat → Option Nat
  | [] => none
  | x :: xs => match minList xs with
    | none => some x
    | some m => some (if m < x then m else x)

def MAX_LEADING_WHITESPACE : Nat := 12
def OPTIMAL_LEADING_WHITESPACE : Nat := 4
def MAX_LABEL_LINE_LEN : Nat := 60
def MAX_MESSAGE_LINE_LEN : Nat := 80
def PREFIX_CONTEXT_LINES : Nat := 2

/-- lines to show and the span after indentation trimming -/
structure Prep where
  pl : Nat            -- number of prefix lines
  remove : Nat        -- columns removed from every line
  all : List Str      -- prefix lines ++ span lines, trimmed
  span : Span         -- shifted span
  deriving Repr

/-- first part of `render_snippet`: grab lines, trim excessive common indentation, shift the span.
    Requires `span.start.line ≥ 1` (Python would compute a negative `prefix_lines` otherwise). -/
def prepare (src : List Str) (span : Span) (prefixLines : Nat) : Except Err Prep := do
  let pl := min prefixLines (span.start.line - 1)
  let all := pySlice src (span.start.line - pl - 1) span.stop.line
  match minList (all.map leadingWs) with
  | none => .error .value
  | some lw =>
    if lw > MAX_LEADING_WHITESPACE then
      let remove := lw - OPTIMAL_LEADING_WHITESPACE
      -- span.shift_left(remove): start first, then end
      if span.start.col < remove then .error .assertion
      else if span.stop.col < remove then .error .assertion
      else .ok ⟨pl, remove, all.map (·.drop remove),
                ⟨⟨span.start.line, span.start.col - remove⟩, ⟨span.stop.line, span.stop.col - remove⟩⟩⟩
    else .ok ⟨pl, 0, all, span⟩

/-- `enumerate(all_lines[:prefix_lines])` rendering -/
def renderPrefix (ll : Nat) (startLine pl : Nat) : List Str → Nat → List Str
  | [], _ => []
  | l :: ls, i => renderLine ll l (some (startLine - pl + i)) :: renderPrefix ll startLine pl ls (i + 1)

/-- highlight banner `" " * a + ch * (b - a)` -/
def highlight (ch : Char) (a b : Nat) : Str := List.replicate a ' ' ++ List.replicate (b - a) ch

/-- last part of `render_snippet`: highlight line of the last span line plus the label -/
def renderLabel (ll : Nat) (lastHighlight : Str) (label : Option Str) : Except Err (List Str) :=
  match label with
  | some (c :: cs) => do
    let ls ← wrap (c :: cs) MAX_LABEL_LINE_LEN [' '] (List.replicate (lastHighlight.length + 1) ' ')
    match ls with
    | [] => .error .value
    | first :: rest => .ok (renderLine ll (lastHighlight ++ first) none :: rest.map (renderLine ll · none))
  | _ => .ok [renderLine ll lastHighlight none]

def renderSnippet (src : List Str) (span0 : Span) (label : Option Str) (maxLineno : Nat)
    (isPrimary : Bool) (prefixLines : Nat) : Except Err (List Str) := do
  let ll := (digits maxLineno).length
  let hl := if isPrimary then '^' else '-'
  let pad := renderLine ll [] none
  let p ← prepare src span0 prefixLines
  let span := p.span
  let pre := renderPrefix ll span.start.line p.pl (p.all.take p.pl) 0
  let spanLines := p.all.drop p.pl
  if span.start.line ≠ span.stop.line then
    -- [first, *middle, last] = span_lines
    match spanLines with
    | first :: m :: rest =>
      let middle := (m :: rest).dropLast
      let last := (m :: rest).getLast (by simp)
      -- first_span = Span(span.start, Loc(file, span.start.line, len(first)))
      if first.length < span.start.col then .error .internal
      else
        let firstHl := highlight hl span.start.col first.length
        let dots := if middle.isEmpty then [] else [renderLine ll ['.', '.', '.'] none]
        let lab ← renderLabel ll (highlight hl 0 span.stop.col) label
        .ok ([pad] ++ pre ++ [renderLine ll first (some span.start.line), renderLine ll firstHl none]
              ++ dots ++ [renderLine ll last (some span.stop.line)] ++ lab)
    | _ => .error .value
  else
    match spanLines with
    | [last] =>
      let lab ← renderLabel ll (highlight hl span.start.col span.stop.col) label
      .ok ([pad] ++ pre ++ [renderLine ll last (some span.stop.line)] ++ lab)
    | _ => .error .value

/-! ## `render_diagnostic` -/

inductive Level where
  | fatal | error | warning | note | help
  deriving DecidableEq, Repr

/-- `level.name.lower().capitalize()` -/
def levelStr : Level → Str
  | .fatal => "Fatal".toList
  | .error => "Error".toList
  | .warning => "Warning".toList
  | .note => "Note".toList
  | .help => "Help".toList

structure SubDiag where
  level : Level
  span : Option Span
  label : Option Str      -- rendered_span_label
  message : Option Str    -- rendered_message
  deriving Repr

structure Diag where
  level : Level
  span : Option Span
  title : Str
  label : Option Str
  message : Option Str
  children : List SubDiag
  deriving Repr

/-- Python truthiness of `str | None` -/
def truthy : Option Str → Option Str
  | some (c :: cs) => some (c :: cs)
  | _ => none

def maxList : List Nat → Nat
  | [] => 0
  | x :: xs => max x (maxList xs)

/-- snippets of the children that have a span -/
def renderChildSnippets (src : List Str) (maxLineno : Nat) : List SubDiag → Except Err (List Str)
  | [] => .ok []
  | c :: cs =>
    match c.span with
    | some s => do
      let a ← renderSnippet src s c.label maxLineno false 0
      let b ← renderChildSnippets src maxLineno cs
      .ok (a ++ b)
    | none => renderChildSnippets src maxLineno cs

/-- messages of the children that have one -/
def renderChildMessages : List SubDiag → Except Err (List Str)
  | [] => .ok []
  | c :: cs =>
    match truthy c.message with
    | some m => do
      let a ← wrap (levelStr c.level ++ [':', ' '] ++ m) MAX_MESSAGE_LINE_LEN [] []
      let b ← renderChildMessages cs
      .ok ([] :: a ++ b)
    | none => renderChildMessages cs

/-- `render_diagnostic`; `file` is `str(span.start.file)` as printed in the title line -/
def renderDiagnostic (file : Str) (src : List Str) (d : Diag) : Except Err (List Str) := do
  let head ← match d.span with
    | none =>
      let msg := (truthy d.message).getD d.title
      wrap (levelStr d.level ++ [':', ' '] ++ msg) MAX_MESSAGE_LINE_LEN [] []
    | some span => do
      let childSpans := d.children.filterMap (·.span)
      let maxLineno := maxList ((span :: childSpans).map (·.stop.line))
      let titleLine := levelStr d.level ++ [':', ' '] ++ d.title ++ " (at ".toList ++ file ++ [':']
        ++ digits span.start.line ++ [':'] ++ digits span.start.col ++ [')']
      let main ← renderSnippet src span d.label maxLineno true PREFIX_CONTEXT_LINES
      let subs ← renderChildSnippets src maxLineno d.children
      let msg ← match truthy d.message with
        | some m => do
          let w ← wrap m MAX_MESSAGE_LINE_LEN [] []
          .ok ([] :: w)
        | none => .ok []
      .ok (titleLine :: main ++ subs ++ msg)
  let tail ← renderChildMessages d.children
  .ok (head ++ tail)

/-! ## `span.to_span`: byte offsets of AST nodes to character columns (`_char_column`) -/

/-- `len(c.encode("utf-8"))` -/
def utf8Len (c : Char) : Nat :=
  if c.val < 0x80 then 1 else if c.val < 0x800 then 2 else if c.val < 0x10000 then 3 else 4

/-- `len(text.encode("utf-8"))` -/
def utf8Bytes : Str → Nat
  | [] => 0
  | c :: cs => utf8Len c + utf8Bytes cs

/-- `len(raw[:b].decode("utf-8", errors="ignore"))`: number of characters that lie completely
    within the first `b` bytes -/
def prefixChars : Str → Nat → Nat
  | [], _ => 0
  | c :: cs, b => if utf8Len c ≤ b then 1 + prefixChars cs (b - utf8Len c) else 0

/-- `str.isascii()` -/
def isAscii (s : Str) : Bool := s.all fun c => c.val < 0x80

/-- `_char_column`, given the text of the source line -/
def charColumn (text : Str) (byteOffset : Nat) : Nat :=
  if isAscii text then byteOffset
  else if byteOffset > utf8Bytes text then byteOffset
  else prefixChars text byteOffset

/-- `to_span` for a node with positions `(lineno, col_offset, end_lineno, end_col_offset)` (already
    absolute lines); `src` = `linecache.getlines(file)` (lines *with* their terminators).
    (The `end_col_offset or col_offset` / `end_lineno or lineno` fallbacks for `None`/0 are applied.) -/
def toSpan (src : List Str) (l1 b1 l2 b2 : Nat) : Span :=
  let l2' := if l2 = 0 then l1 else l2
  let b2' := if b2 = 0 then b1 else b2
  ⟨⟨l1, charColumn (src.getD (l1 - 1) []) b1⟩, ⟨l2', charColumn (src.getD (l2' - 1) []) b2'⟩⟩

/-! ## `SourceMap`: registrations over time -/

/-- `str.isspace` on the modelled alphabet -/
def isSpace (c : Char) : Bool := isWs c || isBreak c

/-- `line.rstrip()` -/
def rstrip (s : Str) : Str := (s.reverse.dropWhile isSpace).reverse

/-- one call of `SourceMap.add_file` -/
inductive SrcOp where
  /-- `add_file(file)`: reads `linecache.getlines(file)` (given: the lines with terminators) -/
  | cache (file : Str) (lines : List Str)
  /-- `add_file(file, content)` -/
  | content (file : Str) (text : Str)
  deriving Repr

def SrcOp.file : SrcOp → Str
  | .cache f _ => f
  | .content f _ => f

/-- the list stored in `sources[file]` by this call -/
def SrcOp.stored : SrcOp → List Str
  | .cache _ ls => ls.map rstrip
  | .content _ t => splitlines t

/-- `SourceMap.sources` as an association list (first match wins) -/
abbrev SourceMap := List (Str × List Str)

def SourceMap.lookup (m : SourceMap) (file : Str) : Option (List Str) :=
  match m with
  | [] => none
  | (f, ls) :: rest => if f = file then some ls else SourceMap.lookup rest file

/-- `self.sources[file] = ...`: always overwrites -/
def SourceMap.addFile (m : SourceMap) (op : SrcOp) : SourceMap := (op.file, op.stored) :: m

def SourceMap.applyOps (m : SourceMap) (ops : List SrcOp) : SourceMap := ops.foldl SourceMap.addFile m

/-- `render_snippet` on a renderer whose source map saw `ops` (in this order) -/
def renderIn (ops : List SrcOp) (file : Str) (span : Span) (label : Option Str) (maxLineno : Nat)
    (isPrimary : Bool) (prefixLines : Nat) : Except Err (List Str) :=
  match (SourceMap.applyOps [] ops).lookup file with
  | none => .error .key
  | some src => renderSnippet src span label maxLineno isPrimary prefixLines

end GuppyVerif.Render
