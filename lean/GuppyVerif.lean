-- generated by bin/mkmanifest: every model, lemma, spec and property module
import GuppyVerif.Gen.C02InternalSites
import GuppyVerif.Gen.C04NumTable
import GuppyVerif.Gen.C10SetSites
import GuppyVerif.Gen.C11Config
import GuppyVerif.Gen.C14TypeDefs
import GuppyVerif.Gen.C16Coerce
import GuppyVerif.Gen.C19Lowering
import GuppyVerif.Gen.C20GateTable
import GuppyVerif.Gen.C21DunderMixin
import GuppyVerif.Gen.C22FrozenList
import GuppyVerif.Gen.C32SyntaxCoverage
import GuppyVerif.Gen.C33GateSites
import GuppyVerif.Lemmas.Basic
import GuppyVerif.Lemmas.C01
import GuppyVerif.Lemmas.C01Acct
import GuppyVerif.Lemmas.C01LeavesOnly
import GuppyVerif.Lemmas.C01Store
import GuppyVerif.Lemmas.C01StoreSub
import GuppyVerif.Lemmas.C01VarIdx
import GuppyVerif.Lemmas.C02
import GuppyVerif.Lemmas.C02Guards
import GuppyVerif.Lemmas.C03BuildCfg
import GuppyVerif.Lemmas.C03CfgShape
import GuppyVerif.Lemmas.C03Eval
import GuppyVerif.Lemmas.C03ExprSem
import GuppyVerif.Lemmas.C03ExprShape
import GuppyVerif.Lemmas.C03For
import GuppyVerif.Lemmas.C03Fuel
import GuppyVerif.Lemmas.C03Grow
import GuppyVerif.Lemmas.C03State
import GuppyVerif.Lemmas.C03StmtSem
import GuppyVerif.Lemmas.C03StmtShape
import GuppyVerif.Lemmas.C03Wiring
import GuppyVerif.Lemmas.C04Rows
import GuppyVerif.Lemmas.C05Order
import GuppyVerif.Lemmas.C06Complete
import GuppyVerif.Lemmas.C06Crash
import GuppyVerif.Lemmas.C06Flow
import GuppyVerif.Lemmas.C06Leaf
import GuppyVerif.Lemmas.C06Pass1
import GuppyVerif.Lemmas.C06Sound
import GuppyVerif.Lemmas.C06WF
import GuppyVerif.Lemmas.C07
import GuppyVerif.Lemmas.C07Container
import GuppyVerif.Lemmas.C07Place
import GuppyVerif.Lemmas.C07Sim
import GuppyVerif.Lemmas.C07Wire
import GuppyVerif.Lemmas.C08Bfs
import GuppyVerif.Lemmas.C08Entry
import GuppyVerif.Lemmas.C08Rows
import GuppyVerif.Lemmas.C08Term
import GuppyVerif.Lemmas.C09Assign
import GuppyVerif.Lemmas.C09Live
import GuppyVerif.Lemmas.C09Term
import GuppyVerif.Lemmas.C09Worklist
import GuppyVerif.Lemmas.C10
import GuppyVerif.Lemmas.C11
import GuppyVerif.Lemmas.C12
import GuppyVerif.Lemmas.C12CheckAgainst
import GuppyVerif.Lemmas.C12Complete
import GuppyVerif.Lemmas.C12Fuel
import GuppyVerif.Lemmas.C12GenCall
import GuppyVerif.Lemmas.C12GenCallCompl
import GuppyVerif.Lemmas.C12Lin
import GuppyVerif.Lemmas.C12Passes
import GuppyVerif.Lemmas.C12Sound
import GuppyVerif.Lemmas.C12Unif
import GuppyVerif.Lemmas.C13Compose
import GuppyVerif.Lemmas.C13Kept
import GuppyVerif.Lemmas.C13Loop
import GuppyVerif.Lemmas.C13Mono
import GuppyVerif.Lemmas.C14Basic
import GuppyVerif.Lemmas.C14Closed
import GuppyVerif.Lemmas.C14Flags
import GuppyVerif.Lemmas.C14Rel
import GuppyVerif.Lemmas.C14Subst
import GuppyVerif.Lemmas.C15
import GuppyVerif.Lemmas.C16
import GuppyVerif.Lemmas.C17
import GuppyVerif.Lemmas.C18
import GuppyVerif.Lemmas.C19
import GuppyVerif.Lemmas.C20
import GuppyVerif.Lemmas.C21
import GuppyVerif.Lemmas.C22
import GuppyVerif.Lemmas.C23
import GuppyVerif.Lemmas.C24
import GuppyVerif.Lemmas.C25
import GuppyVerif.Lemmas.C26
import GuppyVerif.Lemmas.C27
import GuppyVerif.Lemmas.C27Heap
import GuppyVerif.Lemmas.C27PQ
import GuppyVerif.Lemmas.C28
import GuppyVerif.Lemmas.C29
import GuppyVerif.Lemmas.C29Snippet
import GuppyVerif.Lemmas.C29ToSpan
import GuppyVerif.Lemmas.C30
import GuppyVerif.Lemmas.C31
import GuppyVerif.Lemmas.C31Names
import GuppyVerif.Lemmas.C32
import GuppyVerif.Lemmas.C33
import GuppyVerif.Lemmas.C33Closure
import GuppyVerif.Lemmas.IntSem
import GuppyVerif.Lemmas.NumEval
import GuppyVerif.Model.Angle
import GuppyVerif.Model.ArraySem
import GuppyVerif.Model.Builder
import GuppyVerif.Model.C21Dispatch
import GuppyVerif.Model.C21Return
import GuppyVerif.Model.C32Coverage
import GuppyVerif.Model.Check02
import GuppyVerif.Model.ClosureGate
import GuppyVerif.Model.Coerce
import GuppyVerif.Model.Coll
import GuppyVerif.Model.CopyDrop
import GuppyVerif.Model.DFVarIdx
import GuppyVerif.Model.DFWiring
import GuppyVerif.Model.Dataflow
import GuppyVerif.Model.Determ
import GuppyVerif.Model.EmuConfig
import GuppyVerif.Model.FeatureGate
import GuppyVerif.Model.Gate
import GuppyVerif.Model.GateOrder
import GuppyVerif.Model.GenCall
import GuppyVerif.Model.Instantiate
import GuppyVerif.Model.IntLit
import GuppyVerif.Model.IntSem
import GuppyVerif.Model.Linearity
import GuppyVerif.Model.MockBuiltins
import GuppyVerif.Model.Modifier
import GuppyVerif.Model.NumEval
import GuppyVerif.Model.OrderEdges
import GuppyVerif.Model.Overload
import GuppyVerif.Model.Places
import GuppyVerif.Model.Print
import GuppyVerif.Model.Pytket
import GuppyVerif.Model.Range
import GuppyVerif.Model.Render
import GuppyVerif.Model.Scope
import GuppyVerif.Model.Session
import GuppyVerif.Model.Span
import GuppyVerif.Model.Surface
import GuppyVerif.Model.TraceOwn
import GuppyVerif.Model.Ty
import GuppyVerif.Model.Unify
import GuppyVerif.Model.Unitary
import GuppyVerif.Model.UseDef
import GuppyVerif.Model.Wiring
import GuppyVerif.Props.C01
import GuppyVerif.Props.C02
import GuppyVerif.Props.C03
import GuppyVerif.Props.C04
import GuppyVerif.Props.C05
import GuppyVerif.Props.C06
import GuppyVerif.Props.C07
import GuppyVerif.Props.C08
import GuppyVerif.Props.C09
import GuppyVerif.Props.C10
import GuppyVerif.Props.C11
import GuppyVerif.Props.C12
import GuppyVerif.Props.C13
import GuppyVerif.Props.C14
import GuppyVerif.Props.C15
import GuppyVerif.Props.C16
import GuppyVerif.Props.C17
import GuppyVerif.Props.C18
import GuppyVerif.Props.C19
import GuppyVerif.Props.C20
import GuppyVerif.Props.C21
import GuppyVerif.Props.C22
import GuppyVerif.Props.C23
import GuppyVerif.Props.C24
import GuppyVerif.Props.C25
import GuppyVerif.Props.C26
import GuppyVerif.Props.C27
import GuppyVerif.Props.C28
import GuppyVerif.Props.C29
import GuppyVerif.Props.C30
import GuppyVerif.Props.C31
import GuppyVerif.Props.C32
import GuppyVerif.Props.C33
import GuppyVerif.Props.C33Closure
import GuppyVerif.Props.C33GateOrder
import GuppyVerif.Spec.C01
import GuppyVerif.Spec.C02
import GuppyVerif.Spec.C03
import GuppyVerif.Spec.C06
import GuppyVerif.Spec.C07
import GuppyVerif.Spec.C08
import GuppyVerif.Spec.C09
import GuppyVerif.Spec.C10
import GuppyVerif.Spec.C11
import GuppyVerif.Spec.C12
import GuppyVerif.Spec.C13
import GuppyVerif.Spec.C14
import GuppyVerif.Spec.C15
import GuppyVerif.Spec.C16
import GuppyVerif.Spec.C17
import GuppyVerif.Spec.C18
import GuppyVerif.Spec.C19
import GuppyVerif.Spec.C20
import GuppyVerif.Spec.C21
import GuppyVerif.Spec.C22
import GuppyVerif.Spec.C23
import GuppyVerif.Spec.C24
import GuppyVerif.Spec.C25
import GuppyVerif.Spec.C26
import GuppyVerif.Spec.C27
import GuppyVerif.Spec.C28
import GuppyVerif.Spec.C29
import GuppyVerif.Spec.C30
import GuppyVerif.Spec.C31
import GuppyVerif.Spec.C32
import GuppyVerif.Spec.C33
import GuppyVerif.Spec.C33Closure
import GuppyVerif.Util.Sexp
